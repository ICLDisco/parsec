import ParsecVerif.Proofs.DepWordMask
/-!
# C07 — a task becomes ready exactly once, when its last input arrives

Counter mode: `n = goal ≥ 1` predecessors each run `parsec_update_deps_with_counter` once, under
ANY interleaving of their atomic steps.  Exactly one call returns "ready", and when it does every
other call has already returned (so all inputs have been released).  The goal is taken to be the number
of calls: no theorem speaks of `goalCounter`/`counterOf` (the goal computed from a list of flows), which
only the driver (`Driver/C07.lean`) uses.

Mask mode: one predecessor per entry of `bits` runs
`parsec_update_deps_with_mask` once (plain read of the word, then one atomic fetch-or), under ANY
interleaving; same statement for the fetch-or results.  Invariant in `Proofs/DepWordMask.lean`.

The statement itself, `DepWord.Once`, and how one returning call preserves it, is in `Proofs/DepWord.lean`.
-/
namespace ParsecVerif.C07
open ParsecVerif.DepWord ParsecVerif.Interleave

def cS (s : CState) := s.pcs.count .start
def cC (s : CState) := s.pcs.count .cas
-- number of `parsec_update_deps_with_counter` calls that reported "ready"
def cT (s : CState) := s.pcs.count (.done true)

def returned : Pc → Bool
  | .done _ => true | _ => false

def nret (s : CState) : Nat := s.pcs.countP returned

theorem returned_iff (pc : Pc) : returned pc = true ↔ ∃ b, pc = .done b := by
  cases pc <;> simp [returned]

theorem ne_done {pc : Pc} (h : returned pc = false) (b : Bool) : pc ≠ .done b :=
  fun e => by rw [e] at h; cases h

def allDone (s : CState) : Prop := ∀ pc ∈ s.pcs, ∃ b, pc = .done b

theorem allDone_iff (s : CState) : allDone s ↔ nret s = s.pcs.length := by
  simp only [allDone, nret, List.countP_eq_length, returned_iff]

theorem nret_lt {s : CState} {t : Nat} {x : Pc} (hx : s.pcs[t]? = some x) (hxd : returned x = false) :
    nret s < s.pcs.length :=
  Nat.lt_of_le_of_ne List.countP_le_length fun e =>
    ((allDone_iff s).2 e x (List.mem_of_getElem? hx)).elim (ne_done hxd)

theorem nret_set {s : CState} {t : Nat} {x : Pc} (hx : s.pcs[t]? = some x) (hxd : returned x = false) (w : Int) (y : Pc) :
    nret ⟨w, s.pcs.set t y⟩ = nret s + if returned y then 1 else 0 := by
  simpa [nret, hxd] using countP_set_of_getElem? returned hx y

/-- Counter abstraction over the number of calls that have returned: before the first successful CAS (the first
    return) the word is 0 and nobody went past the CAS; afterwards `w = n − #returned`. -/
structure CInv (n : Nat) (s : CState) : Prop where
  len : s.pcs.length = n
  once : Once Pc.done s.pcs
  unarmed : nret s = 0 → s.w = 0 ∧ Pc.dec ∉ s.pcs
  armed : nret s ≠ 0 → s.w = (n : Int) - (nret s : Int)

theorem cinv_init (n : Nat) (hn : 1 ≤ n) : CInv n (cinit n) :=
  have h0 : nret (cinit n) = 0 := by simp [nret, cinit, returned]
  ⟨List.length_replicate, Once.replicate (ne_done rfl) hn, fun _ => ⟨rfl, by simp [cinit]⟩, fun h => absurd h0 h⟩

theorem CInv.move {n : Nat} {s : CState} {t : Nat} {x : Pc} (h : CInv n s) (hx : s.pcs[t]? = some x) (y : Pc)
    (hxd : returned x = false) (hyd : returned y = false) (hdec : s.w = 0 → y ≠ .dec) :
    CInv n { s with pcs := s.pcs.set t y } := by
  have hn : nret { s with pcs := s.pcs.set t y } = nret s := by rw [nret_set hx hxd, hyd]; rfl
  refine ⟨by simp [h.len], h.once.set_move hx (ne_done hxd) y (ne_done hyd), fun h0 => ?_, fun h0 => ?_⟩
  · obtain ⟨hw, hd⟩ := h.unarmed (hn ▸ h0)
    exact ⟨hw, fun hm => (List.mem_or_eq_of_mem_set hm).elim hd fun e => hdec hw e.symm⟩
  · rw [hn] at h0 ⊢; exact h.armed h0

/-- The successful CAS (first return, `n − 1`) and every decrement are of this form. -/
theorem CInv.ret {n : Nat} {s : CState} {t : Nat} {x : Pc} (h : CInv n s) (hx : s.pcs[t]? = some x)
    (hxd : returned x = false) (w : Int) (hw : w = (n : Int) - ((nret s + 1 : Nat) : Int))
    (b : Bool) (hb : b = true ↔ w = 0) : CInv n { w := w, pcs := s.pcs.set t (.done b) } := by
  have hlt := h.len ▸ nret_lt hx hxd
  have hn : nret ⟨w, s.pcs.set t (.done b)⟩ = nret s + 1 := nret_set hx hxd w _
  refine ⟨by simp [h.len], h.once.set hx (ne_done hxd) _ ?_, fun h0 => by omega, fun _ => hn ▸ hw⟩
  -- "ready" iff the word is 0 iff this was the last of the `n` calls
  have := allDone_iff ⟨w, s.pcs.set t (.done b)⟩
  simp only [allDone, List.length_set, h.len, hn] at this
  rw [this, Pc.done.injEq, hb]
  omega

theorem cinv_step (n : Nat) (s : CState) (t : Nat) (h : CInv n s) : CInv n (cstep n s t) := by
  unfold cstep
  cases hpc : s.pcs[t]? with
  | none => exact h
  | some pc =>
    cases pc with
    | done b => exact h
    | start => exact h.move hpc _ rfl (by split <;> rfl) (fun hw => by simp [hw])
    | cas =>
      show CInv n (if s.w = 0 then _ else _)
      split
      · next hw =>
        -- the word is 0 and somebody has not returned: the word is not armed yet
        have hlt := h.len ▸ nret_lt hpc rfl
        have h0 : nret s = 0 := Decidable.byContradiction fun h0 => by
          have := h.armed h0; omega
        exact h.ret hpc rfl _ (by rw [h0]; rfl) _ (by simp)
      · next hw => exact h.move hpc .dec rfl rfl (fun h0 => absurd h0 hw)
    | dec =>
      -- somebody is at the decrement: the word is armed
      have h0 : nret s ≠ 0 := fun h0 => (h.unarmed h0).2 (List.mem_of_getElem? hpc)
      exact h.ret hpc rfl _ (by rw [h.armed h0]; omega) _ (by simp)

theorem cinv_run (n : Nat) (hn : 1 ≤ n) (sched : List Nat) : CInv n (crun n n sched) :=
  foldl_inv (cinv_step n) sched (cinv_init n hn)

/-- **C07, counter mode.**  For every goal `n ≥ 1` and every interleaving of the `n` releasing
    calls: at most one call has returned "ready"; if one has, every call has already returned
    (all inputs were released before the task was declared ready); and once all calls have
    returned, exactly one returned "ready". -/
theorem counter_exactly_once (n : Nat) (hn : 1 ≤ n) (sched : List Nat) :
    cT (crun n n sched) ≤ 1 ∧ (cT (crun n n sched) = 1 → allDone (crun n n sched)) ∧
    (allDone (crun n n sched) → cT (crun n n sched) = 1) :=
  have h := (cinv_run n hn sched).once
  ⟨h.1, h.2.1, h.2.2⟩

/-- under every interleaving the dependency word stays in `0..n` -/
theorem counter_word (n : Nat) (hn : 1 ≤ n) (sched : List Nat) :
    0 ≤ (crun n n sched).w ∧ (crun n n sched).w ≤ n := by
  have h := cinv_run n hn sched
  generalize crun n n sched = s at h
  have hle : nret s ≤ n := h.len ▸ List.countP_le_length
  by_cases h0 : nret s = 0
  · have := (h.unarmed h0).1; omega
  · have := h.armed h0; omega

/-- a step of a call of `parsec_update_deps_with_counter` that has not returned moves its program point: no call spins -/
theorem counter_step_progress (goal : Int) (s : CState) (t : Nat) (pc : Pc) (h : s.pcs[t]? = some pc)
    (hnd : ∀ b, pc ≠ .done b) : (cstep goal s t).pcs[t]? ≠ some pc := by
  have hi := (List.getElem?_eq_some_iff.1 h).1
  unfold cstep
  cases pc with
  | done b => exact absurd rfl (hnd b)
  | start => simp only [h, List.getElem?_set_self hi]; split <;> simp
  | cas => simp only [h]; split <;> simp [List.getElem?_set_self hi]
  | dec => simp [h, List.getElem?_set_self hi]

/-! Non-vacuity: a concrete interleaving in which the CAS of thread 0 races with thread 1's read. -/
example : (crun 3 3 [0, 1, 1, 0, 2, 2, 0]).pcs = [.done true, .done false, .done false] ∧ (crun 3 3 [0, 1, 1, 0, 2, 2, 0]).w = 0 := by
  decide

open ParsecVerif.DepWordMask

/-- number of `parsec_update_deps_with_mask` calls that reported "ready" -/
def mT (s : MState) := s.pcs.count (.done true)

def mAllDone (s : MState) : Prop := ∀ pc ∈ s.pcs, ∃ b, pc = .done b

/-- **C07, mask mode.**  For all masks satisfying `MaskOK` (what the generator guarantees,
    `DepWordMask.maskOK_of_flows`) and every interleaving of the plain reads and atomic fetch-ors of
    the `bits.length` releasing calls: at most one call has returned "ready"; if one has, every call
    has already returned; and once all calls have returned, exactly one returned "ready". -/
theorem mask_exactly_once (im g : Nat) (bits : List Nat) (ok : MaskOK im g bits) (sched : List Nat) :
    mT (mrun im g bits sched) ≤ 1 ∧ (mT (mrun im g bits sched) = 1 → mAllDone (mrun im g bits sched)) ∧
    (mAllDone (mrun im g bits sched) → mT (mrun im g bits sched) = 1) :=
  have h := (minv_run ok sched).once
  ⟨h.1, h.2.1, h.2.2⟩

/-- the word never contains a bit outside IN_DONE ∪ IN mask ∪ released flows -/
theorem mask_word_bits (im g : Nat) (bits : List Nat) (ok : MaskOK im g bits) (sched : List Nat) (i : Nat)
    (hi : (mrun im g bits sched).w.testBit i = true) : i = 30 ∨ im.testBit i = true ∨ i ∈ bits :=
  word_sub (minv_run ok sched).word i hi

/-- once every call has returned the word is exactly IN_DONE ∪ IN mask ∪ released flows, and it
    covers the goal -/
theorem mask_word_final (im g : Nat) (bits : List Nat) (ok : MaskOK im g bits) (sched : List Nat)
    (hall : mAllDone (mrun im g bits sched)) :
    (∀ i, (mrun im g bits sched).w.testBit i = true ↔ (i = 30 ∨ im.testBit i = true ∨ i ∈ bits)) ∧
    (mrun im g bits sched).w &&& g = g :=
  have h := minv_run ok sched
  have hd := (all_dn_iff _).2 hall
  ⟨word_of_all_dn ok h.len h.word hd, (covers_iff ok h.len h.word).2 hd⟩

/-- a step of a call of `parsec_update_deps_with_mask` (plain read, fetch-or) that has not returned moves its program point -/
theorem mask_step_progress (im g : Nat) (bits : List Nat) (ok : MaskOK im g bits) (sched : List Nat) (t : Nat) (pc : MPc)
    (h : (mrun im g bits sched).pcs[t]? = some pc) (hnd : ∀ b, pc ≠ .done b) :
    (mstep im g bits (mrun im g bits sched) t).pcs[t]? ≠ some pc := by
  have hlen := (minv_run ok sched).len
  generalize mrun im g bits sched = s at h hlen
  have hi := (List.getElem?_eq_some_iff.1 h).1
  cases pc with
  | start => simp [mstep_start h (List.getElem?_eq_getElem (hlen ▸ hi)), List.getElem?_set_self hi]
  | orr v => simp [mstep_orr h, List.getElem?_set_self hi]
  | done b => exact absurd rfl (hnd b)

/-! Non-vacuity.  Flows `L D W C1 D`: IN mask = bits 0,2; goal = 0b11111; releases = flows 1,3,4.
    Threads 0 and 1 both read the word before any fetch-or (both carry the IN bits), thread 2 reads
    it after thread 0's fetch-or (sees IN_DONE, carries only its own bit); thread 1 is last. -/
example : inMask [.localData, .data, .writeOnly, .ctl1, .data] = 5 ∧ goalMask [.localData, .data, .writeOnly, .ctl1, .data] = 31 ∧
    releaseBits [.localData, .data, .writeOnly, .ctl1, .data] = [1, 3, 4] := by decide
example : MaskOK 5 31 [1, 3, 4] := by decide
example : MaskOK 5 31 [1, 3, 4] := maskOK_of_flows [.localData, .data, .writeOnly, .ctl1, .data] (by decide) (by decide) (by decide)
/-- a data flow whose first applicable input comes from a task, followed by an unguarded collection fallback: the
    IN computation must NOT pre-set its bit (the scan stops at the first applicable dependency) -/
example : inMask [.dataDeps [(.f, true), (.t, false), (.none, true)], .data] = 0 ∧
    releaseBits [.dataDeps [(.f, true), (.t, false), (.none, true)], .data] = [0, 1] := by decide
example : (mrun 5 31 [1, 3, 4] [0, 1, 0, 2, 2, 1]).pcs = [.done false, .done true, .done false] ∧
    (mrun 5 31 [1, 3, 4] [0, 1, 0, 2, 2, 1]).w = 2 ^ 30 + 31 ∧
    (mrun 5 31 [1, 3, 4] [0, 1, 0, 2, 2]).pcs = [.done false, .orr (2 ^ 30 + 8 + 5), .done false] := by
  decide

end ParsecVerif.C07
