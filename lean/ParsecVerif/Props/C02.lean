import ParsecVerif.Props.Runtime
import ParsecVerif.Proofs.PtgRt
import ParsecVerif.Proofs.PtgData
/-!
# C02 — PTG execution respects dependencies and delivers the named data

For EVERY program of the JDF AST that satisfies `WellFormed` (Model/Ptg.lean), every number of workers, every AGAIN
pattern and every interleaving of the abstract runtime (`Model/Dataflow.lean`) on the task graph `graphOf p`:

* `C02_order` — a task starts only after every predecessor named by one of its active input dependencies has ended;
* `C02_final` — with deterministic bodies `out = H(class, flow, locals, inputs)` and a program whose conflicting
  bodies are ordered by dependencies (`RaceFree`: the copies are shared by reference, exactly as the generated code
  does), every complete run ends in the heap of the reference sequential interpreter `seqRun` — collection tiles,
  arena copies and the ghost cells recording what each body saw (`obs`) and left (`out`);
* `C02_inputs` — in particular every body of every run sees in every flow what it sees in the sequential execution;
* `C02_inputs_named` — and when, in the sequential execution, every input fed by a task holds what that task left in the
  named flow (`namedOKB`, decidable), then in EVERY run the value seen is the content the NAMED producer left in that flow;
* `C02_racefree_of_check` — the executable check evaluated by the driver on every generated program is sound;
* `C02_schedule_independent` — any two complete runs, whatever schedules and AGAIN answers, end in the same heap.
-/
namespace ParsecVerif.C02
open ParsecVerif.Ptg ParsecVerif.PtgRt ParsecVerif.Dataflow ParsecVerif.Runtime

variable {F : Nat → List (Option Nat) → Nat}

theorem C02_order (p : Program) (cfg : Cfg) (hwf : WellFormed p = true) (again : List Nat) (ts : List Tr)
    (t : Instance) (ht : t ∈ allInstances p) (u : Instance) (sf : Nat) (hu : (u, sf) ∈ preds p t) :
    ∃ i j, nodeOf p u = some i ∧ nodeOf p t = some j ∧
      ∀ L1 L2, (run (graphOf p cfg) F again ts).log = L1 ++ Ev.start j :: L2 → Ev.end_ i ∈ L1 := by
  obtain ⟨i, j, hi, hj, he⟩ := preds_edge p cfg hwf t ht u sf hu
  exact ⟨i, j, hi, hj, fun L1 L2 hl => deps_respected (graphOf_WF p cfg hwf) again ts L1 L2 j hl (i, j) he rfl⟩

theorem C02_final (p : Program) (cfg : Cfg) (H : BodyFn) (hwf : WellFormed p = true)
    (hrf : RaceFree (graphOf p cfg) (nodeDs p cfg H)) (again : List Nat) (ts : List Tr)
    (hq : quiescent (run (graphOf p cfg) F again ts)) :
    heapOfLog p cfg H (run (graphOf p cfg) F again ts).log = seqRun p cfg H := by
  have hg := graphOf_WF p cfg hwf
  unfold heapOfLog seqRun
  exact runOrder_topo_eq (graphOf p cfg) (nodeDs p cfg H) (nodeDs_targetsOK p cfg H) hrf _ _
    (endOrder_perm (inv_run hg again ts) hq) (endOrder_run hg again ts) (pairwise_range hg _) initHeap

theorem C02_inputs (p : Program) (cfg : Cfg) (H : BodyFn) (hwf : WellFormed p = true)
    (hrf : RaceFree (graphOf p cfg) (nodeDs p cfg H)) (again : List Nat) (ts : List Tr)
    (hq : quiescent (run (graphOf p cfg) F again ts)) (j f : Nat) :
    heapOfLog p cfg H (run (graphOf p cfg) F again ts).log (.obs j f) = seqRun p cfg H (.obs j f) := by
  rw [C02_final p cfg H hwf hrf again ts hq]

theorem C02_inputs_named (p : Program) (cfg : Cfg) (H : BodyFn) (hwf : WellFormed p = true)
    (hrf : RaceFree (graphOf p cfg) (nodeDs p cfg H)) (hn : namedOKB p cfg H = true) (again : List Nat) (ts : List Tr)
    (hq : quiescent (run (graphOf p cfg) F again ts)) (j f i sf : Nat) (hs : (j, f, i, sf) ∈ flowSources p cfg) :
    heapOfLog p cfg H (run (graphOf p cfg) F again ts).log (.obs j f) =
      heapOfLog p cfg H (run (graphOf p cfg) F again ts).log (.out i sf) := by
  rw [C02_final p cfg H hwf hrf again ts hq]
  unfold namedOKB at hn
  simp only [List.all_eq_true, beq_iff_eq] at hn
  have := hn (j, f, i, sf) hs
  rw [get_runOrderL, get_nil] at this
  exact this

theorem C02_racefree_of_check (p : Program) (cfg : Cfg) (H : BodyFn) (hwf : WellFormed p = true)
    (h : raceFreeB (graphOf p cfg) (nodeDs p cfg H) = true) : RaceFree (graphOf p cfg) (nodeDs p cfg H) :=
  raceFreeB_sound (graphOf_WF p cfg hwf) _ h

theorem C02_schedule_independent (p : Program) (cfg : Cfg) (H : BodyFn) (hwf : WellFormed p = true)
    (hrf : RaceFree (graphOf p cfg) (nodeDs p cfg H)) (ag1 ag2 : List Nat) (ts1 ts2 : List Tr)
    (hq1 : quiescent (run (graphOf p cfg) F ag1 ts1)) (hq2 : quiescent (run (graphOf p cfg) F ag2 ts2)) :
    heapOfLog p cfg H (run (graphOf p cfg) F ag1 ts1).log = heapOfLog p cfg H (run (graphOf p cfg) F ag2 ts2).log := by
  rw [C02_final p cfg H hwf hrf ag1 ts1 hq1, C02_final p cfg H hwf hrf ag2 ts2 hq2]

/-! ### The write-back to the collection is asynchronous: the unrestricted statement is false of the code

`P(0)`: `WRITE A <- NEW -> ddesc(8)`, `CTL C -> C Q(0)`;  `Q(0)`: `READ B <- ddesc(8)`, `CTL C <- C P(0)`.
`Q(0)` is ordered after `P(0)` by a control dependency, the program is race free in the synchronous model, yet the real
write-back is a command queued for the communication thread: when it is executed after `Q(0)`'s body (`deferredRun`),
`Q(0)` reads the initial content 1008 of the tile, not what a sequential execution gives.  Replayed on the real runtime by
checks/C02.py (corpus/C02/005-read-after-writeback.case; known finding).  `asyncSafeB` (Model/PtgRt.lean) is false of this
program; no theorem relates it to `C02_final`. -/

def asyncEx : Program :=
  { globals := [],
    classes := [{ name := "P", locals := [.range ⟨.const 0, .const 0, .const 1⟩], isParam := [true], place := .var 0, prio := none,
                  flows := [{ access := .write, ins := [⟨none, .new, none⟩], outs := [⟨none, .coll (.const 8), none⟩] },
                            { access := .ctl, ins := [], outs := [⟨none, .task 1 1 [.one (.var 0)], none⟩] }] },
                { name := "Q", locals := [.range ⟨.const 0, .const 0, .const 1⟩], isParam := [true], place := .var 0, prio := none,
                  flows := [{ access := .read, ins := [⟨none, .coll (.const 8), none⟩], outs := [] },
                            { access := .ctl, ins := [⟨none, .task 0 1 [.one (.var 0)], none⟩], outs := [] }] }] }

def exH : BodyFn := fun cls f env ins => cls + 10 * f + 100 * env.length + ins.sum

/-- The statement "every behaviour with deferred write-backs ends like the sequential execution", for all well-formed
    race-free programs: FALSE of the code as it is. -/
def C02_final_async_full : Prop :=
  ∀ (p : Program) (cfg : Cfg) (H : BodyFn), WellFormed p = true → raceFreeB (graphOf p cfg) (nodeDs p cfg H) = true →
    deferredRun p cfg H (List.range (allInstances p).length) = seqRun p cfg H

theorem async_writeback_witness :
    WellFormed asyncEx = true ∧ raceFreeB (graphOf asyncEx {}) (nodeDs asyncEx {} exH) = true ∧
    asyncSafeB (graphOf asyncEx {}) (nodeFlows asyncEx {}) = false ∧
    deferredRun asyncEx {} exH [0, 1] (.obs 1 0) = 1008 ∧ seqRun asyncEx {} exH (.obs 1 0) = 100 ∧
    deferredRun asyncEx {} exH [0, 1] (.tile 8) = seqRun asyncEx {} exH (.tile 8) := by decide +kernel

theorem C02_final_async_full_false : ¬ C02_final_async_full := by
  intro h
  have h2 := congrFun (h asyncEx {} exH async_writeback_witness.1 async_writeback_witness.2.1) (.obs 1 0)
  have h3 : List.range (allInstances asyncEx).length = [0, 1] := by decide +kernel
  rw [h3, async_writeback_witness.2.2.2.1, async_writeback_witness.2.2.2.2.1] at h2
  exact absurd h2 (by decide)

/-! ### Non-vacuity -/

/-- `P(i)`, i = 0, 2: RW on tile i, passes its copy to `T(i)` (RW, in place), which names tile i as its final output -/
def ex : Program :=
  { globals := [],
    classes := [{ name := "P", locals := [.range ⟨.const 0, .const 2, .const 2⟩], isParam := [true], place := .var 0, prio := none,
                  flows := [{ access := .rw, ins := [⟨none, .coll (.var 0), none⟩],
                              outs := [⟨none, .task 1 0 [.one (.var 0)], none⟩] }] },
                { name := "T", locals := [.range ⟨.const 0, .const 2, .const 2⟩], isParam := [true], place := .var 0, prio := none,
                  flows := [{ access := .rw, ins := [⟨none, .task 0 0 [.one (.var 0)], none⟩],
                              outs := [⟨none, .coll (.var 0), none⟩] },
                            { access := .write, ins := [⟨none, .new, none⟩], outs := [⟨none, .coll (.bin .add (.var 0) (.const 1)), none⟩] }] }] }

theorem ex_wf : WellFormed ex = true := by decide +kernel
theorem ex_check : raceFreeB (graphOf ex {}) (nodeDs ex {} exH) = true := by decide +kernel
example : WellFormed ex = true := ex_wf
set_option maxRecDepth 8000 in
example : raceFreeB (graphOf ex {}) (nodeDs ex {} exH) = true := ex_check
example : RaceFree (graphOf ex {}) (nodeDs ex {} exH) := C02_racefree_of_check ex {} exH ex_wf ex_check
-- the program is not trivially race free: `P(0)` and `T(0)` conflict (same copy, both write) and are ordered by the edge
def confl (ds : List NodeD) (i j : Nat) : Option Bool := (ds[i]?).bind fun a => (ds[j]?).map fun b => a.conflict b
set_option maxRecDepth 8000 in
example : confl (nodeDs ex {} exH) 0 2 = some true ∧ confl (nodeDs ex {} exH) 0 1 = some false := by decide +kernel
def exSched : List Tr := [.start 1, .finish 1, .release 1 3, .start 3, .again 3, .start 0, .start 3, .finish 0,
  .release 0 2, .start 2, .finish 3, .finish 2]
set_option maxRecDepth 8000 in
example : (run (graphOf ex {}) (fun _ _ => 0) [0, 0, 0, 1] exSched).pending = [] ∧
    (run (graphOf ex {}) (fun _ _ => 0) [0, 0, 0, 1] exSched).status = List.replicate 4 .ended ∧
    endOrder (run (graphOf ex {}) (fun _ _ => 0) [0, 0, 0, 1] exSched).log = [1, 0, 3, 2] := by decide +kernel
-- what the sequential interpreter computes: tile 0 is updated in place by `P(0)` then `T(0)`; tile 1 receives the copy of
-- `T(0)`'s fresh flow; `T(0)` saw what `P(0)` left
set_option maxRecDepth 8000 in
example : seqRun ex {} exH (.tile 0) = 1201 ∧ seqRun ex {} exH (.tile 1) = 1211 ∧ seqRun ex {} exH (.tile 5) = 1005 ∧
    seqRun ex {} exH (.obs 2 0) = seqRun ex {} exH (.out 0 0) := by decide +kernel
set_option maxRecDepth 8000 in
example : flowSources ex {} = [(2, 0, 0, 0), (3, 0, 1, 0)] ∧ namedOKB ex {} exH = true := by decide +kernel

end ParsecVerif.C02
