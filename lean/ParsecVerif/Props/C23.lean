import ParsecVerif.Proofs.PtgKey
/-!
# C23 — PTG task keys identify task instances uniquely

Model: `Ptg.keyInfo` (the per-parameter `(min, range)` collected by the generated `internal_init`, starting from
`min = 0x7fffffff`, `max = 0`, widened at every visit of the loop header; `(0, 1)` for a parameter defined by an
expression), `Ptg.makeKey` (the running-multiplier sum of the generated `make_key`, in `uint64_t`), `Ptg.keyPrintVals`
(the digit-by-digit inversion of the generated `key_print`).

* `injective_sem` / `C23_injective`: for ARBITRARY range functions (bounds and steps may depend on the outer locals
  through any function; negative bounds and steps; derived locals and derived parameters) two instances of the
  enumerated space with the same key are equal, under the explicit decidable hypothesis `NoOverflow`.
* `C23_print_partial`: when no parameter is defined by an expression, the stored `min` and `min + range` fit an `int`
  (both in `PrintHyp`) and the key does not wrap (`keyZ … a < two64`), `key_print (make_key a)` names `a`.
* `C23_print_full_false`: the unrestricted printing statement is false of the generated code (witness: a parameter
  `k = 2*i+1`); replayed on the real generated code by checks/C23.py (corpus/C23/001-derived-param-print.case).
-/
namespace ParsecVerif.C23
open ParsecVerif.Ptg

theorem injective_sem (ds : List LocalSem) (ps : List Bool) (hrap : RangesAreParams ds ps)
    (hno : NoOverflow (keyInfo ds ps) (enumSem ds [])) :
    ∀ a ∈ enumSem ds [], ∀ b ∈ enumSem ds [],
      makeKeyOf (keyInfo ds ps) a = makeKeyOf (keyInfo ds ps) b → a = b := by
  intro a ha b hb hk
  have hz : keyZ (keyInfo ds ps) a = keyZ (keyInfo ds ps) b := by
    have := hno a ha b hb
    unfold makeKeyOf toU64 at hk
    unfold two64 at *
    omega
  rw [keyZ_eq_keyH, keyZ_eq_keyH] at hz
  exact keyH_inj (digitsOK_of_mem ds ps hrap a ha) (digitsOK_of_mem ds ps hrap b hb) hz

/-- C23, first half; same locals, hence same parameter values -/
theorem C23_injective (p : Program) (c : Nat) (cl : TaskClass) (hc : p.classes[c]? = some cl)
    (hrap : RangesAreParams (cl.sems p.globals) cl.isParam)
    (hno : NoOverflow (classKeyInfo p.globals cl) (space p c)) :
    ∀ a ∈ space p c, ∀ b ∈ space p c, makeKey p c a = makeKey p c b →
      a = b ∧ paramsOf cl.isParam a = paramsOf cl.isParam b := by
  intro a ha b hb hk
  rw [space_eq hc] at ha hb hno
  simp only [makeKey, hc, classKeyInfo] at hk
  have := injective_sem (cl.sems p.globals) cl.isParam hrap (by simpa [classKeyInfo] using hno) a ha b hb hk
  exact ⟨this, by rw [this]⟩

/-- Contrapositive reading of the property: different parameter tuples never share a key. -/
theorem C23_distinct_keys (p : Program) (c : Nat) (cl : TaskClass) (hc : p.classes[c]? = some cl)
    (hrap : RangesAreParams (cl.sems p.globals) cl.isParam)
    (hno : NoOverflow (classKeyInfo p.globals cl) (space p c)) :
    ∀ a ∈ space p c, ∀ b ∈ space p c, paramsOf cl.isParam a ≠ paramsOf cl.isParam b →
      makeKey p c a ≠ makeKey p c b :=
  fun a ha b hb hne hk => hne (C23_injective p c cl hc hrap hno a ha b hb hk).2

/-- The full printing statement of the property: the printed form of an instance's key gives its parameter values. -/
def C23_print_full : Prop :=
  ∀ (p : Program) (c : Nat) (cl : TaskClass), p.classes[c]? = some cl →
    RangesAreParams (cl.sems p.globals) cl.isParam →
    ∀ a ∈ space p c, keyZ (classKeyInfo p.globals cl) a < two64 →
      keyPrintVals (classKeyInfo p.globals cl) (makeKey p c a) = paramsOf cl.isParam a

/-- C23, second half, proved part; the printed string is then the instance's name -/
theorem C23_print_partial (p : Program) (c : Nat) (cl : TaskClass) (hc : p.classes[c]? = some cl)
    (hrap : RangesAreParams (cl.sems p.globals) cl.isParam)
    (hph : PrintHyp (classKeyInfo p.globals cl) (cl.sems p.globals)) :
    ∀ a ∈ space p c, keyZ (classKeyInfo p.globals cl) a < two64 →
      keyPrintVals (classKeyInfo p.globals cl) (makeKey p c a) = paramsOf cl.isParam a ∧
      keyPrint p c (makeKey p c a) = instName p c a := by
  intro a ha hfit
  rw [space_eq hc] at ha
  have hd : DigitsOK cl.isParam (classKeyInfo p.globals cl) _ [] a := digitsOK_of_mem _ _ hrap a ha
  have hkey : makeKey p c a = keyH (classKeyInfo p.globals cl) a := by
    simp only [makeKey, hc, makeKeyOf]
    rw [keyZ_eq_keyH] at hfit ⊢
    exact toU64_small _ (keyPrintVals_keyH hd hph).1 hfit
  have hvals : keyPrintVals (classKeyInfo p.globals cl) (makeKey p c a) = paramsOf cl.isParam a := by
    rw [hkey, (keyPrintVals_keyH hd hph).2]
  exact ⟨hvals, by simp only [keyPrint, instName, hc, hvals]⟩

/-- `T(i, k, j)` with `i = 0 .. 2`, `k = 2*i+1`, `j = -2 .. 0` (DESIGN.md 5.5) -/
def witness : Program :=
  { globals := [],
    classes := [{ name := "T",
                  locals := [.range ⟨.const 0, .const 2, .const 1⟩,
                             .expr (.bin .add (.bin .mul (.const 2) (.var 0)) (.const 1)),
                             .range ⟨.const (-2), .const 0, .const 1⟩],
                  isParam := [true, true, true], place := .var 0, prio := none, flows := [] }] }

/-- `T(2, 5, -1)` is an instance, its key is `2 + 5·3 + 1·3 = 20` and the generated `key_print` decodes it as
    `T(2, 0, -2)`: `internal_init` stores `(min, range) = (0, 1)` for `k`, so `k` prints as `(20/3) % 1 + 0 = 0`
    and — `make_key` having added `5·3` for `k` — the following digit is shifted: `j` prints as `6 % 3 − 2 = −2`. -/
theorem witness_prints_wrong :
    [2, 5, -1] ∈ space witness 0 ∧ makeKey witness 0 [2, 5, -1] = 20 ∧
    keyPrintVals (classKeyInfo witness.globals witness.classes[0]!) 20 = [2, 0, -2] := by
  decide +kernel

theorem C23_print_full_false : ¬ C23_print_full := by
  intro h
  have := h witness 0 witness.classes[0]! rfl (by decide) [2, 5, -1] witness_prints_wrong.1 (by decide)
  rw [witness_prints_wrong.2.1, witness_prints_wrong.2.2] at this
  cases this

/-- `T(i, k, j)`: `i = 2 .. -1 .. -1` (negative step), `d = i*i - 3` (derived local), `k = 2*i + 1` (derived
    parameter, negative for `i = -1`), `j = d .. i .. 2` (bounds depend on outer locals, empty for some `i`) -/
def example1 : Program :=
  { globals := [],
    classes := [{ name := "T",
                  locals := [.range ⟨.const 2, .const (-1), .const (-1)⟩,
                             .expr (.bin .sub (.bin .mul (.var 0) (.var 0)) (.const 3)),
                             .expr (.bin .add (.bin .mul (.const 2) (.var 0)) (.const 1)),
                             .range ⟨.var 1, .var 0, .const 2⟩],
                  isParam := [true, false, true, true], place := .var 0, prio := none, flows := [] }] }

example : (space example1 0).length = 6 := by decide +kernel
example : RangesAreParams (example1.classes[0]!.sems example1.globals) example1.classes[0]!.isParam := by decide +kernel
example : NoOverflow (classKeyInfo example1.globals example1.classes[0]!) (space example1 0) := by decide +kernel
example : makeKey example1 0 [-1, -2, -1, -2] ≠ makeKey example1 0 [0, -3, 1, -1] := by decide +kernel

/-- a class without derived parameters: the printing hypotheses hold and the decoded values are the parameters -/
def example2 : Program :=
  { globals := [3],
    classes := [{ name := "U",
                  locals := [.range ⟨.const (-2), .glob 0, .const 2⟩,
                             .expr (.bin .mul (.var 0) (.const 2)),
                             .range ⟨.var 1, .const 1, .const (-1)⟩],
                  isParam := [true, false, true], place := .var 0, prio := none, flows := [] }] }

example : (space example2 0).length = 4 := by decide +kernel
example : PrintHyp (classKeyInfo example2.globals example2.classes[0]!) (example2.classes[0]!.sems example2.globals) := by decide +kernel
example : keyPrintVals (classKeyInfo example2.globals example2.classes[0]!) (makeKey example2 0 [2, 4, 3]) = [2, 3] := by decide +kernel

end ParsecVerif.C23
