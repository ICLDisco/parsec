import ParsecVerif.Proofs.Ptg
import ParsecVerif.Props.Runtime
import ParsecVerif.Proofs.PtgRt
/-!
# C01 — every PTG task instance runs exactly once

The execution space, for EVERY program of the AST (`Model/Ptg.lean`) and arbitrary range functions: the enumeration of
`internal_init` lists exactly the local assignments satisfying the range constraints (`Sat`), none twice, since it is a nest
of maps that are injective level by level; the number of tasks announced to termination detection
(`initial_number_tasks`) and the local instances are read off the same per-rank lists, and every instance is local to
exactly one rank.  The generated startup function creates the startup instances of the space, once each and in
enumeration order, when every step is positive (`C01_startup_partial`); the unrestricted statement is false of the
generated code (`C01_startup_full_false`, `negstep_*`): for a range with a negative step the startup function creates
nothing (or never terminates) while `internal_init` counts the instances, and the successor iterator's range test rejects
every instance of such a class.  Replayed on the real generated code by checks/C01.py
(corpus/C01/001-negstep-startup.case, 002-negstep-target.case, 003-negstep-diverges.case).

The runtime (section "Exactly once under every schedule"): the task graph `PtgRt.graphOf p` of a `WellFormed` program is a
well-formed dataflow graph, the position in `allInstances` being the rank (`graphOf_WF`), so the theorems of
`Props/Runtime.lean` — every worker count, every AGAIN pattern, every interleaving — hold of it; the `C01_*` theorems of
the section are those, with the nodes read back as instances of the space.
-/
namespace ParsecVerif.C01
open ParsecVerif.Ptg

theorem C01_space_nodup (p : Program) (c : Nat) : (space p c).Nodup := by
  unfold space
  split
  · exact nodup_enumSem _ _
  · exact List.nodup_nil

theorem C01_space_eq_constraints (p : Program) (c : Nat) (cl : TaskClass) (hc : p.classes[c]? = some cl) (a : List Int) :
    a ∈ space p c ↔ Sat (cl.sems p.globals) [] a :=
  space_eq hc ▸ mem_enumSem_iff _ _ _

theorem mem_space_length (p : Program) (c : Nat) (cl : TaskClass) (hc : p.classes[c]? = some cl) (a : List Int)
    (h : a ∈ space p c) : a.length = cl.locals.length := by
  rw [space_eq hc] at h
  simpa [TaskClass.sems] using length_of_mem_enumSem _ _ _ h

theorem nodup_flatMap_classes (n : Nat) (f : Nat → List (List Int)) (hf : ∀ c, (f c).Nodup) :
    ((List.range n).flatMap fun c => (f c).map fun a => (⟨c, a⟩ : Instance)).Nodup :=
  Base.nodup_flatMap_map List.nodup_range hf fun _ _ _ _ h => Instance.mk.inj h

theorem C01_instances_nodup (p : Program) : (allInstances p).Nodup :=
  nodup_flatMap_classes _ _ (C01_space_nodup p)

theorem C01_local_instances_nodup (p : Program) (rank nodes : Nat) : (localInstances p rank nodes).Nodup :=
  nodup_flatMap_classes _ _ fun c => by
    unfold localSpace
    split
    · exact (nodup_enumSem _ _).sublist List.filter_sublist
    · exact List.nodup_nil

theorem C01_count (p : Program) (rank nodes : Nat) :
    announcedNbTasks p rank nodes = (localInstances p rank nodes).length := by
  simp [announcedNbTasks, localInstances, List.length_flatMap]

theorem C01_local_iff (p : Program) (c : Nat) (cl : TaskClass) (hc : p.classes[c]? = some cl) (rank nodes : Nat) (a : List Int) :
    a ∈ localSpace p c rank nodes ↔ a ∈ space p c ∧ normMod (eval p.globals a cl.place) nodes = (rank : Int) := by
  simp [localSpace, space, hc, List.mem_filter]

theorem C01_local_partition (p : Program) (c : Nat) (cl : TaskClass) (hc : p.classes[c]? = some cl) (nodes : Nat) (hn : 0 < nodes)
    (a : List Int) (ha : a ∈ space p c) :
    ∃ r, r < nodes ∧ a ∈ localSpace p c r nodes ∧ ∀ r', a ∈ localSpace p c r' nodes → r' = r := by
  have hn' : (0 : Int) < nodes := Int.natCast_pos.2 hn
  obtain ⟨r, hr⟩ := Int.eq_ofNat_of_zero_le (Int.emod_nonneg (eval p.globals a cl.place) (Int.ne_of_gt hn'))
  simp only [C01_local_iff p c cl hc, normMod, hr]
  exact ⟨r, Int.ofNat_lt.1 (hr ▸ Int.emod_lt_of_pos _ hn'), ⟨ha, rfl⟩, fun r' h => Int.ofNat.inj h.2.symm⟩

/-- The full statement: the startup function of every class creates exactly the startup instances of the space. -/
def C01_startup_full : Prop :=
  ∀ (p : Program) (c : Nat) (cl : TaskClass), p.classes[c]? = some cl → stepsOkSem (cl.sems p.globals) [] = true →
    startupEnum p c = some ((space p c).filter (isStartup p.globals cl))

/-- Proved part: with strictly positive steps at every reached loop header (constants or expressions). -/
theorem C01_startup_partial (p : Program) (c : Nat) (cl : TaskClass) (hc : p.classes[c]? = some cl)
    (hpos : StepsPositive (cl.sems p.globals) []) :
    startupEnum p c = some ((space p c).filter (isStartup p.globals cl)) := by
  simp only [startupEnum, hc, space_eq hc, startupSem_eq _ _ hpos, Option.map_some]

/-- `T(k)`, `k = 3 .. 0 .. -1`, one READ flow from the collection: four startup instances -/
def negstep : Program :=
  { globals := [],
    classes := [{ name := "T", locals := [.range ⟨.const 3, .const 0, .const (-1)⟩], isParam := [true],
                  place := .var 0, prio := none,
                  flows := [{ access := .read, ins := [⟨none, .coll (.var 0), none⟩], outs := [] }] }] }

/-- `internal_init` counts 4 tasks, all of them startup tasks; the startup loop `for (k = 3; k <= 0; k += -1)` creates none -/
theorem negstep_startup_creates_nothing :
    announcedNbTasks negstep 0 1 = 4 ∧ (space negstep 0).filter (isStartup negstep.globals negstep.classes[0]!) = [[3], [2], [1], [0]] ∧
    startupEnum negstep 0 = some [] := by decide +kernel

/-- `T(k)`, `k = 0 .. 0 .. -1`: one instance; the startup loop `for (k = 0; k <= 0; k += -1)` never terminates -/
def negstep0 : Program :=
  { negstep with classes := [{ negstep.classes[0]! with locals := [.range ⟨.const 0, .const 0, .const (-1)⟩] }] }

theorem negstep0_startup_diverges : space negstep0 0 = [[0]] ∧ startupEnum negstep0 0 = none := by decide +kernel

/-- a producer `P(i)`, `i = 0 .. 2`, sends to `T(i)` whose range is `2 .. 0 .. -1`: the consumer names its producer, but the
    successor iterator tests `i >= 2 && i <= 0` and drops every target -/
def negtarget : Program :=
  { globals := [],
    classes := [{ name := "P", locals := [.range ⟨.const 0, .const 2, .const 1⟩], isParam := [true], place := .var 0, prio := none,
                  flows := [{ access := .rw, ins := [⟨none, .coll (.var 0), none⟩],
                              outs := [⟨none, .task 1 0 [.one (.var 0)], none⟩] }] },
                { name := "T", locals := [.range ⟨.const 2, .const 0, .const (-1)⟩], isParam := [true], place := .var 0, prio := none,
                  flows := [{ access := .read, ins := [⟨none, .task 0 0 [.one (.var 0)], none⟩], outs := [] }] }] }

theorem negstep_target_dropped :
    (space negtarget 1).length = 3 ∧ (allInEdges negtarget).length = 3 ∧ allOutEdges negtarget = [] := by decide +kernel

theorem C01_startup_full_false : ¬ C01_startup_full := by
  intro h
  have := h negstep 0 negstep.classes[0]! rfl (by decide)
  rw [negstep_startup_creates_nothing.2.2, negstep_startup_creates_nothing.2.1] at this
  cases this

/-! ### Non-vacuity -/

/-- positive constant and expression steps, bounds depending on outer locals, a derived local, a guarded CTL input -/
def example1 : Program :=
  { globals := [2],
    classes := [{ name := "T",
                  locals := [.range ⟨.const (-1), .glob 0, .const 1⟩,
                             .expr (.bin .add (.bin .mod (.bin .add (.var 0) (.const 8)) (.const 2)) (.const 1)),
                             .range ⟨.var 0, .bin .add (.var 0) (.const 4), .var 1⟩],
                  isParam := [true, false, true], place := .var 0, prio := none,
                  flows := [{ access := .ctl,
                              ins := [⟨some (.bin .gt (.var 2) (.var 0)), .task 0 0 [.one (.var 0), .one (.bin .sub (.var 2) (.var 1))], none⟩],
                              outs := [⟨some (.bin .le (.bin .add (.var 2) (.var 1)) (.bin .add (.var 0) (.const 4))),
                                        .task 0 0 [.one (.var 0), .one (.bin .add (.var 2) (.var 1))], none⟩] }] }] }

example : StepsPositive (example1.classes[0]!.sems example1.globals) [] := by decide +kernel
example : (space example1 0).length = 16 ∧ (startupEnum example1 0).map List.length = some 4 := by decide +kernel
example : WellFormed example1 = true := by decide +kernel
example : announcedNbTasks example1 1 3 = 3 := by decide +kernel

/-! ### Exactly once under every schedule (abstract runtime on the task graph of the program) -/
section runtime
open ParsecVerif.PtgRt ParsecVerif.Dataflow ParsecVerif.Runtime

variable {F : Nat → List (Option Nat) → Nat}

theorem C01_graph_wf (p : Program) (cfg : Cfg) (h : WellFormed p = true) : WF (graphOf p cfg) id := graphOf_WF p cfg h

theorem nodeOf_getElem (p : Program) (i : Nat) (hi : i < (allInstances p).length) : nodeOf p (allInstances p)[i] = some i := by
  unfold nodeOf ixOf
  rw [List.idxOf?_eq_some_iff]
  refine ⟨hi, rfl, ?_⟩
  intro j hj heq
  have := (List.getElem_inj (h₀ := by omega) (h₁ := hi) (C01_instances_nodup p)).1 heq
  omega

/-- **Exactly once.**  In every maximal run (no transition enabled) of the abstract runtime on the task graph of a
    well-formed program — whatever the scheduler's choices, the number of workers and the AGAIN answers — every instance
    of the execution space has completed exactly once, and every event of the trace belongs to an instance of the space. -/
theorem C01_exactly_once (p : Program) (cfg : Cfg) (hwf : WellFormed p = true) (again : List Nat) (ts : List Tr)
    (hmax : ∀ t, enabled (run (graphOf p cfg) F again ts) t = false) :
    (∀ t ∈ allInstances p, ∃ j, nodeOf p t = some j ∧ (run (graphOf p cfg) F again ts).log.count (.end_ j) = 1) ∧
    (∀ ev ∈ (run (graphOf p cfg) F again ts).log, ∃ t ∈ allInstances p, nodeOf p t = some (evNode ev)) := by
  have hg := graphOf_WF p cfg hwf
  have hq := maximal_run_is_quiescent (F := F) hg again ts hmax
  constructor
  · intro t ht
    obtain ⟨j, hj⟩ := ixOf_of_mem ht
    exact ⟨j, hj, quiescent_all_once hg again ts hq j (ixOf_some hj).1⟩
  · intro ev hev
    have hlt : evNode ev < (allInstances p).length := log_nodes_lt (F := F) hg again ts ev hev
    exact ⟨(allInstances p)[evNode ev], List.getElem_mem hlt, nodeOf_getElem p _ hlt⟩

theorem C01_never_twice (p : Program) (cfg : Cfg) (hwf : WellFormed p = true) (again : List Nat) (ts : List Tr) (j : Nat) :
    (run (graphOf p cfg) F again ts).log.count (.end_ j) ≤ 1 :=
  (completes_at_most_once (F := F) (graphOf_WF p cfg hwf) again ts j).1

/-- while a release is pending or an instance has not ended some transition is enabled: the runtime never stops with work left -/
theorem C01_no_deadlock (p : Program) (cfg : Cfg) (hwf : WellFormed p = true) (again : List Nat) (ts : List Tr)
    (hq : ¬ quiescent (run (graphOf p cfg) F again ts)) : ∃ t, enabled (run (graphOf p cfg) F again ts) t = true :=
  deadlock_free (graphOf_WF p cfg hwf) again ts hq

/-- every enabled transition strictly decreases a natural measure: no run is infinite -/
theorem C01_terminates (p : Program) (cfg : Cfg) (hwf : WellFormed p = true) (again : List Nat) (ts : List Tr) (t : Tr)
    (hen : enabled (run (graphOf p cfg) F again ts) t = true) :
    mu (step (graphOf p cfg) F (run (graphOf p cfg) F again ts) t) < mu (run (graphOf p cfg) F again ts) :=
  step_decreases (graphOf_WF p cfg hwf) again ts t hen

/-- non-vacuity: the graph of `example1` (16 instances, a guarded CTL chain) -/
example : (graphOf example1 {}).n = 16 ∧ (graphOf example1 {}).E.length = 12 := by decide +kernel

end runtime

end ParsecVerif.C01
