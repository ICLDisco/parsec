import ParsecVerif.Proofs.Reshape
import ParsecVerif.Props.C29
/-!
# C18 — typed PTG flows deliver correctly converted copies

Model: `ParsecVerif.Reshape` (Model/Reshape.lean).
* the conversion `parsec_ce.reshape` = `MPI_Sendrecv` to self = `unpack ty_dst (pack ty_src tile)` into a fresh copy,
  with the element lists the real `parsec_matrix_define_datatype` builds (C19, as coded);
* the promise protocol = C29's data-copy future machine, every interleaving, extended with a heap of copies.

Quantification: every `uplo` code and every `diag : Int` (not only the six named shapes), every tile size `m n`, every
leading dimension `ld ≥ m`, every content of the producer's tile and of the fresh copy, every match function, every
choice of synchronous / deferred fulfilment, every thread count, program and schedule.

What is NOT a theorem here: that the generated code asks for the conversion the JDF annotations document (the
placement decisions of jdf2c and `parsec_set_up_reshape_promise`).  That part is exercised by the tie (the correspondence
check of checks/C18.py, which runs generated JDF programs on the real runtime) against the interpreter of Model/Reshape.lean
part 3, and is where finding F1 of docs/notes/C18.md lives (`mixed_output_types_witness`).
-/
namespace ParsecVerif.C18
open ParsecVerif.MatrixTypes ParsecVerif.Reshape ParsecVerif.Future

abbrev region (s : Shape) (m n ld : Nat) : List Nat := regionOffsets s.uplo (C19.withDiag s.diag) m n ld

/-- **C18, selected elements (every pair of shapes, every size).**  The fresh copy keeps its length; the k-th element
    of the consumer's region (column-major order) holds the k-th element of the producer's region, for every k both
    regions have; every other cell of the copy — the rest of the consumer's region when the producer's is smaller, and
    everything outside the consumer's region — keeps the content the fresh copy had. -/
theorem C18_selected (s d : Shape) (m n ld : Nat) (hld : m ≤ ld) (src init : Mem) (hinit : footprint m n ld ≤ init.length) :
    (reshape s d m n ld src init).length = init.length ∧
    (∀ (k : Nat) (hS : k < (region s m n ld).length) (hD : k < (region d m n ld).length),
      rd (reshape s d m n ld src init) (region d m n ld)[k] = rd src (region s m n ld)[k]) ∧
    (∀ x, x ∉ (region d m n ld).take (region s m n ld).length → rd (reshape s d m n ld src init) x = rd init x) := by
  unfold reshape
  rw [typeOffs_eq s, typeOffs_eq d]
  exact sendrecv_spec _ _ src init (region_nodup d.uplo _ m n ld hld) fun o ho =>
    Nat.lt_of_lt_of_le (region_lt ho) hinit

theorem reshape_outside (s d : Shape) (m n ld : Nat) (hld : m ≤ ld) (src init : Mem) (hinit : footprint m n ld ≤ init.length)
    {x : Nat} (hx : x ∉ region d m n ld) : rd (reshape s d m n ld src init) x = rd init x :=
  (C18_selected s d m n ld hld src init hinit).2.2 x fun hm => hx (List.mem_of_mem_take hm)

/-- **C18, selected elements, position by position.**  When producer and consumer declare the same region (the same
    shape, or two datatype handles of the same shape), every element `(i, j)` of the declared region equals the
    producer's element at the same position, and every cell that is not in the region keeps the fresh copy's content. -/
theorem C18_selected_same (s d : Shape) (m n ld : Nat) (hld : m ≤ ld) (src init : Mem) (hinit : footprint m n ld ≤ init.length)
    (hsame : region s m n ld = region d m n ld) :
    (∀ i j, i < m → j < n → inRegion d.uplo (C19.withDiag d.diag) i j = true →
      rd (reshape s d m n ld src init) (j * ld + i) = rd src (j * ld + i)) ∧
    (∀ x, (¬ ∃ i j, i < m ∧ j < n ∧ inRegion d.uplo (C19.withDiag d.diag) i j = true ∧ x = j * ld + i) →
      rd (reshape s d m n ld src init) x = rd init x) := by
  refine ⟨fun i j hi hj hr => ?_,
    fun x hx => reshape_outside s d m n ld hld src init hinit (mt (mem_region _ _ _ _ _ _).1 hx)⟩
  have hx : j * ld + i ∈ region d m n ld := (mem_region _ _ _ _ _ _).2 ⟨i, j, hi, hj, hr, rfl⟩
  obtain ⟨k, hk, hkx⟩ := List.getElem_of_mem hx
  have h2 := (C18_selected s d m n ld hld src init hinit).2.1
  simp only [hsame] at h2
  exact hkx ▸ h2 k hk hk

/-- in particular for one and the same shape on both sides (`[type = t]` on the output dependency only, or the same
    type on both ends) -/
theorem C18_selected_refl (s : Shape) (m n ld : Nat) (hld : m ≤ ld) (src init : Mem) (hinit : footprint m n ld ≤ init.length) :
    (∀ i j, i < m → j < n → inRegion s.uplo (C19.withDiag s.diag) i j = true →
      rd (reshape s s m n ld src init) (j * ld + i) = rd src (j * ld + i)) ∧
    (∀ x, (¬ ∃ i j, i < m ∧ j < n ∧ inRegion s.uplo (C19.withDiag s.diag) i j = true ∧ x = j * ld + i) →
      rd (reshape s s m n ld src init) x = rd init x) :=
  C18_selected_same s s m n ld hld src init hinit rfl

/-- The position-by-position reading is FALSE for two different shapes, even on the intersection of the regions:
    lower → upper on a 3 × 3 tile puts the producer's element (2, 0) at the diagonal position (1, 1), which belongs to
    both regions.  (Documented behaviour: "Pack t1, Unpack t2", CHANGELOG.ptg.md; tests/collections/reshape/local_input_LU_LL.jdf.) -/
theorem positionwise_needs_equal_regions :
    inRegion LOWER true 1 1 = true ∧ inRegion UPPER true 1 1 = true ∧
    rd (reshape ⟨LOWER, 1⟩ ⟨UPPER, 1⟩ 3 3 3 [10, 11, 12, 13, 14, 15, 16, 17, 18] (List.replicate 9 0)) (1 * 3 + 1) = 12 := by decide +kernel

/-- the destination of a conversion is written only inside the footprint of the tile: no write past the arena element -/
theorem C18_in_bounds (s d : Shape) (m n ld : Nat) (hld : m ≤ ld) (src init : Mem) (hinit : footprint m n ld ≤ init.length)
    (x : Nat) (hx : footprint m n ld ≤ x) : rd (reshape s d m n ld src init) x = rd init x :=
  reshape_outside s d m n ld hld src init hinit fun hm => Nat.not_le_of_lt (region_lt hm) hx

/-- **C18, isolation.**  For every match function, every choice of synchronous / deferred fulfilment, every program of
    every thread and every schedule `sched ++ more`: every copy that exists after `sched` — the producer's tile (entry 0)
    and the copies fulfilled so far for other shapes — is still there with the same contents after `more`; the producer's
    tile is entry 0 throughout; and every other copy differs from fresh arena memory only inside the region of its own
    destination shape and inside the arena element (so a fulfilment writes its own fresh copy and nothing else). -/
theorem C18_isolated (cfg : Cfg) (env : Env) (b : Nat) (pre : Bool) (progs : List (List DOp)) (sched more : List Nat)
    (hld : env.m ≤ env.ld) (hfresh : footprint env.m env.n env.ld ≤ env.fresh.length) :
    (∀ i, i < (hrun cfg env b pre progs sched).heap.length →
      (hrun cfg env b pre progs (sched ++ more)).heap[i]? = (hrun cfg env b pre progs sched).heap[i]?) ∧
    (hrun cfg env b pre progs (sched ++ more)).heap[0]? = some (if pre then valOf 1 b else 0, env.tile) ∧
    (∀ e ∈ (hrun cfg env b pre progs (sched ++ more)).heap.tail, ∃ r, e = (valOf 1 r, copyFor env r) ∧
      e.2.length = env.fresh.length ∧
      ∀ x, x ∉ region (env.dstOf r) env.m env.n env.ld → rd e.2 x = rd env.fresh x) := by
  have hI := hinv_run cfg env b pre progs (sched ++ more)
  refine ⟨fun i hi => ?_, List.head?_eq_getElem? ▸ hI.head, fun e he => ?_⟩
  · obtain ⟨l, hl⟩ := hrun_prefix cfg env b pre progs sched more
    rw [← hl, List.getElem?_append_left hi]
  · obtain ⟨r, rfl⟩ := hI.tail e he
    exact ⟨r, rfl, (C18_selected _ _ _ _ _ hld env.tile env.fresh hfresh).1,
      fun x hx => reshape_outside _ _ _ _ _ hld env.tile env.fresh hfresh hx⟩

/-- copies have pairwise distinct handles: one copy per handle, never a second allocation for the same promise -/
theorem C18_one_copy_per_handle (cfg : Cfg) (env : Env) (b : Nat) (pre : Bool) (progs : List (List DOp)) (sched : List Nat) :
    (Keys (hrun cfg env b pre progs sched).heap).Nodup := (hinv_run cfg env b pre progs sched).keys

/-- the fulfilment callback of every promise runs at most once (C29 on the `d` component) -/
theorem C18_fulfil_once (cfg : Cfg) (env : Env) (b : Nat) (pre : Bool) (progs : List (List DOp)) (sched : List Nat) :
    ∀ fu ∈ (hrun cfg env b pre progs sched).d.futs, fu.cb ≤ 1 := by
  rw [hrun_d]; intro fu hfu; exact (C29.C29_trigger_once cfg b pre progs sched fu hfu).1

/-- `Reshape.lookup_ok` on the heap of a run: the producer's tile has handle `valOf 1 b` when the base promise was fulfilled
    before sharing, and 0, which is no promise's value, otherwise -/
theorem lookup_key (cfg : Cfg) (env : Env) (b : Nat) (pre : Bool) (progs : List (List DOp)) (sched : List Nat)
    (v sh : Nat) (hv : v = valOf 1 sh) (hkey : hasKey (hrun cfg env b pre progs sched).heap v = true) :
    lookup (hrun cfg env b pre progs sched).heap v = some (if pre = true ∧ sh = b then env.tile else copyFor env sh) := by
  subst hv
  rw [lookup_ok (hinv_run cfg env b pre progs sched).toHeapOk sh hkey]
  cases pre
  · have : 0 ≠ valOf 1 sh := by unfold valOf; omega
    simp [this]
  · simp [valOf_inj, eq_comm]

/-- under the value of every COMPLETED promise the heap holds the producer's tile (base promise fulfilled before sharing) or the
    conversion for the promise's shape -/
theorem lookup_completed (cfg : Cfg) (env : Env) (b : Nat) (pre : Bool) (progs : List (List DOp)) (sched : List Nat)
    (fu : Fut) (hfu : fu ∈ (hrun cfg env b pre progs sched).d.futs) (hc : fu.compl = true) :
    lookup (hrun cfg env b pre progs sched).heap fu.data =
      some (if pre = true ∧ fu.shape = b then env.tile else copyFor env fu.shape) := by
  have hI := hinv_run cfg env b pre progs sched
  exact lookup_key cfg env b pre progs sched fu.data fu.shape ((hI.d.futs fu hfu).2 hc) (hI.compl fu hfu hc)

/-- **C18, sharing.**  For every match function, synchronous / deferred fulfilment, programs and schedule: any two
    consumers whose requests fall in the same match class and that obtained a copy obtained THE SAME copy (same handle);
    that handle is the value of the unique promise of the class, and the heap holds exactly one copy with this handle
    (`C18_one_copy_per_handle`): the producer's own tile for a fulfilled base promise, otherwise the conversion
    `unpack ty_dst (pack ty_src tile)` for the promise's shape.  (A non-NULL answer is only ever produced from a COMPLETED
    promise: `FutureDC.valok_fut`.) -/
theorem C18_shared (cfg : Cfg) (env : Env) (b : Nat) (pre : Bool) (progs : List (List DOp)) (sched : List Nat) :
    ∀ th1 ∈ (hrun cfg env b pre progs sched).d.thr, ∀ th2 ∈ (hrun cfg env b pre progs sched).d.thr, ∀ r1 v1 r2 v2,
      (DOp.trig r1, v1) ∈ th1.res → (DOp.trig r2, v2) ∈ th2.res → v1 ≠ 0 → v2 ≠ 0 →
      C29.reqClass cfg (hrun cfg env b pre progs sched).d r1 = C29.reqClass cfg (hrun cfg env b pre progs sched).d r2 →
      v1 = v2 ∧ ∃ (f : Nat) (fu : Fut), (hrun cfg env b pre progs sched).d.futs[f]? = some fu ∧ v1 = valOf 1 fu.shape ∧
        cfg.cls fu.shape = C29.reqClass cfg (hrun cfg env b pre progs sched).d r1 ∧
        lookup (hrun cfg env b pre progs sched).heap v1 =
          some (if pre = true ∧ fu.shape = b then env.tile else copyFor env fu.shape) := by
  intro th1 h1 th2 h2 r1 v1 r2 v2 hm1 hm2 hv1 hv2 hcl
  have hI := hinv_run cfg env b pre progs sched
  rw [hrun_d] at h1 h2 hcl ⊢
  obtain ⟨f, fu, hf, hcompl, hdat, hval, hc, -⟩ := (C29.C29_dc_values cfg b pre progs sched th1 h1 r1 v1 hm1).resolve_left hv1
  have hkey := hdat ▸ hI.compl fu (hrun_d cfg env b pre progs sched ▸ List.mem_of_getElem? hf) hcompl
  exact ⟨C29.C29_dc_one_value_per_class cfg b pre progs sched th1 h1 th2 h2 r1 v1 r2 v2 hm1 hm2 hv1 hv2 hcl,
    f, fu, hf, hval, hc, lookup_key cfg env b pre progs sched v1 fu.shape hval hkey⟩

/-! ## The interpreter of the tie and the theorems

Every view the interpreter (Model/Reshape.lean part 3) predicts is the producer's own copy or an instance of the conversion
`reshape`, so `C18_selected` applies to it; and outside finding F1 the behaviour as coded is the documented one. -/

theorem basePromise_is_reshape (p : Prog) (pc : Copy) (ot : Option Nat) :
    (basePromise p pc ot).2.1 = pc ∨ ∃ s d, (basePromise p pc ot).2.1 = ⟨d, reshape (shapeOf s) (shapeOf d) p.mb p.nb p.ld pc.mem (freshMem p)⟩ := by
  unfold basePromise
  split
  · exact Or.inl rfl
  · split
    · exact Or.inl rfl
    · exact Or.inr ⟨_, _, rfl⟩

theorem localView_is_reshape (p : Prog) (pc : Copy) (ot : Option Nat) (c : Cons) :
    (localView p pc ot c).1 = pc ∨ ∃ s d, (localView p pc ot c).1 = ⟨d, reshape (shapeOf s) (shapeOf d) p.mb p.nb p.ld pc.mem (freshMem p)⟩ := by
  unfold localView
  simp only []
  split
  · exact basePromise_is_reshape p pc ot
  · split
    · exact basePromise_is_reshape p pc ot
    · exact Or.inr ⟨_, _, rfl⟩

theorem remoteView_is_reshape (p : Prog) (w k ci : Nat) (c : Cons) :
    ∃ s d, (remoteView p w k ci c).1 = ⟨d, reshape (shapeOf s) (shapeOf d) p.mb p.nb p.ld (prodOut p k).mem (freshMem p)⟩ := by
  refine ⟨c.orr.getD (prodOut p k).dtt, recvType c, ?_⟩
  unfold remoteView
  simp only []
  split <;> rfl

/-- outside finding F1 (no producer instance has local output dependencies of different types) the behaviour as coded is
    the documented one for every local consumer -/
theorem coded_eq_doc_of_not_mixed (p : Prog) (w k : Nat) (c : Cons) (hk : k < p.nt) (hc : c ∈ p.cons) (hl : isLocal w k c = true)
    (h : mixedLocal p w = false) : localViewCoded p w k c = localViewDoc p k c := by
  simp only [mixedLocal, List.any_eq_false, Bool.not_eq_true, List.mem_range] at h
  have h1 := h k hk c hc
  simp only [hl, Bool.true_and, bne_eq_false_iff_eq] at h1
  rw [localViewCoded, h1, localViewDoc]

/-- the conversions of tests/collections/reshape on a 3 × 3 tile: lower → lower keeps positions, lower → upper moves them -/
example : reshape ⟨LOWER, 1⟩ ⟨LOWER, 1⟩ 3 3 3 [10, 11, 12, 13, 14, 15, 16, 17, 18] (List.replicate 9 0) = [10, 11, 12, 0, 14, 15, 0, 0, 18] := by decide +kernel
example : reshape ⟨LOWER, 1⟩ ⟨UPPER, 1⟩ 3 3 3 [10, 11, 12, 13, 14, 15, 16, 17, 18] (List.replicate 9 0) = [10, 0, 0, 11, 12, 0, 14, 15, 18] := by decide +kernel
/-- a smaller source region (strict lower, 3 elements) into a larger one (upper with diagonal, 6): the last three stay fresh -/
example : reshape ⟨LOWER, 0⟩ ⟨UPPER, 1⟩ 3 3 3 [10, 11, 12, 13, 14, 15, 16, 17, 18] (List.replicate 9 (-7)) = [11, -7, -7, 12, 15, -7, -7, -7, -7] := by decide +kernel
/-- hypotheses of `C18_selected` / `C18_selected_same` are satisfiable on a non-square tile with `ld > m` -/
example : (2 : Nat) ≤ 3 ∧ footprint 2 3 3 ≤ (List.replicate 9 (0 : Int)).length ∧
    region ⟨LOWER, 1⟩ 2 3 3 = region ⟨LOWER, 7⟩ 2 3 3 ∧ region ⟨LOWER, 1⟩ 2 3 3 = [0, 1, 4] := by decide +kernel

def exEnv : Env := ⟨[10, 11, 12, 13], [0, 0, 0, 0], 2, 2, 2, fun r => if r = 1 then ⟨FULL, 1⟩ else ⟨LOWER, 1⟩, fun r => if r = 2 then ⟨LOWER, 1⟩ else ⟨UPPER, 1⟩⟩

set_option maxRecDepth 20000 in
/-- non-vacuity of the protocol theorems: fulfilled base promise (shape 1), two consumers ask for shape 2 and one for
    shape 3 with synchronous fulfilment: two fresh copies after the producer's tile, the two consumers of shape 2 share -/
example : ((hrun ⟨fun x => x, fun _ => false⟩ exEnv 1 true [[.trig 2], [.trig 2], [.trig 3]]
      [0, 0, 0, 0, 0, 1, 1, 1, 1, 1, 1, 1, 2, 2, 2, 2, 2, 2, 2, 2]).heap) =
      [(101, [10, 11, 12, 13]), (102, [10, 11, 0, 13]), (103, [10, 0, 11, 13])] ∧
    ((hrun ⟨fun x => x, fun _ => false⟩ exEnv 1 true [[.trig 2], [.trig 2], [.trig 3]]
      [0, 0, 0, 0, 0, 1, 1, 1, 1, 1, 1, 1, 2, 2, 2, 2, 2, 2, 2, 2]).d.thr.map (·.res)) =
      [[(.trig 2, 102)], [(.trig 2, 102)], [(.trig 3, 103)]] := by decide +kernel

/-- PROD has two LOCAL output dependencies of the same flow with different `[type]`:
    `-> A C0(k, 0..0) [type = LO]` and `-> A C1(k, 0..0) [type = UP]`, `C1` reads `<- A PROD(k) [type = UP]`. -/
def f1Prog : Prog := ⟨3, 3, 3, 1, none, none, [⟨some 1, none, none, none, 1, 0⟩, ⟨some 3, none, some 3, none, 1, 0⟩]⟩

/-- **Finding F1 (witness).**  As coded (one `data.data_future` per flow, never reset when the type changes) C1 of `f1Prog` is
    served from C0's promise: it receives `unpack UP (pack LO tile)`, i.e. the producer's LOWER elements, instead of the
    documented `unpack UP (pack UP tile)`: its element (0, 1) is the producer's (1, 0).  Replayed on the real code by
    corpus/C18/001-mixed-local-output-types.case. -/
theorem mixed_output_types_witness :
    mixedLocal f1Prog 1 = true ∧
    (localViewCoded f1Prog 1 0 ⟨some 3, none, some 3, none, 1, 0⟩).1.mem = [1000, -7777, -7777, 1001, 1002, -7777, 1004, 1005, 1008] ∧
    (localViewDoc f1Prog 0 ⟨some 3, none, some 3, none, 1, 0⟩).1.mem = [1000, -7777, -7777, 1003, 1004, -7777, 1006, 1007, 1008] ∧
    (prodOut f1Prog 0).mem = [1000, 1001, 1002, 1003, 1004, 1005, 1006, 1007, 1008] := by decide +kernel

end ParsecVerif.C18
