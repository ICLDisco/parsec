/-
  C32 — the concurrent hash table (parsec/class/parsec_hash_table.c) is a linearizable map across
  resizes, and iteration over a quiescent table visits each stored item exactly once.

  Model: `Model/HashTable.lean` — any number of threads, any programs of insert / find / remove /
  find-or-insert (lock_bucket; nolock_find; nolock_insert; unlock_bucket), any hash function that lands
  in the table, any `max_collisions_hint` and `max_table_nb_bits`, EVERY schedule, one step per
  synchronisation action of the real code (lock of a bucket with the lock-protected work, fetch-dec of
  `used_buckets`, CAS of a `next` pointer, the racy read `head = cur->next`, each unlock, each
  operation of the read-write lock).
  Hypotheses, explicit in the model:
  * the read-write lock satisfies its specification (property C33): a writer is admitted only when
    nobody is inside, a reader only when no writer is inside; waiting is arbitrary (any schedule);
  * caller discipline ("unique-key usage"): a key managed with `parsec_hash_table_insert` is inserted
    only while no earlier insert of it is outstanding; the other keys are managed with the
    find-or-insert idiom only; the discipline is decided on caller-side bookkeeping, a call outside
    it is not issued (`rejected`);
  * `key_equal` is equality of keys and `key_hash` a function of the key; sequentially consistent
    memory; tables are never freed before `fini`.
-/
import ParsecVerif.Proofs.HashTableMain
import ParsecVerif.Proofs.HashTableForAll

namespace ParsecVerif.C32
open ParsecVerif.HashTable

/-- `S` is a linearization of the execution that led to state `s` of configuration `c`. -/
structure Linearization (c : Config) (s : State) (S : List LinRec) : Prop where
  /-- `S` is a legal history of the sequential map `Key ⇀ Item` started empty (`find` returns the
      item stored under the key or NULL, `remove` returns it and deletes it, `insert` adds an absent
      key, find-or-insert returns the stored item or stores its own); it ends in the ghost map -/
  legal : Spec.replay [] (S.map LinRec.ev) = some s.m.abs
  /-- the ghost map is exactly what the tables hold plus what a `find` or find-or-insert is moving
      to the top-level table at this moment, under pairwise distinct keys -/
  store : (∀ it, it ∈ s.m.abs ↔ Stored s.m it ∨ InFlight s.thr it) ∧ s.m.abs.Pairwise (fun a b => a.key ≠ b.key)
  /-- thread `t`'s part of `S` = its completed operations with their results, in program order
      (followed by its operation that has taken effect but not yet returned, if any) -/
  perThread : ∀ t th, s.thr[t]? = some th →
    S.filter (fun l => l.tid == t) = th.hist.map (OpRec.lin t) ++ pending t th
  /-- the thread's operations are its program: completed ++ running ++ remaining -/
  program : ∀ t th, s.thr[t]? = some th →
    th.hist.map (fun r => r.op) ++ running th ++ th.todo = c.progs.getD t []
  threads : s.thr.length = c.progs.length
  /-- real-time order: an operation that returned (step stamp `tRet`) before another one was invoked
      (`tInv`) comes first in `S` -/
  realTime : ∀ (i : Nat) (thi : Thread) (a : OpRec), s.thr[i]? = some thi → a ∈ thi.hist → ∀ b ∈ S, a.tRet < b.tInv → Before S (a.lin i) b
  /-- every entry of `S` took effect between its invocation and (if it returned) its return -/
  stamps : (∀ l ∈ S, l.tInv ≤ l.tLin) ∧ ∀ (t : Nat) (th : Thread), s.thr[t]? = some th → ∀ r ∈ th.hist, r.tLin ≤ r.tRet

/-- **The hash table refines a map**, for every well-formed configuration (any hash function into
    the table, any thresholds, any number of threads with any programs) and EVERY schedule of micro
    steps — across any number of resizes and with items migrating from older tables: there is a
    sequential map history with the same per-thread operations and results that respects the
    real-time order, and it ends in the content of the tables plus the items that a `find` or
    find-or-insert is carrying from an older table to the top-level one. -/
theorem C32_refines_map (c : Config) (hc : c.WF) (sched : List Nat) :
    ∃ S, Linearization c (run c sched) S := by
  have h := Inv.run c hc sched
  refine ⟨(run c sched).lins, h.spec, ⟨fun it => ⟨h.g.ab.absOut it, ?_⟩, h.g.ab.absKeys⟩, fun t th ht => (h.th t th ht).lins,
    fun t th ht => (h.th t th ht).prog, h.len, ?_, h.stamp, fun t th ht r hr => ((h.th t th ht).time.hist r hr).2.1⟩
  · rintro (hs | ⟨t, a, ha, hm, hh⟩)
    · exact h.g.ab.absIn it hs
    · exact (inHand_holds (h.th t a ha).tinv hh).2.2 hm
  · intro i thi a hi ha b hb hab
    have hti := (h.th i thi hi)
    have ha' : a.lin i ∈ (run c sched).lins := by
      have : a.lin i ∈ linsOf i thi := List.mem_append_left _ (List.mem_map_of_mem ha)
      rw [← hti.lins] at this
      exact (List.mem_filter.1 this).1
    have h1 := hti.time.hist a ha
    have h2 := h.stamp b hb
    exact Interleave.before_of_pairwise (f := (·.tLin)) h.sorted ha' hb (by show a.tLin < b.tLin; omega)

/-- when every thread has finished, the sequential history consists exactly of the threads' whole
    programs with the results they returned, and the map it ends in is exactly what the tables hold -/
theorem C32_refines_map_complete (c : Config) (hc : c.WF) (sched : List Nat)
    (hfin : ∀ th ∈ (run c sched).thr, th.pc = .idle ∧ th.todo = []) :
    ∃ S, Linearization c (run c sched) S ∧
      (∀ t th, (run c sched).thr[t]? = some th →
        S.filter (fun l => l.tid == t) = th.hist.map (OpRec.lin t) ∧ th.hist.map (fun r => r.op) = c.progs.getD t []) ∧
      ∀ it, it ∈ (run c sched).m.abs ↔ Stored (run c sched).m it := by
  obtain ⟨S, hS⟩ := C32_refines_map c hc sched
  refine ⟨S, hS, fun t th ht => ?_, fun it => ?_⟩
  · have hf := hfin th (List.mem_of_getElem? ht)
    have h1 := hS.perThread t th ht
    have h2 := hS.program t th ht
    simp only [pending, hf.1, hf.2, running, Pc.linRes, List.append_nil, if_true] at h1 h2
    exact ⟨h1, h2⟩
  · rw [hS.store.1 it]
    constructor
    · rintro (h | ⟨t, a, ha, _, hh⟩)
      · exact h
      · rw [(hfin a (List.mem_of_getElem? ha)).1] at hh; cases hh
    · exact Or.inl

/-- **The store is a map**, in every reachable state: every chained item sits in the bucket of its
    key, `cur_len` is the length of the chain, no item is chained twice (neither in one chain nor in
    two buckets or tables), two chained items have different keys, and every table that holds an
    item is linked from the top-level table (what `for_all` and the look-ups follow). -/
theorem C32_store_is_map (c : Config) (hc : c.WF) (sched : List Nat) :
    (∀ T b it, Tin (run c sched).m T → it ∈ ((run c sched).m.bk T b).items → b = (run c sched).m.hf it.key T ∧ b < 2 ^ T) ∧
    (∀ T b, Tin (run c sched).m T → ((run c sched).m.bk T b).len = (((run c sched).m.bk T b).items.length : Int) ∧
        ((run c sched).m.bk T b).items.Nodup) ∧
    (∀ T T' b b' it it', Tin (run c sched).m T → Tin (run c sched).m T' → it ∈ ((run c sched).m.bk T b).items →
        it' ∈ ((run c sched).m.bk T' b').items → it.key = it'.key → T = T' ∧ b = b' ∧ it = it') ∧
    (∀ T, Tin (run c sched).m T → ¬ EmptyT (run c sched).m T →
        T ∈ chain (run c sched).m ((run c sched).m.top + 1) (run c sched).m.top) := by
  have h := Inv.run c hc sched
  generalize run c sched = s at h
  have st := h.g.st
  refine ⟨fun T b it hT hit => ?_, fun T b hT => ⟨st.len T b hT, st.nodup T b hT⟩, ?_, fun T hT hne => ?_⟩
  · have := st.place T b it hT hit
    exact ⟨this, by rw [this]; exact st.hfr _ _⟩
  · intro T T' b b' it it' hT hT' h1 h2 hk
    have a1 := h.g.ab.absIn it ⟨T, b, hT, h1⟩
    have a2 := h.g.ab.absIn it' ⟨T', b', hT', h2⟩
    have he := eq_of_key_eq h.g.ab.absKeys a1 a2 hk
    subst he
    have hTT := st.once T T' b b' it hT hT' h1 h2
    subst hTT
    exact ⟨rfl, (st.place T b it hT h1).trans (st.place T b' it hT' h2).symm, rfl⟩
  · exact chain_covers st _ _ st.tin_top (by omega) T hT hT.2 hne

/-- **Quiescent iteration**: in every reachable state in which no operation is in progress,
    `parsec_hash_table_for_all` (following `next` from the top-level table, every bucket of every
    table reached) passes exactly the items of the map to the callback, each exactly once. -/
theorem C32_for_all (c : Config) (hc : c.WF) (sched : List Nat)
    (hq : ∀ th ∈ (run c sched).thr, th.pc = .idle) :
    (forAll (run c sched).m).Perm (run c sched).m.abs ∧ (forAll (run c sched).m).Nodup :=
  forAll_perm (Inv.run c hc sched).g hq

/-- **The lock protocol serialises the operations on one key**: in every reachable state two
    different threads inside their top-level critical sections work on different buckets of the
    SAME top-level table (no resize can happen while a reader is inside: a writer excludes every
    other reader and writer), hence on different keys; a thread that carries an item between two
    tables holds the top-level bucket of that item's key. -/
theorem C32_atomic_sections (c : Config) (hc : c.WF) (sched : List Nat) :
    (∀ (t t' : Nat) (th th' : Thread), (run c sched).thr[t]? = some th → (run c sched).thr[t']? = some th' → t ≠ t' →
        holdsTopPc th.pc = true → holdsTopPc th'.pc = true →
        (run c sched).m.hf th.op.key (run c sched).m.top ≠ (run c sched).m.hf th'.op.key (run c sched).m.top ∧ th.op.key ≠ th'.op.key) ∧
    (∀ (t t' : Nat) (th th' : Thread), (run c sched).thr[t]? = some th → (run c sched).thr[t']? = some th' → th.pc.isWriter = true →
        (th'.pc.isReader = true ∨ th'.pc.isWriter = true) → t = t') ∧
    (∀ (t : Nat) (th : Thread) (it : Item), (run c sched).thr[t]? = some th → th.pc.inHand = some it →
        ((run c sched).m.bk (run c sched).m.top ((run c sched).m.hf it.key (run c sched).m.top)).lock = t + 1 ∧ ¬ Stored (run c sched).m it) := by
  have h := Inv.run c hc sched
  generalize run c sched = s at h
  refine ⟨?_, h.g.excl, fun t th it ht hh =>
    have g := inHand_holds (h.th t th ht).tinv hh
    ⟨g.1, g.2.1⟩⟩
  intro t t' th th' ht ht' hne hp hp'
  have h1 := (h.th t th ht).tinv.holdsTop hp
  have h2 := (h.th t' th' ht').tinv.holdsTop hp'
  unfold HoldsTop at h1 h2
  have hb : s.m.hf th.op.key s.m.top ≠ s.m.hf th'.op.key s.m.top := by
    intro he
    rw [he, h2] at h1
    exact hne (Nat.succ.inj h1).symm
  exact ⟨hb, fun hk => hb (by rw [hk])⟩

/-- a step of the cooperative scheduler as the model has it (`macroStep`: the released thread runs on
    from its park point) is a run of micro steps of that thread, so a state reached from `init c` by
    such steps is `run c sched` for some `sched` and the theorems above hold of it.  That a step of the
    real scheduler is `macroStep` is what the run-time comparison tests. -/
theorem C32_macro_is_micro (c : Config) (msched : List (Nat × Bool)) :
    ∃ sched, msched.foldl (fun s p => macroStep s p.1 p.2) (init c) = run c sched := by
  suffices ∀ s0 : State, ∃ sched : List Nat, msched.foldl (fun s p => macroStep s p.1 p.2) s0 = sched.foldl step s0 from this _
  induction msched with
  | nil => intro s0; exact ⟨[], rfl⟩
  | cons p r ih =>
    intro s0
    obtain ⟨n, hn⟩ := macroStep_micro s0 p.1 p.2
    obtain ⟨sched, hs⟩ := ih (macroStep s0 p.1 p.2)
    refine ⟨List.replicate n p.1 ++ sched, ?_⟩
    rw [List.foldl_cons, hs, hn, List.foldl_append]

/-- `rehash`, the model's transcription of `parsec_hash_table_universal_rehash`, lands in the table
    (the C code asserts it of the original) -/
theorem rehash_lt (h64 nb : Nat) : rehash h64 nb < 2 ^ nb := HashTable.rehash_lt h64 nb

/-- the configurations the harness runs are well formed -/
theorem mkConfig_WF (hmode : Nat) (hint maxb : Int) (nb0 : Nat) (progs : List (List Op)) (h : 1 ≤ nb0) :
    (mkConfig hmode hint maxb nb0 progs).WF := by
  refine ⟨h, fun k nb => ?_⟩
  show hfOf hmode k nb < 2 ^ nb
  unfold hfOf
  split <;> exact HashTable.rehash_lt _ _

/-- one thread, `max_collisions_hint = 1`, keys 2, 4, 6 (2 and 6 collide at one bit): the third insert
    resizes, the find migrates key 2 from the old table, the remove empties a bucket of the old table,
    the find-or-insert of key 3 lands on the bucket of key 2 and resizes again. -/
def exCfg : Config := mkConfig 0 1 5 1 [[.ins 2 1, .ins 4 2, .ins 6 3, .find 2, .rem 6, .foi 3 4]]

def exState : State := run exCfg (List.replicate 60 0)

example : exCfg.WF := mkConfig_WF 0 1 5 1 _ (by decide)
example : exState.m.top = 3 ∧ (exState.m.tab 1).used = 1 ∧ (exState.m.tab 2).used = 1 := by decide +kernel
example : (exState.thr.map fun th => th.hist.map fun r => r.res) = [[.unit, .unit, .unit, .ptr 1, .ptr 3, .ptr 4]] := by decide +kernel
example : ∀ th ∈ exState.thr, th.pc = .idle ∧ th.todo = [] := by decide +kernel
example : (forAll exState.m).map (fun it => it.id) = [4, 1, 2] := by decide +kernel

/-- two threads on colliding keys, an interleaving in which thread 0 waits for thread 1's bucket -/
def exCfg2 : Config := mkConfig 0 1 5 1 [[.ins 2 1, .find 6], [.ins 6 2, .rem 2]]
def exSched2 : List Nat := [0, 0, 1, 1, 1, 0, 1, 0, 0, 1, 0, 1, 1, 0, 0, 1, 1, 0, 0, 0, 1, 1, 1, 1, 0, 0, 0, 1, 1, 1, 1, 1, 0, 0, 0, 0, 0, 1, 1, 1, 1]
example : (run exCfg2 exSched2).lins.length = 4 := by decide +kernel

end ParsecVerif.C32
