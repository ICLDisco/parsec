import ParsecVerif.Base.Interleave
import ParsecVerif.Proofs.RbTree
import ParsecVerif.Proofs.RbTreeOrder
/-!
# C36 — the red-black tree keeps order and balance

Model: `ParsecVerif.RbTree` (functional mirror of parsec/class/parsec_rbtree.c: same comparisons,
rotations, recolourings, successor choice; tied to the real tree by a structural comparison after
every operation).  One step = one API call.  Quantification: every sequence of
`parsec_rbtree_insert` (duplicate keys allowed, as in the code), `parsec_rbtree_remove` and
`parsec_rbtree_update_node` calls, every key, every node identity.

`inorder t` is the list of (key, node id) in traversal order (what `parsec_rbtree_foreach` visits).
-/
namespace ParsecVerif.C36
open ParsecVerif.RbTree

/-- binary-search-tree order (non-strict: `insert` accepts equal keys and puts them to the right)
    and the red-black invariants. -/
structure Valid (t : Tree) : Prop where
  bst : Sorted (inorder t)
  rb : RB t

def keys (t : Tree) : List Int := (inorder t).map (·.1)

inductive Op
  | ins (k : Int) (z : Nat)      -- parsec_rbtree_insert of node z carrying key k
  | rm (z : Nat)                 -- parsec_rbtree_remove of node z   (issued only if z is in the tree)
  | upd (z : Nat) (k : Int)      -- parsec_rbtree_update_node(z, k)  (issued only if z is in the tree)

def apply (t : Tree) : Op → Tree
  | .ins k z => RbTree.insert t k z
  | .rm z => if hasId z t then remove t z else t
  | .upd z k => if hasId z t then (update t z k).getD t else t

def runFrom (t : Tree) (ops : List Op) : Tree := ops.foldl apply t
def run (ops : List Op) : Tree := runFrom Tree.nil ops

theorem valid_nil : Valid Tree.nil := ⟨List.Pairwise.nil, rb_nil⟩

/-- the traversal gains (k, z) after the last key ≤ k -/
theorem insert_spec (t : Tree) (k : Int) (z : Nat) (h : Valid t) :
    inorder (RbTree.insert t k z) = insList k z (inorder t) ∧ Valid (RbTree.insert t k z) := by
  have e := inorder_insert t k z h.bst
  exact ⟨e, ⟨by rw [e]; exact sorted_insList k z _ h.bst, rb_insert t k z h.rb⟩⟩

/-- the traversal loses exactly the pair of node z, and the tree stays valid -/
theorem remove_spec (t : Tree) (z : Nat) (h : Valid t) :
    inorder (remove t z) = eraseId z (inorder t) ∧ Valid (remove t z) :=
  ⟨inorder_remove t z, ⟨by rw [inorder_remove]; exact sorted_eraseId z _ h.bst, rb_remove t z h.rb⟩⟩

/-- update_node: `PARSEC_ERR_EXISTS` (tree untouched) exactly when another node carries the new
    key; otherwise the tree is valid and holds the old (key, node) pairs with that of z replaced by
    (new, z) — on both the in-place path and the remove + insert path.  The exact traversal, which a
    permutation does not fix among equal keys, is `inorder_update`. -/
theorem update_spec (t : Tree) (z : Nat) (new : Int) (h : Valid t) (hz : hasId z t = true) :
    (update t z new = none ↔ new ∈ (eraseId z (inorder t)).map (·.1)) ∧
    (∀ t', update t z new = some t' →
        Valid t' ∧ (inorder t').Perm ((new, z) :: eraseId z (inorder t))) := by
  have := inorder_update new h.bst hz
  cases hu : update t z new with
  | none => rw [hu] at this; exact ⟨⟨fun _ => this, fun _ => rfl⟩, nofun⟩
  | some t1 =>
    rw [hu] at this
    refine ⟨⟨nofun, fun hm => absurd hm this.1⟩, fun t' ht' => ?_⟩
    cases ht'
    exact ⟨⟨this.2 ▸ sorted_insList _ _ _ (sorted_eraseId _ _ h.bst), rb_update h.rb hu⟩, this.2 ▸ insList_perm _ _ _⟩

theorem valid_apply (t : Tree) (op : Op) (h : Valid t) : Valid (apply t op) := by
  cases op with
  | ins k z => exact (insert_spec t k z h).2
  | rm z =>
    simp only [apply]; split
    · exact (remove_spec t z h).2
    · exact h
  | upd z k =>
    simp only [apply]; split
    · rename_i hz
      cases hu : update t z k with
      | none => exact h
      | some t' => exact ((update_spec t z k h hz).2 t' hu).1
    · exact h

theorem valid_runFrom (t : Tree) (h : Valid t) (ops : List Op) : Valid (runFrom t ops) :=
  Interleave.foldl_inv valid_apply ops h

/-- **C36, order.**  After any sequence of insertions, removals and key updates the in-order
    traversal is sorted: the tree is a binary search tree. -/
theorem bst (ops : List Op) : Sorted (inorder (run ops)) := (valid_runFrom _ valid_nil ops).bst

/-- **C36, red-black invariants.**  After any sequence of insertions, removals and key updates:
    the root is black, no red node has a red child, and all root-to-sentinel paths of every subtree
    carry the same number of black nodes. -/
theorem rb (ops : List Op) :
    isRed (run ops) = false ∧ NoRR (run ops) ∧ Balanced (run ops) :=
  let h := (valid_runFrom _ valid_nil ops).rb
  ⟨h.rootBlack, h.noRR, h.balanced⟩

/-- **C36, balance.**  Consequence of the invariants: a reachable tree with n nodes has height
    at most 2·log2(n+1) + 1 (the statement halves the height rounding down). -/
theorem height_bound (ops : List Op) : 2 ^ (height (run ops) / 2) ≤ size (run ops) + 1 :=
  (valid_runFrom _ valid_nil ops).rb.height_bound

/-- **C36, exact lookup** finds exactly the stored keys: on every reachable tree, `find q` returns
    a node of the tree carrying key q if some node carries q, and NULL otherwise. -/
theorem find_correct (ops : List Op) (q : Int) :
    (q ∈ keys (run ops) → ∃ i, find q (run ops) = some (q, i) ∧ (q, i) ∈ inorder (run ops)) ∧
    (q ∉ keys (run ops) → find q (run ops) = none) := by
  simp only [keys, List.mem_map]
  rcases find_spec q (run ops) (bst ops) with ⟨i, e, hm⟩ | ⟨e, hn⟩
  · exact ⟨fun _ => ⟨i, e, hm⟩, fun hq => absurd ⟨_, hm, rfl⟩ hq⟩
  · exact ⟨fun ⟨p, hp, hpq⟩ => absurd hpq (hn p hp), fun _ => e⟩

/-- **C36, lookup-or-larger** returns a node carrying the smallest stored key not below the query,
    and NULL exactly when every stored key is below the query. -/
theorem find_or_larger_correct (ops : List Op) (q : Int) :
    ((∃ k ∈ keys (run ops), q ≤ k) → ∃ m, findOrLarger q (run ops) = some m ∧ m ∈ inorder (run ops) ∧
        q ≤ m.1 ∧ ∀ k ∈ keys (run ops), q ≤ k → m.1 ≤ k) ∧
    ((∀ k ∈ keys (run ops), k < q) → findOrLarger q (run ops) = none) := by
  simp only [keys, List.mem_map, findOrLarger]
  rcases folAux_spec q (run ops) none (bst ops) with ⟨e, hall⟩ | ⟨m, e, hm, hqm, hmin⟩
  · refine ⟨fun ⟨k, ⟨p, hp, hpk⟩, hqk⟩ => ?_, fun _ => e⟩
    have := hall p hp
    omega
  · refine ⟨fun _ => ⟨m, e, hm, hqm, ?_⟩, fun hall => ?_⟩
    · rintro k ⟨p, hp, rfl⟩ hqk
      exact hmin p hp hqk
    · have := hall m.1 ⟨m, hm, rfl⟩
      omega

/-- **C36, contents**: what each operation does to the stored (key, node) pairs on a reachable tree. -/
theorem contents (ops : List Op) :
    (∀ k z, inorder (RbTree.insert (run ops) k z) = insList k z (inorder (run ops))) ∧
    (∀ z, inorder (remove (run ops) z) = eraseId z (inorder (run ops))) ∧
    (∀ z new, hasId z (run ops) = true →
      (update (run ops) z new = none ↔ new ∈ (eraseId z (inorder (run ops))).map (·.1)) ∧
      (∀ t', update (run ops) z new = some t' →
        (inorder t').Perm ((new, z) :: eraseId z (inorder (run ops))))) := by
  have hv := valid_runFrom _ valid_nil ops
  refine ⟨fun k z => (insert_spec _ k z hv).1, fun z => inorder_remove _ z, ?_⟩
  intro z new hz
  have := update_spec _ z new hv hz
  exact ⟨this.1, fun t' ht' => (this.2 t' ht').2⟩

def ids (t : Tree) : List Nat := (inorder t).map (·.2)

def freshOp (t : Tree) : Op → Prop
  | .ins _ z => hasId z t = false
  | _ => True

/-- the usage protocol of the C API: a node is never inserted while it is already in the tree -/
def FreshFrom : Tree → List Op → Prop
  | _, [] => True
  | t, op :: ops => freshOp t op ∧ FreshFrom (apply t op) ops

theorem mem_ids {t : Tree} {z : Nat} : z ∈ ids t ↔ hasId z t = true := by
  simp [ids, hasId_eq_any]

theorem ids_eraseId (z : Nat) (l : List (Int × Nat)) : (eraseId z l).map (·.2) = (l.map (·.2)).erase z := by
  rw [eraseId_eq_eraseP, List.erase_eq_eraseP, List.eraseP_map]
  exact congrArg (fun p => (l.eraseP p).map _) (funext fun p => BEq.comm)

theorem ids_nodup_apply (t : Tree) (hv : Valid t) (hn : (ids t).Nodup) (op : Op) (hf : freshOp t op) :
    (ids (apply t op)).Nodup := by
  cases op with
  | ins k z =>
    have hp : (ids (RbTree.insert t k z)).Perm (z :: ids t) := by
      unfold ids; rw [(insert_spec t k z hv).1]; exact (insList_perm k z _).map _
    show (ids (RbTree.insert t k z)).Nodup
    rw [hp.nodup_iff, List.nodup_cons]
    exact ⟨fun hm => Bool.false_ne_true (hf.symm.trans (mem_ids.1 hm)), hn⟩
  | rm z =>
    simp only [apply]; split
    · unfold ids; rw [inorder_remove]
      exact ((eraseId_sublist z _).map _).nodup hn
    · exact hn
  | upd z k =>
    simp only [apply]; split
    · next hz =>
      cases hu : update t z k with
      | none => exact hn
      | some t' =>
        have hp := (((update_spec t z k hv hz).2 t' hu).2.map (·.2)).trans
          (ids_eraseId z _ ▸ List.perm_cons_erase (mem_ids.2 hz)).symm
        exact hp.nodup_iff.2 hn
    · exact hn

/-- **node identities**: under the API's usage protocol every node is in the tree at most once, so
    `eraseId z` / "the node z" in the statements above denote one definite node. -/
theorem ids_nodup (ops : List Op) (hf : FreshFrom Tree.nil ops) : (ids (run ops)).Nodup := by
  suffices ∀ t, Valid t → (ids t).Nodup → FreshFrom t ops → (ids (runFrom t ops)).Nodup from
    this _ valid_nil List.nodup_nil hf
  clear hf
  induction ops with
  | nil => exact fun _ _ hn _ => hn
  | cons op ops ih =>
    exact fun t hv hn hf => ih _ (valid_apply t op hv) (ids_nodup_apply t hv hn op hf.1) hf.2

def demoOps : List Op :=
  [.ins 50 0, .ins 30 1, .ins 70 2, .ins 20 3, .ins 40 4, .ins 60 5, .ins 80 6, .ins 10 7, .ins 30 8, .rm 3, .upd 7 45]

open Tree Color in
theorem run_demoOps : run demoOps =
    node black (node red (node black nil 30 1 nil) 30 8 (node black nil 40 4 (node red nil 45 7 nil))) 50 0
      (node black (node red nil 60 5 nil) 70 2 (node red nil 80 6 nil)) := by decide

/-- the demo history reaches a 8-node tree with a duplicate key and a re-inserted node -/
example : keys (run demoOps) = [30, 30, 40, 45, 50, 60, 70, 80] := by rw [run_demoOps]; decide
example : Valid (run demoOps) := valid_runFrom _ valid_nil _
example : hasId 7 (run demoOps) = true := by rw [run_demoOps]; decide
example : FreshFrom Tree.nil demoOps := by simp [demoOps, FreshFrom, freshOp, apply]; decide
/-- node 7 lies between the keys 40 and 50: 47 is written in place, 65 goes through remove + insert (`isSome`
    does not tell the two apart), 60 is the key of node 5 and gives EXISTS -/
example : (update (run demoOps) 7 47).isSome = true ∧ (update (run demoOps) 7 65).isSome = true ∧
    update (run demoOps) 7 60 = none := by rw [run_demoOps]; decide
example : find 45 (run demoOps) = some (45, 7) ∧ find 46 (run demoOps) = none := by rw [run_demoOps]; decide
example : findOrLarger 46 (run demoOps) = some (50, 0) ∧ findOrLarger 81 (run demoOps) = none := by rw [run_demoOps]; decide
/-- `rm 0` takes a black leaf from under a red parent whose other child is black with no red child (case 2);
    node 7 is then a red leaf, and its removal starts no fix-up -/
example : (del 7 (run [.ins 1 0, .ins 2 1, .ins 3 2, .ins 4 3, .ins 5 4, .ins 6 5, .ins 7 6, .ins 8 7, .rm 0])).2 = DStat.ok := by decide

end ParsecVerif.C36
