import ParsecVerif.Proofs.ProfileRead
import ParsecVerif.Proofs.ProfileWrite
import ParsecVerif.Proofs.ProfileCheck
/-!
# C42 — profiling traces read back exactly as written

Model: `ParsecVerif.Profile` (mirrors parsec/parsec_binary_profile.h, the writer in
parsec/profiling.c and the reader in tools/profiling/dbpreader.c for the configured back-end:
x86-64, little endian, mmap'ed zero-filled buffers).

* `encode : Trace → Bytes` — the file the model writer produces (greedy packing of event
  records into fixed-size buffers, dictionary and thread chains, header), buffers laid out
  consecutively.
* `decode : Bytes → Option Trace` — the reader: follows the offsets stored in the file.
* `LayoutAt f t p` — `f` holds the model writer's buffers for `t` at the offsets `p` (any
  placement: the real writer places buffers in allocation order, which depends on timing).

Quantification: every trace satisfying `WellFormed` (any non-empty dictionary, any number of
streams, any non-empty event sequence per stream with payloads of the declared length, any stream
infos, any buffer size from the file header's up to 2^31, the fields within their widths in the file
format), every placement of the buffers, every list of processes.
-/
namespace ParsecVerif.C42
open ParsecVerif.Profile

/-- the file size fits `off_t`. -/
def FitsOffT (t : Trace) : Prop := (encode t).length < 9223372036854775808

/-- **Round trip.**  The reader applied to the file produced by the writer returns the trace:
    same dictionary, same streams in the same order, per stream the same events in the same
    order with the same key, flags, ids, timestamp and payload bytes. -/
theorem C42_roundtrip (t : Trace) (hwf : WellFormed t) (hsz : FitsOffT t) :
    decode (encode t) = some t :=
  decode_of_layout (encode t) t (canonPlace t) hwf hsz (layout_encode t hwf hsz)

/-- **Placement independence.**  Whatever offsets the buffers of the writer end up at (allocation
    order of concurrently tracing threads, helper-thread timing), the reader returns the trace. -/
theorem C42_decode_any_placement (f : Bytes) (t : Trace) (p : Place) (hwf : WellFormed t)
    (hf : f.length < 9223372036854775808) (hl : LayoutAt f t p) : decode f = some t :=
  decode_of_layout f t p hwf hf hl

/-- per-stream order and payloads, spelled out: the `i`-th stream read back is the `i`-th stream
    written, and its `j`-th event is the `j`-th event traced on it. -/
theorem C42_stream_order (t : Trace) (hwf : WellFormed t) (hsz : FitsOffT t) (i j : Nat)
    (s : Stream) (e : Event) (hs : t.streams[i]? = some s) (he : s.events[j]? = some e) :
    ∃ t', decode (encode t) = some t' ∧ ∃ s', t'.streams[i]? = some s' ∧ s'.hrid = s.hrid ∧
      s'.events.length = s.events.length ∧ s'.events[j]? = some e :=
  ⟨t, C42_roundtrip t hwf hsz, s, hs, rfl, rfl, he⟩

/-- two well-formed traces with the same file are the same trace: the writer loses nothing -/
theorem C42_encode_injective (t u : Trace) (ht : WellFormed t) (hu : WellFormed u)
    (hts : FitsOffT t) (hus : FitsOffT u) (h : encode t = encode u) : t = u := by
  have h1 := C42_roundtrip t ht hts
  have h2 := C42_roundtrip u hu hus
  rw [h] at h1
  rw [h1] at h2
  exact Option.some.inj h2

theorem C42_layoutAtB_sound (f : Bytes) (t : Trace) (p : Place) (h : layoutAtB f t p = true) :
    LayoutAt f t p :=
  (layoutAtB_iff f t p).1 h

/-- what the driver establishes for a real file: if the check passes for the trace the harness
    wrote, the model reader returns exactly that trace from the real bytes. -/
theorem C42_checked_file_decodes (f : Bytes) (t : Trace) (p : Place) (hwf : WellFormed t)
    (hf : f.length < 9223372036854775808) (h : layoutAtB f t p = true) : decode f = some t :=
  decode_of_layout f t p hwf hf (C42_layoutAtB_sound f t p h)

theorem decodeList_map_encode (ts : List Trace) (h : ∀ t ∈ ts, WellFormed t ∧ FitsOffT t) :
    decodeList (ts.map encode) = some ts := by
  induction ts with
  | nil => rfl
  | cons t ts ih =>
    have ht := h t (by simp)
    simp only [List.map_cons, decodeList, C42_roundtrip t ht.1 ht.2,
      ih (fun u hu => h u (by simp [hu]))]

/-- the files of all processes of one run (same application id, same buffer size) are read back
    as the list of their traces. -/
theorem C42_roundtrip_all (ts : List Trace) (h : ∀ t ∈ ts, WellFormed t ∧ FitsOffT t)
    (hrun : sameRun ts = true) : decodeAll (ts.map encode) = some ts := by
  simp [decodeAll, decodeList_map_encode ts h, hrun]

/-- **Dictionary merge.**  After merging the dictionary `d` of a file into the global table `g`,
    every local key id `i` is mapped to a global entry with the same name, info length and
    convertor — so payload lengths computed through the global table (as `DBP_EVENT_LENGTH`
    does) are those of the file's own dictionary — and earlier global ids stay valid. -/
theorem C42_merge_dict_sound (g d : List KeyDef) (i : Nat) (k : KeyDef) (h : d[i]? = some k) :
    (∃ j x, (mergeDict g d).2[i]? = some j ∧ (mergeDict g d).1[j]? = some x ∧ sameKey x k = true) ∧
    ∃ r, (mergeDict g d).1 = g ++ r := by
  refine ⟨?_, mergeDict_prefix g d⟩
  induction d generalizing g i with
  | nil => simp at h
  | cons k0 ks ih =>
    cases i with
    | zero =>
      simp only [List.getElem?_cons_zero, Option.some.injEq] at h
      subst h
      obtain ⟨⟨x, hx, hs⟩, _⟩ := mergeOne_spec g k0
      obtain ⟨r, hr⟩ := mergeDict_prefix (mergeOne g k0).1 ks
      refine ⟨(mergeOne g k0).2, x, by simp [mergeDict], ?_, hs⟩
      simp only [mergeDict, hr]
      rw [List.getElem?_append_left (List.getElem?_eq_some_iff.1 hx).1]; exact hx
    | succ i =>
      simp only [List.getElem?_cons_succ] at h
      obtain ⟨j, x, hj, hx, hs⟩ := ih (mergeOne g k0).1 i h
      exact ⟨j, x, by simpa [mergeDict] using hj, by simpa [mergeDict] using hx, hs⟩

/-! ### non-vacuity: a two-stream trace whose event chains span several buffers -/

def exDict : List KeyDef :=
  [⟨[78, 47, 65], [102, 105, 108, 108, 58, 35, 48, 48, 48, 48, 48, 48], [], 0⟩,
   ⟨[97], [102, 105, 108, 108, 58, 35, 70, 70, 48, 48, 48, 48], [120, 123, 105, 125], 5⟩,
   ⟨[98, 98], [102, 105, 108, 108, 58, 35, 48, 48, 70, 70, 48, 48], [], 0⟩]

def exEvents (n : Nat) : List Event :=
  (List.range n).map (fun i =>
    if i % 3 = 0 then ⟨2, 1, 7, i, 100 + i, [i, 1, 2, 3, 255]⟩
    else if i % 3 = 1 then ⟨3, 2, 7, i, 100 + i, []⟩
    else ⟨4, 0, 0, 2 ^ 40 + i, 100 + i, []⟩)

def exTrace : Trace :=
  ⟨256, [97, 112, 112], 3, exDict,
   [⟨[116, 48], [⟨[107], [118, 97, 108]⟩], exEvents 20⟩, ⟨[116, 49], [], exEvents 9⟩]⟩

theorem exTrace_wf : WellFormed exTrace := by decide +kernel
example : WellFormed exTrace := exTrace_wf
example : (evChunks 256 ⟨[116, 48], [], exEvents 20⟩).length = 3 := by decide +kernel
example : (dictChunks exTrace).length = 3 := by decide +kernel
/-- ten buffers of 256 bytes; only the number of buffers is computed -/
theorem exTrace_length : (encode exTrace).length = 2560 := by
  rw [encode_length exTrace_wf]; decide +kernel
example : (encode exTrace).length = 2560 := exTrace_length
theorem exTrace_fits : FitsOffT exTrace := by
  simp only [FitsOffT, exTrace_length]; decide
-- the round trip instantiated, then evaluated by the kernel without the theorem
example : decode (encode exTrace) = some exTrace := C42_roundtrip exTrace exTrace_wf exTrace_fits
example : decode (encode exTrace) = some exTrace := by decide +kernel
example : layoutAtB (encode exTrace) exTrace (canonPlace exTrace) = true :=
  (layoutAtB_iff ..).2 (layout_encode exTrace exTrace_wf exTrace_fits)
example : sameRun [exTrace, { exTrace with rank := 4 }] = true := by decide +kernel
example : (mergeDict exDict [⟨[98, 98], [], [], 0⟩, ⟨[99], [], [], 8⟩]).2 = [2, 3] := by decide +kernel

/-! ### the hypotheses are needed: the format truncates names to 63 bytes (model-level witness
    of a limit of the real format, replayed on the real code by `corpus/C42/910-limit-long-names.case`) -/

def longName : Bytes := List.replicate 64 97

example : ¬ WellFormed { exTrace with dict := exDict ++ [⟨longName, [102, 105, 108, 108, 58, 35, 48, 48, 48, 48, 48, 48], [], 0⟩] } := by
  decide +kernel

/-- a key name of 64 bytes is read back cut to 63: the 64-byte name field keeps room for the NUL -/
theorem C42_name_truncated : (decKey (encKey ⟨longName, [], [], 0⟩)).map (·.1.name) = some (List.replicate 63 97) := by
  decide +kernel

end ParsecVerif.C42
