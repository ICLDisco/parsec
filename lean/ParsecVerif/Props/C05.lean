import ParsecVerif.Proofs.DistRtLive
import ParsecVerif.Proofs.DistRtTerm
import ParsecVerif.Props.Runtime
import ParsecVerif.Props.C13
import ParsecVerif.Model.PtgDist
/-!
# C05 — distributed PTG results do not depend on process count or message path

Model: `ParsecVerif.DistRt` (Model/DistRt.lean): the generic dataflow machine of `Model/Dataflow.lean` run on
`nranks` processes.  Nodes are partitioned by an arbitrary placement function; a node reads its inputs from
the copies held by its own rank; dependencies between ranks travel through C13's collective-activation
machine (`RemoteDep.Cfg` built per completed node by `cfgOf`: star / chain / binomial) with a value-preserving
transport that is eager or rendezvous, chosen nondeterministically within the short-message limit.

Quantification of the theorems: every labelled task graph whose nodes are numbered in a topological order
(`DGraph.WF`; for the graph `graphOfProg p` of a PTG program it is a hypothesis of `C05_program_partial`, which the
driver evaluates on every case), every deterministic body function
`F`, every number of processes `1 ≤ nranks ≤ 2^31`, every placement function, every topology, every short
limit and payload sizes, every AGAIN budget, and every run = every sequence of enabled transitions
(start / AGAIN / finish / local release / activation arrival (eager or not) / payload arrival).

* `C05_values_never_wrong` — SAFETY, unconditional: at every moment of every run every completed node holds
  the value of the sequential reference `seqRun`, and so does every copy held by any rank.
* `C05_rank_invariance_partial` — if every collective activation of the configuration satisfies `dataOK` (C13's
  decidable predicate `deliveryOK` restricted to the outputs that carry data), every maximal run ends with all
  processes terminated and the store of `seqRun`; `C05_rank_invariance_deliveryOK` has `deliveryOK` itself as hypothesis,
  and `C05_star` none: the star topology always satisfies it.
* `C05_step_decreases` — every enabled transition of a reachable state decreases a natural measure.
* `C05_deadlock_free` — the progress half of `C05_rank_invariance_partial` by itself.
* `C05_configurations_agree` — two terminated runs under any two configurations hold the same values, without
  reference to `seqRun` and without side condition: `Runtime.values_schedule_independent` composed with
  `dist_run_is_run`, the projection of a distributed run onto a single-process run.
* `C05_program_partial` — `C05_rank_invariance_partial` on the graph and placement of a PTG program (`Model/PtgDist.lean`).
* `C05_rank_invariance` — the property as stated (no side condition): FALSE of the code,
  `C05_rank_invariance_false` with the 3-rank witness of DESIGN.md 5.2 (chain topology loses output 1).
-/
namespace ParsecVerif.C05
open ParsecVerif.Dataflow ParsecVerif.DistRt
open ParsecVerif.RemoteDep hiding St

variable {g : DGraph} {cf : Conf} {F : Nat → List (Option Nat) → Nat}

/-- **Safety (no side condition)**, also when a relay does not send an output on (`C05_rank_invariance_false`): a
    distributed run can stop short, it never computes something else. -/
theorem C05_values_never_wrong (hwf : g.WF) (hcf : cf.WF g) (again : List Nat) (ts : List DTr) :
    (∀ i : Nat, (drun g cf F again ts).core.status[i]? = some Status.ended →
        (drun g cf F again ts).core.val[i]? = (seqRun g.graph F)[i]?) ∧
    (∀ r i v, look (drun g cf F again ts).store (r, i) = some v → (seqRun g.graph F)[i]? = some (some v)) :=
  (dinv_run hwf hcf ts).values_ok hwf

/-- **No deadlock:** when every collective activation satisfies `dataOK`, a reachable state in which some process has
    not terminated has an enabled transition. -/
theorem C05_deadlock_free (hwf : g.WF) (hcf : cf.WF g) (hok : dataOKAll g cf = true) (again : List Nat)
    (ts : List DTr) (hq : ¬ allTerminate g (drun g cf F again ts)) :
    ∃ t, denabled cf (drun g cf F again ts) t = true :=
  dprogress hwf hcf hok (dinv_run hwf hcf ts) hq

theorem C05_step_decreases (hwf : g.WF) (hcf : cf.WF g) (again : List Nat) (ts : List DTr) (t : DTr)
    (hen : denabled cf (drun g cf F again ts) t = true) :
    dmu g cf (drun g cf F again (ts ++ [t])) < dmu g cf (drun g cf F again ts) := by
  rw [drun, List.foldl_append]
  exact dstep_decreases hwf hcf (dinv_run (F := F) (again := again) hwf hcf ts) t hen

theorem dist_run_is_run (hwf : g.WF) (hcf : cf.WF g) (again : List Nat) (ts : List DTr) :
    ∃ ts', (drun g cf F again ts).core = Dataflow.run g.graph F again ts' :=
  (dinv_run (F := F) (again := again) hwf hcf ts).gen

/-- **C05 (partial form).**  For a well-formed graph whose every collective activation satisfies `dataOK`
    (`deliveryOK` on the data outputs) for the configured topology: for every number of ranks, placement function,
    short limit, payload sizes, AGAIN budget and every maximal run, every process terminates (all tasks done, nothing
    pending, nothing in flight) and the final values — at the nodes and in every copy held by any rank — are those of
    `seqRun`. -/
theorem C05_rank_invariance_partial (hwf : g.WF) (hcf : cf.WF g) (hok : dataOKAll g cf = true)
    (again : List Nat) (ts : List DTr) (hmax : ∀ t, denabled cf (drun g cf F again ts) t = false) :
    (∀ i, i < g.n → (drun g cf F again ts).core.val[i]? = (seqRun g.graph F)[i]?) ∧
    allTerminate g (drun g cf F again ts) ∧
    (∀ r i v, look (drun g cf F again ts).store (r, i) = some v → (seqRun g.graph F)[i]? = some (some v)) := by
  have hterm : allTerminate g (drun g cf F again ts) :=
    Classical.byContradiction fun hq => by
      obtain ⟨t, ht⟩ := C05_deadlock_free hwf hcf hok again ts hq
      rw [hmax t] at ht; cases ht
  have hG := (dinv_run (F := F) (again := again) hwf hcf ts).ginv hwf
  exact ⟨quiescent_vals_eq_seqRun (graph_fw g hwf) hG hterm.1, hterm, (C05_values_never_wrong hwf hcf again ts).2⟩

/-- under C13's own predicate as hypothesis (`deliveryOK` of every collective activation, which implies `dataOK`) -/
theorem C05_rank_invariance_deliveryOK (hwf : g.WF) (hcf : cf.WF g) (hok : deliveryOKAll g cf = true)
    (again : List Nat) (ts : List DTr) (hmax : ∀ t, denabled cf (drun g cf F again ts) t = false) :
    (∀ i, i < g.n → (drun g cf F again ts).core.val[i]? = (seqRun g.graph F)[i]?) ∧
    allTerminate g (drun g cf F again ts) :=
  let h := C05_rank_invariance_partial (F := F) hwf hcf (dataOKAll_of_deliveryOKAll hok) again ts hmax
  ⟨h.1, h.2.1⟩

/-- the star topology always satisfies the hypothesis: C05 holds unconditionally under `runtime_comm_coll_bcast = 0` -/
theorem C05_star (hwf : g.WF) (hcf : cf.WF g) (hstar : cf.topo = Topo.star)
    (again : List Nat) (ts : List DTr) (hmax : ∀ t, denabled cf (drun g cf F again ts) t = false) :
    (∀ i, i < g.n → (drun g cf F again ts).core.val[i]? = (seqRun g.graph F)[i]?) ∧
    allTerminate g (drun g cf F again ts) :=
  C05_rank_invariance_deliveryOK hwf hcf
    (List.all_eq_true.2 fun a _ => C13.star_ok _ (by rw [cfgOf, hstar]; rfl)) again ts hmax

/-- **Two configurations agree:** two terminated runs of the same graph — different numbers of processes, placements,
    topologies, short limits, AGAIN budgets, interleavings — end with the same value at every node. -/
theorem C05_configurations_agree (hwf : g.WF) {cf1 cf2 : Conf} (h1 : cf1.WF g) (h2 : cf2.WF g)
    (ag1 ag2 : List Nat) (ts1 ts2 : List DTr)
    (hq1 : allTerminate g (drun g cf1 F ag1 ts1)) (hq2 : allTerminate g (drun g cf2 F ag2 ts2)) :
    ∀ i, i < g.n → (drun g cf1 F ag1 ts1).core.val[i]? = (drun g cf2 F ag2 ts2).core.val[i]? := by
  obtain ⟨t1, e1⟩ := dist_run_is_run (F := F) hwf h1 ag1 ts1
  obtain ⟨t2, e2⟩ := dist_run_is_run (F := F) hwf h2 ag2 ts2
  rw [e1, e2]
  exact Runtime.values_schedule_independent (graph_WF g hwf) ag1 ag2 t1 t2 (e1 ▸ hq1.1) (e2 ▸ hq2.1)

theorem placeOfProg_lt (p : Ptg.Program) (nt : Nat) (table : List Nat) (nranks : Nat) (hn : 0 < nranks) (i : Nat) :
    PtgDist.placeOfProg p nt table nranks i < nranks := by
  unfold PtgDist.placeOfProg
  split
  · unfold PtgDist.ownerOf; split <;> exact Nat.mod_lt _ hn
  · exact hn

/-- **C05 for PTG programs (partial form).**  For a program of the JDF subset whose task graph (`graphOfProg`: the
    instances in enumeration order, one labelled edge per edge of the successor iterators) is numbered topologically
    (hypothesis `hwf`, which the driver evaluates on every case), placed by ANY distribution table over
    the tiles, on any number of processes: if `dataOK` holds for every collective activation under the configured
    topology, every maximal run of the distributed runtime terminates everywhere with the values of the sequential
    execution in enumeration order, whatever the bodies compute. -/
theorem C05_program_partial (p : Ptg.Program) (nt : Nat) (table : List Nat) (topo : Topo) (nranks short : Nat)
    (hn : 0 < nranks) (hn2 : nranks ≤ 2 ^ 31) (hwf : (PtgDist.graphOfProg p).WF)
    (hok : dataOKAll (PtgDist.graphOfProg p) (PtgDist.confOf p nt table topo nranks short) = true)
    (F : Nat → List (Option Nat) → Nat) (again : List Nat) (ts : List DTr)
    (hmax : ∀ t, denabled (PtgDist.confOf p nt table topo nranks short)
      (drun (PtgDist.graphOfProg p) (PtgDist.confOf p nt table topo nranks short) F again ts) t = false) :
    (∀ i, i < (PtgDist.graphOfProg p).n →
      (drun (PtgDist.graphOfProg p) (PtgDist.confOf p nt table topo nranks short) F again ts).core.val[i]? =
        (seqRun (PtgDist.graphOfProg p).graph F)[i]?) ∧
    allTerminate (PtgDist.graphOfProg p) (drun (PtgDist.graphOfProg p) (PtgDist.confOf p nt table topo nranks short) F again ts) :=
  let h := C05_rank_invariance_partial (F := F) hwf
    (⟨hn, hn2, fun i _ => placeOfProg_lt p nt table nranks hn i⟩ : (PtgDist.confOf p nt table topo nranks short).WF _) hok again ts hmax
  ⟨h.1, h.2.1⟩

/-- The statement of C05 without side condition. -/
def C05_rank_invariance : Prop :=
  ∀ (g : DGraph) (cf : Conf) (F : Nat → List (Option Nat) → Nat) (again : List Nat) (ts : List DTr),
    g.WF → cf.WF g → (∀ t, denabled cf (drun g cf F again ts) t = false) →
    (∀ i, i < g.n → (drun g cf F again ts).core.val[i]? = (seqRun g.graph F)[i]?) ∧ allTerminate g (drun g cf F again ts)

/-- DESIGN.md 5.2: task 0 on rank 0; output 0 feeds tasks 1 (rank 1) and 2 (rank 2), output 1 feeds task 2 only -/
def g52 : DGraph := ⟨3, 2, [(0, 1, 0), (0, 2, 0), (0, 2, 1)], []⟩
def cf52 : Conf := ⟨.chain, 3, fun i => i, 0, fun _ => 1⟩
def F52 : Nat → List (Option Nat) → Nat := fun i ins => i + 1 + (ins.map (·.getD 0)).sum

/-- the run: 0 completes, its activation reaches rank 1, rank 1 relays to rank 2 (output 0 only), task 1 runs -/
def run52 : List DTr :=
  [.start 0, .finish 0, .recvAct 0 ⟨0, 1, [0]⟩ false, .recvData 0 ⟨0, 1, [0]⟩,
   .recvAct 0 ⟨1, 2, [0]⟩ false, .recvData 0 ⟨1, 2, [0]⟩, .start 1, .finish 1]

theorem wf52 : g52.WF ∧ cf52.WF g52 :=
  ⟨by decide, by decide, by decide, fun _ hi => hi⟩

theorem state52 :
    (drun g52 cf52 F52 [] run52).core.status = [.ended, .ended, .waiting] ∧
    (drun g52 cf52 F52 [] run52).core.pending = [(0, 2)] ∧
    (drun g52 cf52 F52 [] run52).xfer = [] ∧
    ((drun g52 cf52 F52 [] run52).coll.all fun e => (inflightOf (drun g52 cf52 F52 [] run52) e.1).isEmpty) = true ∧
    (cfgOf g52 cf52 0).deliveryOK = false := by decide +kernel

/-- task 2 waits for an output nobody sends -/
theorem stuck52 : ∀ t, denabled cf52 (drun g52 cf52 F52 [] run52) t = false := by
  obtain ⟨hs, hp, hx, hc, _⟩ := state52
  exact not_enabled_of _ _ (by rw [hs]; decide) (by rw [hp]; decide) hx hc

/-- **The unconditional statement is false**: on 3 ranks under the chain topology the run above is maximal and
    task 2 never runs (output 1 is lost: `¬ deliveryOK`, C13). -/
theorem C05_rank_invariance_false : ¬ C05_rank_invariance := by
  intro h
  have := (h g52 cf52 F52 [] run52 wf52.1 wf52.2 stuck52).2.1.1
  rw [state52.2.1] at this
  cases this

/-- `cf52` with the star topology, under which `g52` satisfies the hypothesis; `run52star` is a maximal run
    (`maximal52star`) and ends with the reference values (second `example` below) -/
def cf52star : Conf := { cf52 with topo := .star }
def run52star : List DTr :=
  [.start 0, .finish 0, .recvAct 0 ⟨0, 2, [0, 1]⟩ false, .recvAct 0 ⟨0, 1, [0]⟩ false, .recvData 0 ⟨0, 1, [0]⟩,
   .start 1, .recvData 0 ⟨0, 2, [0, 1]⟩, .start 2, .finish 2, .finish 1]

/-- `g52` with output 1 a control flow: `deliveryOK` fails, `dataOK` holds, and `run52ctl` under the chain topology
    ends with every task done (first `example` below), since the receiver releases a control dependency from the
    propagation mask of the header -/
def g52ctl : DGraph := { g52 with ctl := [(0, 1)] }
def run52ctl : List DTr :=
  [.start 0, .finish 0, .recvAct 0 ⟨0, 1, [0]⟩ false, .recvData 0 ⟨0, 1, [0]⟩,
   .recvAct 0 ⟨1, 2, [0]⟩ false, .recvData 0 ⟨1, 2, [0]⟩, .start 1, .finish 1, .start 2, .finish 2]

example : deliveryOKAll g52ctl cf52 = false ∧ dataOKAll g52ctl cf52 = true ∧
    (drun g52ctl cf52 F52 [] run52ctl).core.status = [.ended, .ended, .ended] ∧
    (drun g52ctl cf52 F52 [] run52ctl).core.pending = [] := by decide +kernel

example : g52.WF ∧ deliveryOKAll g52 cf52star = true ∧
    (drun g52 cf52star F52 [] run52star).core.status = [.ended, .ended, .ended] ∧
    (drun g52 cf52star F52 [] run52star).core.pending = [] ∧
    (drun g52 cf52star F52 [] run52star).core.val = seqRun g52.graph F52 ∧
    seqRun g52.graph F52 = [some 1, some 3, some 5] := by decide +kernel

/-- the hypotheses of `C05_rank_invariance_partial` are satisfiable together: the star run above is maximal -/
theorem state52star :
    (drun g52 cf52star F52 [] run52star).core.status = [.ended, .ended, .ended] ∧
    (drun g52 cf52star F52 [] run52star).core.pending = [] ∧
    (drun g52 cf52star F52 [] run52star).xfer = [] ∧
    ((drun g52 cf52star F52 [] run52star).coll.all fun e => (inflightOf (drun g52 cf52star F52 [] run52star) e.1).isEmpty) = true ∧
    dataOKAll g52 cf52star = true := by decide +kernel

theorem maximal52star : ∀ t, denabled cf52star (drun g52 cf52star F52 [] run52star) t = false := by
  obtain ⟨hs, hp, hx, hc, _⟩ := state52star
  exact not_enabled_of _ _ (by rw [hs]; decide) (by rw [hp]; decide) hx hc

example : allTerminate g52 (drun g52 cf52star F52 [] run52star) :=
  (C05_rank_invariance_partial (cf := cf52star) (F := F52) wf52.1 wf52.2 state52star.2.2.2.2 []
    run52star maximal52star).2.1

/-- differing destination sets that chain delivers (nested sets: the relay consumes both outputs): 4 ranks,
    output 0 → ranks {1, 2}, output 1 → ranks {1, 2, 3}; eager transport allowed (short limit 8 ≥ size 1) -/
def gN : DGraph := ⟨6, 2, [(0, 1, 0), (0, 2, 0), (0, 3, 1), (0, 4, 1), (0, 5, 1), (1, 5, 0)], []⟩
def cfN : Conf := ⟨.chain, 4, fun i => [0, 1, 2, 1, 2, 3].getD i 0, 8, fun _ => 1⟩
/-- arbitrary scheduling choices, more than the run takes: `schedule` stops when nothing is enabled -/
def choicesN : List Nat := [3, 1, 4, 1, 5, 9, 2, 6, 5, 3, 5, 8, 9, 7, 9, 3, 2, 3, 8, 4, 6, 2, 6, 4, 3, 3, 8, 3, 2, 7, 9, 5, 0, 2, 8, 8, 4, 1, 9, 7, 1, 6, 9, 3, 9, 9, 3, 7, 5, 1, 0, 5, 8, 2, 0, 9, 7, 4, 9, 4]

example : gN.WF ∧ deliveryOKAll gN cfN = true ∧ (cfgOf gN cfN 0).outs = [(0, [1, 2]), (1, [1, 2, 3])] ∧
    ((schedule gN cfN F52 choicesN (dinit gN []) []).1.core.val = seqRun gN.graph F52) := by decide +kernel

end ParsecVerif.C05
