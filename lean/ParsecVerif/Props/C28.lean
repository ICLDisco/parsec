import ParsecVerif.Proofs.ZoneSim
import ParsecVerif.Base.Interleave
/-!
# C28 — the zone allocator is a correct best-fit allocator

Model: `ParsecVerif.Zone` (mirrors parsec/utils/zone_malloc.c; the rb-tree is a sorted map).
One step = one API call of a client that keeps the ledger `live` of what it was handed and has
not freed.  Quantification: every zone size n ≥ 1, every unit size (≥ 1 only where an offset is divided
by it: `C28_free_accepted`, `C28_bytes`), every sequence of `zone_malloc(size)` / `zone_free(offset)`
calls (calls outside the API precondition are not issued: they leave the state unchanged, exactly as
in the harness).
-/
namespace ParsecVerif.C28
open ParsecVerif.Zone

inductive Op
  | malloc (size : Nat)
  | free (off : Nat)

def step (y : Sys) : Op → Sys
  | .malloc size => (sysMalloc y size).1
  | .free off => (sysFree y off).1

def runFrom (y : Sys) (ops : List Op) : Sys := ops.foldl step y
def run (n unit : Nat) (ops : List Op) : Sys := runFrom (sysInit n unit) ops

/-- the inductive invariant: some list of runs L tiles the zone and `Abs` relates it to the table,
    the free lists and the ledger (chain with consistent back-pointers, no two adjacent EMPTY runs,
    sorted free-list map with non-empty duplicate-free lists holding exactly the EMPTY runs by size,
    ledger = FULL runs) -/
def Inv (y : Sys) (n unit : Nat) : Prop :=
  ∃ L, Abs y.z y.live L ∧ y.z.unit = unit ∧ y.z.segs.length = n

theorem inv_init (n unit : Nat) (hn : 0 < n) : Inv (sysInit n unit) n unit :=
  ⟨[(1, n)], abs_init n unit hn, rfl, by simp [sysInit, init]; omega⟩

theorem inv_step (y : Sys) (n unit : Nat) (h : Inv y n unit) (op : Op) : Inv (step y op) n unit := by
  have ⟨L, habs, hu, hlen⟩ := h
  cases op with
  | malloc size =>
    rcases sysMalloc_spec habs size with ⟨he, _⟩ | ⟨A, k, B, z', rfl, _, hle, _, he, hun, habs'⟩ <;> simp only [step, he]
    · exact h
    · exact ⟨_, habs', hun.trans hu, by rw [← hlen, ← habs.total, ← usum_afterMalloc hle]; exact habs'.total.symm⟩
  | free off =>
    simp only [step, sysFree]
    split
    · exact h
    · split
      · next _ hlive =>
        obtain ⟨u, hmem⟩ := (isLive_iff _ _).1 hlive
        obtain ⟨z', L', hf, hun, habs'⟩ := abs_free habs hmem
        rw [hf]
        exact ⟨L', habs', hun.trans hu, (free_length hf).trans hlen⟩
      · split
        · exact h
        · split <;> exact h

/-- **C28_inv**: the invariant holds after every history, on every zone. -/
theorem C28_inv (n unit : Nat) (hn : 0 < n) (ops : List Op) : Inv (run n unit ops) n unit :=
  Interleave.foldl_inv (fun y op h => inv_step y n unit h op) ops (inv_init n unit hn)

/-- **C28_walk**: what the code's walk over the segment table (zone_in_use, zone_debug; the harness
    dump) reads is a tiling of the whole zone by runs with consistent back-pointers; its FULL runs
    are exactly the live allocations and its EMPTY runs are exactly the entries of the (sorted) free
    lists, keyed by their size. -/
theorem C28_walk (n unit : Nat) (hn : 0 < n) (ops : List Op) :
    ∃ L, walk (run n unit ops).z.segs (n + 1) 0 = runsWithPrev L 0 1 ∧ usum L = n ∧
      (∀ r ∈ L, 0 < r.2 ∧ (r.1 = 1 ∨ r.1 = 2)) ∧
      (∀ t u, (t, u) ∈ (run n unit ops).live ↔ (t, 2, u) ∈ starts L 0) ∧
      (∀ k t, t ∈ bucket (run n unit ops).z.fl k ↔ (t, 1, k) ∈ starts L 0) ∧
      Sorted (run n unit ops).z.fl ∧ (∀ k b, flFind (run n unit ops).z.fl k = some b → b ≠ [] ∧ b.Nodup) := by
  obtain ⟨L, habs, _, hlen⟩ := C28_inv n unit hn ops
  exact ⟨L, abs_walk habs hlen, habs.total.trans hlen,
    chain_mem habs.chain,
    habs.livemem, habs.flmem, habs.flok.sorted, habs.flok.good⟩

theorem malloc_ptr (y : Sys) (n unit : Nat) (h : Inv y n unit) (size : Nat) (y' : Sys) (off : Nat)
    (hm : sysMalloc y size = (y', .ptr off)) :
    ∃ L A k B, walk y.z.segs (n + 1) 0 = runsWithPrev L 0 1 ∧ L = A ++ (1, k) :: B ∧ off = usum A * unit ∧
      0 < reqUnits unit size ∧ reqUnits unit size ≤ k ∧
      (∀ t' k', (t', 1, k') ∈ starts L 0 → reqUnits unit size ≤ k' → k ≤ k') ∧
      y'.live = (usum A, reqUnits unit size) :: y.live ∧ usum A + k ≤ n ∧
      ∀ e ∈ y.live, usum A + k ≤ e.1 ∨ e.1 + e.2 ≤ usum A := by
  obtain ⟨L, habs, rfl, hlen⟩ := h
  rcases sysMalloc_spec habs size with ⟨he, _⟩ | ⟨A, k, B, z', rfl, h0, hle, hmin, he, _, _⟩ <;> rw [he] at hm <;> cases hm
  -- the run found and a live allocation (a FULL run) are two runs of the same tiling
  have hmid : (usum A, 1, k) ∈ starts (A ++ (1, k) :: B) 0 := (mem_starts_mid A B _ _).2 (.inr (.inl rfl))
  refine ⟨_, A, k, B, abs_walk habs hlen, rfl, rfl, h0, hle, hmin, rfl, ?_, fun e he => ?_⟩
  · have := (mem_starts_bounds hmid).2
    have := habs.total
    omega
  · exact starts_disjoint hmid ((habs.livemem e.1 e.2).1 he) (by simp)

/-- **C28_in_zone_aligned**: a block returned by zone_malloc starts at a multiple of the unit and
    its units lie inside the zone; it is entered in the ledger with the unit count the code computed. -/
theorem C28_in_zone_aligned (n unit : Nat) (hn : 0 < n) (ops : List Op) (size : Nat) (y' : Sys) (off : Nat)
    (hm : sysMalloc (run n unit ops) size = (y', .ptr off)) :
    ∃ t, off = t * unit ∧ 0 < reqUnits unit size ∧ t + reqUnits unit size ≤ n ∧
      y'.live = (t, reqUnits unit size) :: (run n unit ops).live := by
  obtain ⟨L, A, k, B, _, _, hoff, h0, hle, _, hlive, hend, _⟩ := malloc_ptr _ n unit (C28_inv n unit hn ops) size y' off hm
  exact ⟨usum A, hoff, h0, by omega, hlive⟩

/-- **C28_disjoint**: after every history every live allocation lies inside the zone and any two
    live allocations are disjoint (a block just returned is live, so it overlaps no earlier one). -/
theorem C28_disjoint (n unit : Nat) (hn : 0 < n) (ops : List Op) :
    (∀ a ∈ (run n unit ops).live, 0 < a.2 ∧ a.1 + a.2 ≤ n) ∧
    (∀ a ∈ (run n unit ops).live, ∀ b ∈ (run n unit ops).live, a ≠ b → a.1 + a.2 ≤ b.1 ∨ b.1 + b.2 ≤ a.1) := by
  obtain ⟨L, habs, _, hlen⟩ := C28_inv n unit hn ops
  have hpos : Pos L := chain_pos habs.chain
  constructor
  · intro a ha
    have hs := (habs.livemem a.1 a.2).1 ha
    have := (mem_starts_bounds hs).2
    have := habs.total
    exact ⟨mem_starts_pos hpos hs, by omega⟩
  · intro ⟨t, u⟩ ha ⟨t', u'⟩ hb hne
    exact starts_disjoint ((habs.livemem t u).1 ha) ((habs.livemem t' u').1 hb)
      (fun hc => hne (by cases hc; rfl))

def FreeWindow (y : Sys) (n nb : Nat) : Prop :=
  ∃ a, a + nb ≤ n ∧ ∀ e ∈ y.live, a + nb ≤ e.1 ∨ e.1 + e.2 ≤ a

/-- **C28_fails_only_if_no_run**: for a request of nb > 0 units zone_malloc returns NULL if and
    only if no window of nb units of the zone is free of live allocations.  (The "only if" needs the
    coalescing invariant: a free window always lies inside a single EMPTY run, which the sorted
    free-list map then finds.) -/
theorem C28_fails_only_if_no_run (n unit : Nat) (hn : 0 < n) (ops : List Op) (size : Nat)
    (hreq : 0 < reqUnits unit size) :
    (sysMalloc (run n unit ops) size).2 = .null ↔ ¬ FreeWindow (run n unit ops) n (reqUnits unit size) := by
  have hinv := C28_inv n unit hn ops
  have ⟨L, habs, hu, hlen⟩ := hinv
  rcases sysMalloc_spec habs size with ⟨he, hc⟩ | ⟨_, _, _, _, _, _, _, _, he, _⟩ <;> rw [he]
  · refine ⟨fun _ ⟨a, ha, hfree⟩ => ?_, fun _ => rfl⟩
    rw [hu] at hc
    obtain ⟨t, k, hin, _, _⟩ := window_in_empty L 0 (chain_mem habs.chain) habs.noadj a
      (reqUnits unit size) hreq (Nat.zero_le _) (by rw [Nat.zero_add, habs.total, hlen]; exact ha)
      (fun t u hm => hfree (t, u) ((habs.livemem t u).2 hm))
    have := hc.resolve_left (by omega) t k hin
    omega
  · obtain ⟨_, A, k, B, _, _, _, _, hle, _, _, hend, hwin⟩ := malloc_ptr _ n unit hinv size _ _ he
    refine ⟨nofun, fun hno => (hno ⟨usum A, by omega, fun e he => ?_⟩).elim⟩
    have := hwin e he
    omega

/-- **C28_best_fit**: the block is carved from the start of an EMPTY run of the walked table whose
    size is the smallest that suffices among all EMPTY runs (the EMPTY runs are the maximal free
    windows, by `C28_walk` / `C28_free_merges`: the `L` of the three theorems is the same one, since
    `runsWithPrev L 0 1` determines `L`). -/
theorem C28_best_fit (n unit : Nat) (hn : 0 < n) (ops : List Op) (size : Nat) (y' : Sys) (off : Nat)
    (hm : sysMalloc (run n unit ops) size = (y', .ptr off)) :
    ∃ L A k B, walk (run n unit ops).z.segs (n + 1) 0 = runsWithPrev L 0 1 ∧ L = A ++ (1, k) :: B ∧
      off = usum A * unit ∧ reqUnits unit size ≤ k ∧
      ∀ t' k', (t', 1, k') ∈ starts L 0 → reqUnits unit size ≤ k' → k ≤ k' := by
  obtain ⟨L, A, k, B, hw, hL, hoff, _, hle, hmin, _⟩ := malloc_ptr _ n unit (C28_inv n unit hn ops) size y' off hm
  exact ⟨L, A, k, B, hw, hL, hoff, hle, hmin⟩

/-- **C28_free_merges**: after every history no two consecutive runs of the walked table are both
    EMPTY: zone_free has merged every pair of adjacent free runs. -/
theorem C28_free_merges (n unit : Nat) (hn : 0 < n) (ops : List Op) :
    ∃ L, walk (run n unit ops).z.segs (n + 1) 0 = runsWithPrev L 0 1 ∧ NoAdjE L := by
  obtain ⟨L, habs, _, hlen⟩ := C28_inv n unit hn ops
  exact ⟨L, abs_walk habs hlen, habs.noadj⟩

/-- **C28_in_use**: zone_in_use = unit size × the units of the live allocations. -/
theorem C28_in_use (n unit : Nat) (hn : 0 < n) (ops : List Op) :
    zoneInUse (run n unit ops).z = unit * liveUnits (run n unit ops).live := by
  obtain ⟨L, habs, hu, _⟩ := C28_inv n unit hn ops
  rw [abs_in_use habs, hu]

/-- **C28_free_accepted**: the free of a live allocation is never refused by the code and removes
    exactly that allocation from the ledger. -/
theorem C28_free_accepted (n unit : Nat) (hn : 0 < n) (hunit : 0 < unit) (ops : List Op) (t u : Nat)
    (hl : (t, u) ∈ (run n unit ops).live) :
    ∃ z', free (run n unit ops).z t = some z' ∧
      sysFree (run n unit ops) (t * unit) = (⟨z', dropLive (run n unit ops).live t⟩, .ok) := by
  obtain ⟨L, habs, hu, _⟩ := C28_inv n unit hn ops
  obtain ⟨z', L', hf, _, _⟩ := abs_free habs hl
  refine ⟨z', hf, ?_⟩
  unfold sysFree
  rw [hu, Nat.mul_mod_left, if_neg (by simp), Nat.mul_div_cancel _ hunit,
    if_pos ((isLive_iff _ _).2 ⟨u, hl⟩), hf]

/-- **C28_refused_free_noop**: when the model answers `noop` the address is one the code itself
    refuses (outside the table, or entry marked EMPTY), and nothing changes. -/
theorem C28_refused_free_noop (y : Sys) (off : Nat) (h : (sysFree y off).2 = .noop) :
    (sysFree y off).1 = y ∧ free y.z (off / y.z.unit) = none := by
  unfold sysFree at h ⊢
  split at h
  · cases h
  · split at h
    · split at h <;> cases h
    · rename_i h1 h2
      rw [if_neg h1, if_neg h2]
      unfold free
      split at h
      · exact ⟨rfl, rfl⟩
      · split at h
        · next h3 => rw [if_pos h3]; exact ⟨rfl, if_pos h3⟩
        · cases h

/-- **C28_bytes**: for EVERY request size the `size` bytes of a returned block start at a multiple
    of the unit, lie inside the zone and do not meet the bytes of any live allocation.
    (Before the repair 6e3ff3b this held only below 2^31 units: `C28_truncated_request_succeeds_buggy`.) -/
theorem C28_bytes (n unit : Nat) (hn : 0 < n) (hunit : 0 < unit) (ops : List Op) (size : Nat) (y' : Sys) (off : Nat)
    (hm : sysMalloc (run n unit ops) size = (y', .ptr off)) :
    off % unit = 0 ∧ off + size ≤ n * unit ∧
      ∀ e ∈ (run n unit ops).live, off + size ≤ e.1 * unit ∨ (e.1 + e.2) * unit ≤ off := by
  obtain ⟨L, A, k, B, _, _, rfl, _, hle, _, _, hin, hwin⟩ := malloc_ptr _ n unit (C28_inv n unit hn ops) size y' off hm
  -- the request ends inside the run found, which ends inside the zone and before the next live block
  have hend : usum A * unit + size ≤ (usum A + k) * unit := by
    rw [Nat.add_mul]
    exact Nat.add_le_add_left (Nat.le_trans (reqUnits_covers unit size hunit) (Nat.mul_le_mul_right _ hle)) _
  exact ⟨Nat.mul_mod_left _ _, Nat.le_trans hend (Nat.mul_le_mul_right _ hin), fun e he =>
    (hwin e he).imp (fun hd => Nat.le_trans hend (Nat.mul_le_mul_right _ hd)) (Nat.mul_le_mul_right _)⟩

/-- the byte-level statement for zone_malloc as it was BEFORE the repair -/
def BytesInZoneBuggy : Prop :=
  ∀ (n unit : Nat) (ops : List Op) (size : Nat) (y' : Sys) (off : Nat), 0 < n → 0 < unit → size < 2 ^ 64 →
    sysMallocBuggy (run n unit ops) size = (y', .ptr off) → off + size ≤ n * unit

/-- **C28_truncated_request_succeeds_buggy** (finding, repaired by 6e3ff3b): with the `int` unit
    count the byte-level statement was false.  On a fresh zone of 4 units of 1 byte,
    zone_malloc(2^32 + 1) returned offset 0: 2^32 + 1 units became 1. -/
theorem C28_truncated_request_succeeds_buggy : ¬ BytesInZoneBuggy := by
  intro h
  have := h 4 1 [] 4294967297 (sysMallocBuggy (run 4 1 []) 4294967297).1 0 (by decide) (by decide) (by decide) (by decide)
  exact absurd this (by decide)

/-- the same request on the repaired code: NULL -/
theorem C28_huge_request_null : (sysMalloc (run 4 1 []) 4294967297).2 = .null := by decide

/-! ### the hypotheses are satisfiable on non-trivial states (zone of 8 units of 4 bytes) -/

/-- three mallocs that each split the one EMPTY run, then the free of the middle block, between two live ones (no merge) -/
def demo : List Op := [.malloc 5, .malloc 4, .malloc 9, .free 8]

example : (run 8 4 demo).live = [(3, 3), (0, 2)] ∧ (run 8 4 demo).z.fl = [(1, [2]), (2, [6])] := by decide
example : Inv (run 8 4 demo) 8 4 := C28_inv 8 4 (by decide) demo
-- C28_in_zone_aligned / C28_best_fit / C28_bytes: a successful request (2 units: the run of 1 is too small, the run of 2 fits exactly)
example : sysMalloc (run 8 4 demo) 7 = ((sysMalloc (run 8 4 demo) 7).1, .ptr 24) := by decide
-- best fit really chooses: a 1-unit request takes the run of 1 unit at offset 8, not the run of 2
example : (sysMalloc (run 8 4 demo) 3).2 = .ptr 8 := by decide
-- C28_fails_only_if_no_run: a request of 3 units fails although 3 units are free in total
example : 0 < reqUnits 4 12 ∧ (sysMalloc (run 8 4 demo) 12).2 = .null := by decide
-- C28_free_accepted: a live allocation; both neighbours free afterwards => double merge
example : (3, 3) ∈ (run 8 4 demo).live ∧ (run 8 4 (demo ++ [.free 0, .free 12])).z.fl = [(8, [0])] := by decide
-- C28_refused_free_noop: double free of offset 8
example : (sysFree (run 8 4 demo) 8).2 = .noop := by decide
-- C28_in_use
example : zoneInUse (run 8 4 demo).z = 20 := by decide

end ParsecVerif.C28
