/-
  C38 — runtime (MCA) parameters resolve by documented precedence.

  "The effective value of a runtime (MCA) parameter is taken from, in order of precedence, an explicit
   override, the --mca command-line option or the PARSEC_MCA_ environment variable (including
   synonyms), a parameter file, and finally the default; repeated --mca options for one parameter
   are joined with commas."

  The laws are stated outright about `resolve` (the decision logic of `param_lookup`), for every
  parameter, environment, file-value list and $HOME; `lookup_spec` ties the stateful API call to
  `resolve`; the command-line theorems are about every list of option instances / every argv.
  What the statements use beside the model (`valuesOf`, `pairsOf`, `asked`, `commaJoin`, `fvValue`,
  `lastLine`, `digitChar`, `horner`, `stops10`) is defined in Proofs/McaParam.lean.
-/
import ParsecVerif.Proofs.McaParam

namespace ParsecVerif.C38
open ParsecVerif.McaParam

/-- Law 1: an explicit override (parsec_mca_param_set_*) wins over environment, files and default. -/
theorem override_wins (p : Param) (env : Env) (fvs : List FV) (home : Option String) (v : Val)
    (hro : p.readOnly = false) (ho : p.override = some v) :
    resolve p env fvs home = ⟨.override, post home v, none, false⟩ := by
  simp [resolve, hro, ho]

/-- Law 2: without override, the environment wins over file values and the default, whatever they are. -/
theorem env_over_file (p : Param) (env : Env) (fvs : List FV) (home : Option String) (s : String)
    (hro : p.readOnly = false) (ho : p.override = none)
    (he : envFirst env (p.name :: p.syns) = some s) :
    resolve p env fvs home = ⟨.env, post home (parseVal p.ty (some s)), none, false⟩ := by
  simp [resolve, hro, ho, lookupEnv, he]

/-- Law 3: among the environment names the first one that is set wins, in the order primary name,
    then synonyms in registration order. -/
theorem synonym_order (env : Env) (pre : List String) (n : String) (rest : List String) (s : String)
    (hpre : ∀ m ∈ pre, getenv env m = none) (hn : getenv env n = some s) :
    envFirst env (pre ++ n :: rest) = some s := by
  rw [envFirst_eq_findSome?, List.findSome?_eq_some_iff]
  exact ⟨pre, n, rest, rfl, hn, hpre⟩

theorem envFirst_none (env : Env) (names : List String) (h : ∀ m ∈ names, getenv env m = none) :
    envFirst env names = none := by
  rw [envFirst_eq_findSome?, List.findSome?_eq_none_iff.2 h]

/-- Laws 4 and 5 as `param_lookup` decides them: without override and environment the answer is
    whatever `lookup_file` finds (cached value or list entry), else the default. -/
theorem resolve_file_or_default (p : Param) (env : Env) (fvs : List FV) (home : Option String)
    (hro : p.readOnly = false) (ho : p.override = none)
    (he : envFirst env (p.name :: p.syns) = none) :
    resolve p env fvs home =
      match lookupFileVal p fvs with
      | some r => ⟨.file, post home r.1, r.2, false⟩
      | none => ⟨.default, post home p.dflt, none, false⟩ := by
  simp only [resolve, hro, ho, lookupEnv, he, Bool.false_eq_true, if_false]
  rfl

/-- Law 4: without override and environment, a file value wins over the default: the value cached
    by an earlier lookup if there is one, otherwise the first entry of the file-value list that
    carries the primary name or a synonym. -/
theorem file_over_default (p : Param) (env : Env) (fvs : List FV) (home : Option String)
    (hro : p.readOnly = false) (ho : p.override = none)
    (he : envFirst env (p.name :: p.syns) = none) :
    (∀ v, p.fileVal = some v → resolve p env fvs home = ⟨.file, post home v, p.srcFile, false⟩) ∧
    (p.fileVal = none → ∀ fv, fvFind p fvs = some fv →
      resolve p env fvs home = ⟨.file, post home (parseVal p.ty fv.value), some fv.file, false⟩) := by
  rw [resolve_file_or_default p env fvs home hro ho he]
  exact ⟨fun v hv => by simp [lookupFileVal, hv], fun hv fv hf => by simp [lookupFileVal, hv, hf]⟩

/-- Law 5: the default is used when nothing else is present. -/
theorem default_last (p : Param) (env : Env) (fvs : List FV) (home : Option String)
    (ho : p.override = none) (he : envFirst env (p.name :: p.syns) = none)
    (hc : p.fileVal = none) (hf : fvFind p fvs = none) :
    resolve p env fvs home = ⟨.default, post home p.dflt, none, false⟩ := by
  cases hro : p.readOnly <;> simp [resolve, hro, ho, lookupEnv, he, lookupFileVal, hc, hf]

/-- Law 6: a read-only parameter yields its default whatever the other sources hold (they only
    raise the "read-only-param-set" message). -/
theorem readonly_default (p : Param) (env : Env) (fvs : List FV) (home : Option String)
    (hro : p.readOnly = true) :
    (resolve p env fvs home).src = .default ∧ (resolve p env fvs home).val = post home p.dflt ∧
    ((resolve p env fvs home).warn = true ↔
      (p.override.isSome ∨ (envFirst env (p.name :: p.syns)).isSome ∨ (lookupFileVal p fvs).isSome)) := by
  unfold resolve
  rw [if_pos hro]
  cases p.override with
  | some v => simp
  | none =>
    cases he : envFirst env (p.name :: p.syns) with
    | some s => simp [lookupEnv, he]
    | none => cases lookupFileVal p fvs <;> simp [lookupEnv, he]

/-- The decision table of `param_lookup`: source and value of its result, and the file when the
    source is a parameter file (not the warning flag). -/
def Spec (p : Param) (env : Env) (fvs : List FV) (home : Option String) (f : Found) : Prop :=
  (p.readOnly = true → f.src = .default ∧ f.val = post home p.dflt) ∧
  (p.readOnly = false →
    (∀ v, p.override = some v → f.src = .override ∧ f.val = post home v) ∧
    (p.override = none →
      (∀ s, envFirst env (p.name :: p.syns) = some s → f.src = .env ∧ f.val = post home (parseVal p.ty (some s))) ∧
      (envFirst env (p.name :: p.syns) = none →
        (∀ r, lookupFileVal p fvs = some r → f.src = .file ∧ f.val = post home r.1 ∧ f.file = r.2) ∧
        (lookupFileVal p fvs = none → f.src = .default ∧ f.val = post home p.dflt))))

/-- C38, first half: for every parameter and every combination of sources, the value and the source
    reported are those of the highest-precedence source present:
    override > environment (primary, then synonyms) > parameter file > default. -/
theorem precedence (p : Param) (env : Env) (fvs : List FV) (home : Option String) :
    Spec p env fvs home (resolve p env fvs home) := by
  refine ⟨fun hro => have ⟨h1, h2, _⟩ := readonly_default p env fvs home hro; ⟨h1, h2⟩,
    fun hro => ⟨fun v ho => ?_, fun ho => ⟨fun s he => ?_, fun he => ?_⟩⟩⟩
  · rw [override_wins p env fvs home v hro ho]; exact ⟨rfl, rfl⟩
  · rw [env_over_file p env fvs home s hro ho he]; exact ⟨rfl, rfl⟩
  · rw [resolve_file_or_default p env fvs home hro ho he]
    exact ⟨fun r hr => by rw [hr]; exact ⟨rfl, rfl, rfl⟩, fun hr => by rw [hr]; exact ⟨rfl, rfl⟩⟩

/-- `parsec_mca_param_lookup_*` / `lookup_source` on a registry state answer with `resolve` of the
    parameter, the current environment and the current file-value list. -/
theorem lookup_spec (s s' : St) (i : Nat) (f : Found) (h : lookup s i = some (s', f)) :
    ∃ p, s.params[i]? = some p ∧ f = resolve p s.env s.fvs s.home ∧
      s'.env = s.env ∧ s'.home = s.home ∧ s'.inited = s.inited ∧
      (∀ j, j ≠ i → s'.params[j]? = s.params[j]?) := by
  unfold lookup at h
  cases hp : s.params[i]? with
  | none => simp [hp] at h
  | some p =>
    simp only [hp, lookupAt, Option.some.injEq, Prod.mk.injEq] at h
    obtain ⟨rfl, rfl⟩ := h
    exact ⟨p, rfl, rfl, rfl, rfl, rfl, fun j hj => List.getElem?_set_ne (Ne.symm hj)⟩

theorem lookupEnv_cache (p : Param) (env : Env) (fvs : List FV) :
    lookupEnv (lookupFileParam p fvs) env = lookupEnv p env := by
  unfold lookupFileParam lookupEnv
  cases p.fileVal with
  | some v => rfl
  | none => cases fvFind p fvs <;> rfl

/-- `lookup_file` writes nothing but its cache -/
theorem lookupFileParam_frame (p : Param) (fvs : List FV) :
    (lookupFileParam p fvs).readOnly = p.readOnly ∧ (lookupFileParam p fvs).override = p.override ∧
    (lookupFileParam p fvs).dflt = p.dflt := by
  unfold lookupFileParam
  cases p.fileVal with
  | some v => exact ⟨rfl, rfl, rfl⟩
  | none => cases fvFind p fvs <;> exact ⟨rfl, rfl, rfl⟩

/-- the cache written by `lookup_file` answers what the scan answered, although the entry used is gone from the list -/
theorem lookupFileVal_cache (p : Param) (fvs : List FV) :
    lookupFileVal (lookupFileParam p fvs) (lookupFileList p fvs) = lookupFileVal p fvs := by
  unfold lookupFileParam lookupFileList lookupFileVal
  cases hc : p.fileVal with
  | some v => simp [hc]
  | none =>
    cases hf : fvFind p fvs with
    | none =>
      -- nothing matched, so nothing was erased
      have he := List.eraseP_of_forall_not (List.find?_eq_none.1 (fvFind_eq_find? p fvs ▸ hf))
      simp [hc, hf, fvRemove_eq_eraseP, he]
    | some fv => rfl

/-- Asking again gives the same answer: the cache written by a lookup and the removal of the used
    entry do not change what `param_lookup` returns (same environment). -/
theorem lookup_stable (p : Param) (env : Env) (fvs : List FV) (home : Option String) :
    resolve (lookupParam p env fvs) env (lookupList p env fvs) home = resolve p env fvs home := by
  unfold lookupParam lookupList
  cases reachesFile p env with
  | false => rfl
  | true =>
    -- `resolve` reads the parameter only through its read-only flag, override, default and the two lookups
    have ⟨h1, h2, h3⟩ := lookupFileParam_frame p fvs
    rw [if_pos rfl, if_pos rfl]
    unfold resolve
    rw [h1, h2, h3, lookupEnv_cache, lookupFileVal_cache]

theorem lookup_setParam {s s2 : St} {i : Nat} {p q : Param} {f : Found} (hp : s.params[i]? = some p)
    (hl : lookup (setParam s i q) i = some (s2, f)) : f = resolve q s.env s.fvs s.home := by
  obtain ⟨q', hq, hf, -⟩ := lookup_spec _ s2 i f hl
  obtain ⟨hi, -⟩ := List.getElem?_eq_some_iff.1 hp
  rw [setParam, List.getElem?_set_self hi, Option.some.injEq] at hq
  rw [hf, ← hq]; rfl

/-- `parsec_mca_param_set_*` followed by a lookup: the value set is returned, source OVERRIDE. -/
theorem set_then_lookup (s s1 s2 : St) (i : Nat) (v : Val) (f : Found) (p : Param)
    (hp : s.params[i]? = some p) (hro : p.readOnly = false)
    (hset : setOverride s i v = some s1) (hl : lookup s1 i = some (s2, f)) :
    f = ⟨.override, post s.home v, none, false⟩ := by
  simp only [setOverride, hp, Option.some.injEq] at hset
  subst hset
  rw [lookup_setParam hp hl]
  exact override_wins _ _ _ _ v hro rfl

theorem src_ne_override (p : Param) (env : Env) (fvs : List FV) (home : Option String) (ho : p.override = none) :
    (resolve p env fvs home).src ≠ .override := by
  unfold resolve
  rw [ho]
  cases p.readOnly <;> cases lookupEnv p env <;> cases lookupFileVal p fvs <;> simp

/-- `parsec_mca_param_unset` followed by a lookup: the override no longer takes part; the answer
    is that of the remaining sources (never OVERRIDE). -/
theorem unset_then_lookup (s s1 s2 : St) (i : Nat) (f : Found) (p : Param)
    (hp : s.params[i]? = some p)
    (hun : unsetOverride s i = some s1) (hl : lookup s1 i = some (s2, f)) :
    f = resolve { p with override := none } s.env s.fvs s.home ∧ f.src ≠ .override := by
  simp only [unsetOverride, hp, Option.some.injEq] at hun
  subst hun
  have hf := lookup_setParam hp hl
  exact ⟨hf, hf ▸ src_ne_override _ _ _ _ rfl⟩

/-- C38, second half: repeated options for one parameter are joined with commas, in command-line
    order.  `l` is the list of (parameter, value) pairs of one option kind. -/
theorem join (l : List (String × String)) (n : String) :
    getenv (l.foldl (fun a e => processArg a e.1 e.2) []) n =
      if valuesOf l n = [] then none else some (commaJoin (valuesOf l n)) := by
  rw [foldl_processArg_get, getenv_nil, joinFrom_none]

theorem commaJoin_examples :
    commaJoin ["a"] = "a" ∧ commaJoin ["a", "b", "c"] = "a,b,c" ∧ commaJoin ["1", "", "x"] = "1,,x" ∧
    commaJoin ["a", "b", "c"] = ",".intercalate ["a", "b", "c"] :=
  ⟨by decide +kernel, by decide +kernel, by decide +kernel, commaJoin_eq_intercalate _⟩

/-- The environment after parsec_init has processed its arguments: `--mca` (joined) wins over
    `--gmca` (joined) wins over what was there before (including what `-am` put there). -/
theorem cmdline_to_env (env : Env) (insts : List (Opt × List String)) (n : String) :
    getenv (applyInsts env insts) n =
      (asked insts .mca n).or ((asked insts .gmca n).or (getenv (amEnv env insts) n)) := by
  unfold applyInsts
  rw [setenvAll_collect, setenvAll_collect]

/-- a value asked with `--mca` is what the environment holds after parsec_init, whatever `--gmca`, `-am` and the previous
    environment say -/
theorem mca_over_gmca (env : Env) (insts : List (Opt × List String)) (n v : String)
    (h : asked insts .mca n = some v) : getenv (applyInsts env insts) n = some v := by
  rw [cmdline_to_env, h, Option.some_or]

/-- What `repeated_mca_joined` below claims, for any `argv`: `l` is the list of (parameter, value)
    pairs of its `--mca` options, as the parse gives it. -/
theorem cmdline_end_to_end (p : Param) (env : Env) (fvs : List FV) (home : Option String) (argv : List String)
    (l : List (String × String)) (hro : p.readOnly = false) (ho : p.override = none)
    (hl : pairsOf (parseArgs (argv.length + 1) (initArgv argv)).1 .mca = l) (hk : valuesOf l p.name ≠ []) :
    resolve p (applyArgs env argv).1 fvs home =
      ⟨.env, post home (parseVal p.ty (some (commaJoin (valuesOf l p.name)))), none, false⟩ := by
  subst hl
  apply env_over_file p _ fvs home _ hro ho
  apply synonym_order _ [] p.name p.syns _ (fun _ h => by cases h)
  apply mca_over_gmca
  exact if_neg hk

def mcaArgv (l : List (String × String)) : List String := l.flatMap (fun e => ["--mca", e.1, e.2])

theorem mcaArgv_cons (e : String × String) (t : List (String × String)) :
    mcaArgv (e :: t) = "--mca" :: e.1 :: e.2 :: mcaArgv t := List.flatMap_cons

theorem parseArgs_mca (fuel : Nat) (a b : String) (rest : List String) :
    parseArgs (fuel + 1) ("--mca" :: a :: b :: rest) =
      ((Opt.mca, [a, b]) :: (parseArgs fuel rest).1, (parseArgs fuel rest).2) := rfl

/-- the parser on `--mca n₁ v₁ --mca n₂ v₂ …` (`mcaArgv l`): exactly the pairs of `l` as `--mca` instances, in order, and no error -/
theorem parse_mca_argv (l : List (String × String)) (fuel : Nat) (h : l.length < fuel) :
    parseArgs fuel (mcaArgv l) = (l.map (fun e => (Opt.mca, [e.1, e.2])), false) :=
  match l, fuel, h with
  | [], _ + 1, _ => rfl
  | e :: t, fuel + 1, h => by
    rw [mcaArgv_cons, parseArgs_mca, parse_mca_argv t fuel (Nat.lt_of_succ_lt_succ h)]
    rfl

theorem pairsOf_mca (l : List (String × String)) :
    pairsOf (l.map (fun e => (Opt.mca, [e.1, e.2]))) .mca = l := by
  simp [pairsOf, List.filter_map, Function.comp_def]

theorem mcaArgv_length (l : List (String × String)) : (mcaArgv l).length = 3 * l.length := by
  simp [mcaArgv, List.length_flatMap, List.map_const', Nat.mul_comm]

theorem initArgv_mca : ∀ l : List (String × String), initArgv (mcaArgv l) = mcaArgv l
  | [] => rfl
  | _ :: _ => rfl

/-- C38 for a whole command line: parsec_init called with `--mca n₁ v₁ --mca n₂ v₂ …` leaves, for every
    parameter named at least once, the comma-joined list of its values (in command-line order) as the
    effective value — source ENV, converted at the parameter's type — unless the parameter is
    read-only or overridden; previous environment, parameter files and default do not matter. -/
theorem repeated_mca_joined (p : Param) (env : Env) (fvs : List FV) (home : Option String)
    (l : List (String × String)) (hro : p.readOnly = false) (ho : p.override = none)
    (hk : valuesOf l p.name ≠ []) :
    resolve p (applyArgs env (mcaArgv l)).1 fvs home =
      ⟨.env, post home (parseVal p.ty (some (commaJoin (valuesOf l p.name)))), none, false⟩ :=
  cmdline_end_to_end p env fvs home (mcaArgv l) l hro ho
    (by rw [initArgv_mca, parse_mca_argv l _ (by rw [mcaArgv_length]; omega), pairsOf_mca]) hk

/-- Inside one parameter file the last line naming a parameter wins. -/
theorem save_value_last_wins (c : FileContent) (fvs : List FV) (file n : String) (v : Option String)
    (h : lastLine c n = some v) : fvValue (parseFile fvs file c) n = some v := by
  rw [parseFile_value, h]; rfl

/-- In the file list `mca_param_files` the leftmost file that names a parameter wins (files are read
    right to left and later reads replace earlier values), whatever the list held before. -/
theorem file_list_first_wins (fs : Files) (fvs : List FV) (pre : List String) (f : String) (rest : List String)
    (c : FileContent) (n : String) (v : Option String)
    (hpre : ∀ g ∈ pre, ∀ cg, fileContent fs g = some cg → ∀ e ∈ cg, e.1 ≠ n)
    (hf : fileContent fs f = some c) (hv : lastLine c n = some v) :
    fvValue (readFiles fs fvs (pre ++ f :: rest)) n = some v := by
  rw [readFiles_value, List.findSome?_eq_some_iff.2
    ⟨pre, f, rest, rfl, by rw [hf, Option.bind_some, hv], fun g hg => ?_⟩]
  · rfl
  · cases hc : fileContent fs g with
    | none => rfl
    | some cg => exact lastLine_none_of_not_mem cg n (hpre g hg cg hc)

/-- Text to number, `strtol(s, NULL, 0)` / `strtoll(s, NULL, 0)`: a decimal numeral without leading
    zero, followed by end of text or a non-digit, converts to its value, saturated at LONG_MAX. -/
theorem parse_decimal (d : Fin 9) (ds : List (Fin 10)) (rest : List Char) (h : stops10 rest) :
    strtol (digitChar (d.val + 1) :: (ds.map (fun x => digitChar x.val) ++ rest)) =
      clampLong (horner ds (d.val + 1)) := by
  unfold strtol
  rw [List.dropWhile_cons_of_neg (by simp [(leadDigit_not_special d).1])]
  simp only [signed, if_neg (leadDigit_not_special d).2.1, if_neg (leadDigit_not_special d).2.2.1]
  rw [magnitude_decimal d ds rest h]

/-- The same with a minus sign (and any leading white space). -/
theorem parse_decimal_neg (ws : List Char) (hws : ∀ c ∈ ws, isSpace c = true)
    (d : Fin 9) (ds : List (Fin 10)) (rest : List Char) (h : stops10 rest) :
    strtol (ws ++ '-' :: digitChar (d.val + 1) :: (ds.map (fun x => digitChar x.val) ++ rest)) =
      clampLong (-(horner ds (d.val + 1) : Int)) := by
  unfold strtol
  rw [List.dropWhile_append_of_pos hws, List.dropWhile_cons_of_neg (by decide)]
  simp only [signed, if_true]
  rw [magnitude_decimal d ds rest h]

/-- The `(int)` cast of what `strtol` returns, `x` being the value before saturation (the argument of
    `clampLong` in `parse_decimal`): anything above LONG_MAX reads as the int -1, anything below
    LONG_MIN as 0; values that fit an int are kept. -/
theorem parse_saturates (x : Int) :
    (x > longMax → toInt32 (clampLong x) = -1) ∧
    (x < longMin → toInt32 (clampLong x) = 0) ∧
    (-(2:Int)^31 ≤ x ∧ x < (2:Int)^31 → toInt32 (clampLong x) = x) := by
  refine ⟨fun h => ?_, fun h => ?_, fun h => ?_⟩
  · rw [clampLong_of_gt h]; decide +kernel
  · rw [clampLong_of_lt h]; decide +kernel
  · rw [clampLong_of_mem (Int.le_trans (by decide +kernel) h.1)
      (Int.le_of_lt (Int.lt_trans h.2 (by decide +kernel)))]
    unfold toInt32; omega

/-- The `(size_t)` cast, `x` as in `parse_saturates`: non-negative values up to LLONG_MAX are kept,
    negative ones wrap modulo 2^64 (so `-1` reads as SIZE_MAX), larger ones saturate at LLONG_MAX. -/
theorem parse_sizet_decimal (x : Int) :
    (0 ≤ x ∧ x ≤ longMax → toSizet (clampLong x) = x.toNat) ∧
    (longMin ≤ x ∧ x < 0 → (toSizet (clampLong x) : Int) = x + 2 ^ 64) ∧
    (x > longMax → toSizet (clampLong x) = 2 ^ 63 - 1) := by
  refine ⟨fun h => ?_, fun h => ?_, fun h => ?_⟩
  · rw [clampLong_of_mem (Int.le_trans (by decide +kernel) h.1) h.2]
    unfold toSizet
    rw [Int.emod_eq_of_lt h.1 (Int.lt_of_le_of_lt h.2 (by decide +kernel))]
  · rw [clampLong_of_mem h.1 (Int.le_trans (Int.le_of_lt h.2) (by decide +kernel))]
    unfold toSizet; unfold longMin at h; omega
  · rw [clampLong_of_gt h]; decide +kernel

def pInt : Param := ⟨.int, "pv_a", false, .int 7, none, none, none, ["alt_a", "old_a"]⟩
def fvs0 : List FV := [⟨"old_a", some "0x10", "F1"⟩, ⟨"pv_a", some "3", "F0"⟩]
def env0 : Env := [("old_a", "5"), ("alt_a", "6")]

/-- Between the primary name and a synonym *in the file values* it is list order that decides (first
    entry carrying any of the names), unlike the environment where the primary name goes first. -/
theorem file_synonym_order_is_file_order (p : Param) (pre : List FV) (fv : FV) (rest : List FV)
    (hpre : ∀ x ∈ pre, fvMatches p x = false) (hfv : fvMatches p fv = true) :
    fvFind p (pre ++ fv :: rest) = some fv ∧
    (∃ (q : Param) (l : List FV) (w : FV), fvFind q l = some w ∧ w.name ≠ q.name ∧ ∃ u ∈ l, u.name = q.name) :=
  ⟨fvFind_append p pre fv rest hpre hfv,
   -- in `fvs0` the entry of the synonym `old_a` stands before that of `pv_a`
   ⟨pInt, fvs0, _, rfl, by decide +kernel, _, .tail _ (.head _), rfl⟩⟩

-- all four sources present: override
example : resolve { pInt with override := some (.int 99) } env0 fvs0 (some "/hm") = ⟨.override, .int 99, none, false⟩ := by decide +kernel
-- override absent: environment, first synonym in registration order (alt_a before old_a), not the file
example : resolve pInt env0 fvs0 (some "/hm") = ⟨.env, .int 6, none, false⟩ := by decide +kernel
example : envFirst env0 (pInt.name :: pInt.syns) = some "6" :=
  synonym_order env0 ["pv_a"] "alt_a" ["old_a"] "6" (by decide) (by decide)
-- environment absent: file, first entry in list order (the synonym's 0x10 = 16)
example : resolve pInt [] fvs0 (some "/hm") = ⟨.file, .int 16, some "F1", false⟩ := by decide +kernel
-- nothing: default
example : resolve pInt [] [] (some "/hm") = ⟨.default, .int 7, none, false⟩ := by decide +kernel
-- read-only: default plus the warning
example : resolve { pInt with readOnly := true } env0 fvs0 (some "/hm") = ⟨.default, .int 7, none, true⟩ := by decide +kernel
-- strings get their "~/" expanded whatever the source
example : resolve ⟨.str, "pv_s", false, .str (some "~/d"), none, none, none, []⟩ [("pv_s", "~/x:~/y:z")] [] (some "/hm")
    = ⟨.env, .str (some "/hm/x:/hm/y:z"), none, false⟩ := by decide +kernel
-- command line: repeated --mca joined, -mca accepted, --gmca loses, unknown option stops the parse
example : (applyArgs [("pv_a", "0")] ["prog", "--mca", "pv_a", "1", "--gmca", "pv_a", "9", "-mca", "pv_a", "2", "--bogus", "--mca", "pv_a", "3"])
    = ([("pv_a", "1,2")], true) := by decide +kernel
example : valuesOf (pairsOf (parseArgs 9 (initArgv ["--mca", "pv_a", "1", "--mca", "pv_a", "2"])).1 .mca) pInt.name = ["1", "2"] := by decide +kernel
example : resolve pInt (applyArgs env0 ["--mca", "pv_a", "1", "--mca", "pv_a", "2"]).1 fvs0 none = ⟨.env, .int 1, none, false⟩ := by decide +kernel
def l3 : List (String × String) := [("pv_a", "1"), ("pv_x", "9"), ("pv_a", "2")]
example : resolve pInt (applyArgs env0 (mcaArgv l3)).1 fvs0 none =
    ⟨.env, post none (parseVal pInt.ty (some (commaJoin (valuesOf l3 pInt.name)))), none, false⟩ :=
  repeated_mca_joined pInt env0 fvs0 none l3 rfl rfl (by decide)
example : commaJoin (valuesOf l3 pInt.name) = "1,2" ∧ parseVal .int (some "1,2") = .int 1 ∧ parseVal .str (some "1,2") = .str (some "1,2") := by decide +kernel
-- files: F0 is left of F1, so its value wins; within F1 the last line wins
def fs0 : Files := [("F0", [("pv_a", some "3")]), ("F1", [("pv_a", some "4"), ("pv_b", some "1"), ("pv_b", some "2")])]
example : fvValue (readFiles fs0 [] ["F0", "F1"]) "pv_a" = some (some "3") := by decide +kernel
example : fvValue (readFiles fs0 [] ["F0", "F1"]) "pv_b" = some (some "2") := by decide +kernel
example : parseInt "0x1F" = 31 ∧ parseInt "017" = 15 ∧ parseInt " -12abc" = -12 ∧ parseInt "abc" = 0 ∧
    parseInt "4294967296" = 0 ∧ parseInt "9223372036854775808" = -1 ∧ parseSizet "-1" = 2^64 - 1 := by
  -- as `String.ofList _` a literal gives its characters at once; the kernel decodes `"…".toList` slowly
  unfold parseInt parseSizet
  iterate 7 rw [String.toList_ofList]
  decide +kernel
example : stops10 [] ∧ stops10 ['a', 'b'] ∧ stops10 [','] :=
  ⟨Or.inl rfl, Or.inr ⟨'a', ['b'], rfl, Or.inr ⟨10, by decide, by decide⟩⟩, Or.inr ⟨',', [], rfl, Or.inl (by decide)⟩⟩
-- stateful API: set, lookup, unset, lookup on a registry holding `pInt` at index 1; `/hm` is the $HOME
-- that harness/C38.c sets and `DEFAULTFILES` what it prints for the built-in file list, as in `init`
def st0 : St := ⟨true, [⟨.str, "mca_param_files", false, .str (some "DEFAULTFILES"), none, none, none, []⟩, pInt], fvs0, env0, some "/hm", some "/hm", []⟩
example : (lookup ((setOverride st0 1 (.int 5)).getD st0) 1).map (·.2) = some ⟨.override, .int 5, none, false⟩ := by decide +kernel
example : (lookup ((unsetOverride ((setOverride st0 1 (.int 5)).getD st0) 1).getD st0) 1).map (·.2) = some ⟨.env, .int 6, none, false⟩ := by decide +kernel
example : ((lookup { st0 with env := [] } 1).map (·.1.fvs), (lookup { st0 with env := [] } 1).map (·.1.params[1]?.map (·.fileVal)))
    = (some [⟨"pv_a", some "3", "F0"⟩], some (some (some (.int 16)))) := by decide +kernel

end ParsecVerif.C38
