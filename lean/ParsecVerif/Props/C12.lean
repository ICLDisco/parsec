import ParsecVerif.Base.Interleave
import ParsecVerif.Proofs.UserTrigger
/-!
# C12 — user-triggered termination reaches every process exactly once

Model: `ParsecVerif.UserTrigger` (mirrors `parsec_termdet_signal_termination`).
Quantification: every communicator size `n ≥ 1`, every root, every delivery order.
Hypothesis recorded for the tie: ranks are `< n`; `int` arithmetic does not overflow
(`2n + 2 < 2^31`), so `Nat` arithmetic agrees with the C expressions.
-/
namespace ParsecVerif.C12
open ParsecVerif.UserTrigger

/-- **Static exactly-once.**  If every process of the communicator signals termination once,
    the multiset of all notification destinations contains every non-root rank exactly once and
    never the root. -/
theorem static_exactly_once (n root r : Nat) (hroot : root < n) (hr : r < n) :
    ((allSends n root).map Prod.snd).count r = if r = root then 0 else 1 := by
  have h1 : (allSends n root).map Prod.snd = (List.range n).flatMap (children n root) := by
    unfold allSends
    rw [List.map_flatMap]
    congr 1; funext me
    rw [List.map_map]; exact List.map_id' _
  -- two senders of the same rank are both its parent
  have hnd : ((List.range n).flatMap (children n root)).Nodup := by
    refine List.pairwise_flatMap.2 ⟨fun me _ => children_nodup n root me hroot, List.nodup_range.imp_of_mem ?_⟩
    intro a b ha hb hab x hxa y hyb hxy
    subst hxy
    have hx := children_lt n root a x hroot hxa
    exact hab (((mem_children_iff n root a x hroot (List.mem_range.1 ha) hx).1 hxa).2.trans
      ((mem_children_iff n root b x hroot (List.mem_range.1 hb) hx).1 hyb).2.symm)
  have hmem : r ∈ (List.range n).flatMap (children n root) ↔ r ≠ root := by
    rw [List.mem_flatMap]
    constructor
    · rintro ⟨me, hme, h⟩
      exact ((mem_children_iff n root me r hroot (List.mem_range.1 hme) hr).1 h).1
    · intro h
      have hp := parent_lt n root r hroot
      exact ⟨_, List.mem_range.2 hp, (mem_children_iff n root _ r hroot hp hr).2 ⟨h, rfl⟩⟩
  rw [h1, hnd.count]
  simp only [hmem, ne_eq, ite_not]

/-- No notification leaves the communicator. -/
theorem dest_in_range (n root me c : Nat) (hroot : root < n) (h : c ∈ children n root me) : c < n :=
  children_lt n root me c hroot h

inductive Reach (n root : Nat) : Nat → Prop
  | root : Reach n root root
  | step {me c : Nat} : Reach n root me → c ∈ children n root me → Reach n root c

/-- **Every rank is reached** from the triggering process. -/
theorem all_reached (n root : Nat) (hroot : root < n) : ∀ r, r < n → Reach n root r :=
  parent_induction hroot Reach.root fun r hr hrr h =>
    Reach.step h ((mem_children_iff n root _ r hroot (parent_lt n root r hroot) hr).2 ⟨hrr, rfl⟩)

structure St where
  term : List Nat      -- processes that have signalled termination (most recent first)
  inflight : List Nat  -- destinations of notifications sent and not yet delivered
  recv : List Nat      -- log of receipts (most recent first)

def init (n root : Nat) : St := ⟨[root], children n root root, []⟩

/-- Deliver one in-flight notification addressed to `d`: `d` records the receipt, signals
    termination and notifies its own children (`msg_dispatch → set_nb_tasks(0) →
    signal_termination`). -/
def deliver (n root : Nat) (s : St) (d : Nat) : St :=
  if d ∈ s.inflight then ⟨d :: s.term, s.inflight.erase d ++ children n root d, d :: s.recv⟩ else s

def run (n root : Nat) (ds : List Nat) : St := ds.foldl (deliver n root) (init n root)

-- `closed`: with nothing in flight it carries termination from the root down the tree (`parent_induction`).
structure Inv (n root : Nat) (s : St) : Prop where
  nodup : (s.term ++ s.inflight).Nodup
  lt : ∀ x ∈ s.term ++ s.inflight, x < n
  closed : ∀ x, x < n → x ≠ root → (x ∈ s.term ++ s.inflight ↔ parent n root x ∈ s.term)
  log : s.term = s.recv ++ [root]

theorem inv_init (n root : Nat) (hroot : root < n) : Inv n root (init n root) := by
  have hch := fun x hx => mem_children_iff n root root x hroot hroot hx
  refine ⟨List.nodup_cons.2 ⟨fun h => ((hch root hroot).1 h).1 rfl, children_nodup n root root hroot⟩, ?_, ?_, rfl⟩
  · intro x hx
    rcases List.mem_cons.1 hx with rfl | hx
    · exact hroot
    · exact children_lt n root root x hroot hx
  · intro x hx hne
    show x ∈ root :: children n root root ↔ parent n root x ∈ [root]
    rw [List.mem_cons, hch x hx, List.mem_singleton]
    exact ⟨fun h => h.elim (absurd · hne) fun h => h.2.symm, fun h => Or.inr ⟨hne, h.symm⟩⟩

theorem inv_deliver (n root : Nat) (hroot : root < n) (s : St) (d : Nat) (h : Inv n root s) :
    Inv n root (deliver n root s d) := by
  unfold deliver
  split
  case isFalse => exact h
  case isTrue hd =>
    have hdn : d < n := h.lt d (List.mem_append_right _ hd)
    have hdterm : d ∉ s.term := fun h' => (List.nodup_append.1 h.nodup).2.2 d h' d hd rfl
    have hperm : ((d :: s.term) ++ (s.inflight.erase d ++ children n root d)).Perm
        ((s.term ++ s.inflight) ++ children n root d) := by
      rw [← List.append_assoc, List.cons_append]
      exact (List.perm_middle.symm.trans (List.Perm.append_left _ (List.perm_cons_erase hd).symm)).append_right _
    refine ⟨hperm.nodup_iff.2 (List.nodup_append.2 ⟨h.nodup, children_nodup n root d hroot, ?_⟩), ?_, ?_,
      by simp [h.log]⟩
    · rintro a ha _ hb rfl
      have han := children_lt n root d a hroot hb
      obtain ⟨hne, hp⟩ := (mem_children_iff n root d a hroot hdn han).1 hb
      exact hdterm (hp ▸ (h.closed a han hne).1 ha)
    · intro x hx
      rcases List.mem_append.1 (hperm.mem_iff.1 hx) with hx | hx
      · exact h.lt x hx
      · exact children_lt n root d x hroot hx
    · intro x hx hne
      rw [hperm.mem_iff, List.mem_append, h.closed x hx hne, mem_children_iff n root d x hroot hdn hx,
        List.mem_cons]
      exact ⟨fun h => h.elim Or.inr fun h => Or.inl h.2.symm, fun h => h.elim (fun h => Or.inr ⟨hne, h.symm⟩) Or.inl⟩

theorem inv_run (n root : Nat) (hroot : root < n) (ds : List Nat) : Inv n root (run n root ds) :=
  Interleave.foldl_inv (inv_deliver n root hroot) ds (inv_init n root hroot)

/-- **Safety, at every moment of every run:** no process has received two notifications and the
    triggering process has received none. -/
theorem never_twice (n root : Nat) (hroot : root < n) (ds : List Nat) :
    (run n root ds).recv.Nodup ∧ root ∉ (run n root ds).recv := by
  have h := inv_run n root hroot ds
  have hn := (List.nodup_append.1 h.nodup).1
  rw [h.log, List.nodup_append] at hn
  exact ⟨hn.1, fun hm => hn.2.2 root hm root (List.mem_singleton.2 rfl) rfl⟩

/-- **C12, dynamic form.**  In every run (any delivery order) that has no notification left in
    flight, every process other than the triggering one has received exactly one notification and
    the triggering one none. -/
theorem exactly_once (n root : Nat) (hroot : root < n) (ds : List Nat)
    (hq : (run n root ds).inflight = []) (r : Nat) (hr : r < n) :
    (run n root ds).recv.count r = if r = root then 0 else 1 := by
  have h := inv_run n root hroot ds
  have hall : ∀ x, x < n → x ∈ (run n root ds).term := by
    refine parent_induction hroot (by rw [h.log]; simp) fun x hx hxr hp => ?_
    have := (h.closed x hx hxr).2 hp
    rwa [hq, List.append_nil] at this
  obtain ⟨hnd, hroot'⟩ := never_twice n root hroot ds
  rw [hnd.count]
  by_cases hrr : r = root
  · rw [if_pos hrr, if_neg (hrr ▸ hroot')]
  · have := hall r hr
    rw [h.log, List.mem_append, List.mem_singleton] at this
    rw [if_neg hrr, if_pos (this.resolve_right hrr)]

/-- delivering a notification that is in flight lengthens the receipt log by one -/
theorem progress (n root : Nat) (s : St) (d : Nat) (hd : d ∈ s.inflight) :
    (deliver n root s d).recv.length = s.recv.length + 1 := by
  unfold deliver; rw [if_pos hd]; simp

/-- With `progress`: the log that every enabled delivery lengthens never exceeds `n - 1` entries. -/
theorem log_bounded (n root : Nat) (hroot : root < n) (ds : List Nat) :
    (run n root ds).recv.length + 1 ≤ n := by
  have h := inv_run n root hroot ds
  have := length_le_of_nodup_lt n _ (List.nodup_append.1 h.nodup).1 fun x hx => h.lt x (List.mem_append_left _ hx)
  rw [h.log] at this
  simpa using this

/-! Non-vacuity: `hq` of `exactly_once` can hold. -/
example : (run 5 3 [4, 0, 1, 2]).inflight = [] ∧ (run 5 3 [4, 0, 1, 2]).recv = [2, 1, 0, 4] := by decide +kernel
example : (run 6 2 [4, 3, 0, 5, 1]).inflight = [] := by decide +kernel
example : ((allSends 7 5).map Prod.snd).count 5 = 0 ∧ ((allSends 7 5).map Prod.snd).count 4 = 1 := by decide +kernel

end ParsecVerif.C12
