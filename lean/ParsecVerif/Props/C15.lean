import ParsecVerif.Proofs.CompoundRun
import ParsecVerif.Proofs.ComposeArray
/-!
# C15 — composed taskpools run strictly one after another

Theorems about EVERY run of the compound machine `Model/Compound.lean` (built on the context machine
of C06): any number of compounds of any size in one context, any number of threads and of other
taskpools, any interleaving of its transitions (the startup hook and the callback of a compound are one
transition each, made of two or three of the context machine).  `members[i]` is tp[i] of `parsec_compose`.
-/
namespace ParsecVerif.C15
open ParsecVerif.Context ParsecVerif.Compound

/-- **Composition order.**  For `i < j`: as soon as any task of tp[j] has started, every task of
    tp[i] has started and ended, tp[i] is in or past its completion callback, and the LAST task end of
    tp[i] is earlier than the FIRST task start of tp[j]. -/
theorem C15_order_members (k : Nat) (tps : List Tp) (comps : List Comp) (hwf : WF tps comps) (trs : List CTr)
    (ci : Nat) (c : Comp) (hc : (crun k tps comps trs).comps[ci]? = some c)
    (i j mi mj : Nat) (ti tj : Tp) (hij : i < j) (hi : c.members[i]? = some mi) (hj : c.members[j]? = some mj)
    (hti : (crun k tps comps trs).base.tps[mi]? = some ti) (htj : (crun k tps comps trs).base.tps[mj]? = some tj)
    (hb : tj.firstBegin ≠ 0) :
    ti.ended = ti.total ∧ ti.started = ti.total ∧ (ti.st = .inCb ∨ ti.st = .inCbN ∨ ti.st = .done) ∧
    ti.lastEnd < ti.cbAt ∧ ti.cbAt < tj.addAt ∧ tj.addAt < tj.firstBegin := by
  have hg := gi_run k tps comps hwf trs
  have hci := hg.ci ci c hc
  obtain ⟨ha0, ha1⟩ := tpOK_begin (hg.sinv.tpok tj (List.mem_of_getElem? htj)) hb
  obtain ⟨b1, b2⟩ := chain hci hg.sinv.tpok hij hi hj hti htj ha0
  have r := tpOK_in_cb (hg.sinv.tpok ti (List.mem_of_getElem? hti)) (Or.inl b1)
  have rd := r.det (hci.get hi hti).1
  exact ⟨r.ended, rd.2.2.2, rd.1, r.end_cb, b2, ha1⟩

/-- **The assert of `parsec_composed_taskpool_cb` cannot fail for a plain member, and the next taskpool is
    enabled iff some remain.**  Whenever the termination of a member `m` can be detected by the context (`detect`), `m` is
    `taskpool_array[completed]`, `nb_pending_actions = n − completed`, hence `remaining > 0` exactly
    when `completed + 1 < n`, and in that case `taskpool_array[completed+1]` exists and has never been added.
    A member that is itself a compound is never detected this way: it notifies its parent by `compCb`, and there
    `members[completed] = self` is in the guard of the transition, not proved. -/
theorem C15_assert_holds (k : Nat) (tps : List Tp) (comps : List Comp) (hwf : WF tps comps) (trs : List CTr)
    (ci : Nat) (c : Comp) (hc : (crun k tps comps trs).comps[ci]? = some c) (t m : Nat) (hm : m ∈ c.members) (s1 : St)
    (hdet : step? (crun k tps comps trs).base (.detect t m) = some s1) :
    c.members[c.completed]? = some m ∧ c.pending = (c.members.length : Int) - c.completed ∧
    (c.pending - 1 > 0 ↔ c.completed + 1 < c.members.length) ∧
    (c.completed + 1 < c.members.length → ∃ (nx : Nat) (tn : Tp), c.members[c.completed + 1]? = some nx ∧
        (crun k tps comps trs).base.tps[nx]? = some tn ∧ tn.st = .notAdded) := by
  have hg := gi_run k tps comps hwf trs
  have hci := hg.ci ci c hc
  obtain ⟨_, tp, _, _, htp, hu, _⟩ := step?_upd rfl hdet
  cases hu with | detect hst =>
  obtain ⟨kk, hk⟩ := List.mem_iff_getElem?.1 hm
  obtain ⟨hkc, hpend⟩ := (hci.get hk htp).2.eq (Or.inr hst.2.2.1)
  refine ⟨hkc ▸ hk, hpend, by omega, fun hlt' => ?_⟩
  have hn := List.getElem?_eq_getElem hlt'
  obtain ⟨tn, htn, _, _, h3, _⟩ := hci.mem _ _ hn
  exact ⟨_, tn, hn, htn, h3 (Nat.lt_succ_self _)⟩

/-- **The compound completes at most once, and only after tp[n-1]** (repaired code).  At every moment of every
    run: the completion callback of the compound object ran at most once; it has run (exactly once)
    if and only if all `n` members completed; and when it has run, every member is in or past its own
    completion callback, all its tasks have started and ended, and
    `lastEnd(member) < cbAt(member) < cbAt(compound)`: the compound's completion is later than the
    last task of every composed taskpool (in particular of tp[n-1]).  The members complete in order:
    the first `completed` of them are in or past their callback, and a member in state `inCb` or `done` is one of
    them (a nested compound at position `completed` is in its callback, `inCbN`, before its parent is notified). -/
theorem C15_once (k : Nat) (tps : List Tp) (comps : List Comp) (hwf : WF tps comps) (trs : List CTr)
    (ci : Nat) (c : Comp) (hc : (crun k tps comps trs).comps[ci]? = some c)
    (ts : Tp) (hts : (crun k tps comps trs).base.tps[c.self]? = some ts) :
    ts.cbs ≤ 1 ∧ (ts.cbs = 1 ↔ c.completed = c.members.length) ∧ (ts.cbs = 1 ↔ ts.cbAt ≠ 0) ∧
    (c.completed = c.members.length → ts.st = .inCbN ∨ ts.st = .done) ∧
    (∀ (i m : Nat) (tp : Tp), c.members[i]? = some m → (crun k tps comps trs).base.tps[m]? = some tp →
        ((tp.st = .inCb ∨ tp.st = .done → i < c.completed) ∧
         (i < c.completed → tp.st = .inCb ∨ tp.st = .inCbN ∨ tp.st = .done))) ∧
    (ts.cbAt ≠ 0 → ∀ (m : Nat) (tm : Tp), m ∈ c.members → (crun k tps comps trs).base.tps[m]? = some tm →
        (tm.st = .inCb ∨ tm.st = .inCbN ∨ tm.st = .done) ∧ tm.ended = tm.total ∧ tm.started = tm.total ∧
        tm.lastEnd < tm.cbAt ∧ tm.cbAt < ts.cbAt) := by
  have hg := gi_run k tps comps hwf trs
  have hci := hg.ci ci c hc
  have a := (hg.cself ci c hc).get hts
  have hok := hg.sinv.tpok ts (List.mem_of_getElem? hts)
  -- the callback of the object has run exactly when all members completed
  have key : (c.completed = c.members.length ∧ ts.cbs = 1 ∧ ts.cbAt ≠ 0) ∨
      (c.completed < c.members.length ∧ ts.cbAt = 0 ∧ ts.cbs = 0) :=
    (Nat.eq_or_lt_of_le hci.le).imp
      (fun e => have r := tpOK_in_cb hok (Or.inr (Or.inr (a.fin e))); ⟨e, r.cbs, r.cb⟩) fun h => ⟨h, a.nocb h⟩
  refine ⟨(tpOK_cb hok).1, by omega, by omega, a.fin, fun i m tp hm htp => ?_, fun hcb m tm hm htm => ?_⟩
  · exact ⟨(hci.get hm htp).2.lt, (hci.get hm htp).2.1⟩
  · obtain ⟨i, hi⟩ := List.mem_iff_getElem?.1 hm
    obtain ⟨g1, g2⟩ := member_cb_lt_self hg hc hts hi htm hcb
    have r := tpOK_in_cb (hg.sinv.tpok tm (List.mem_of_getElem? htm)) (Or.inl g1)
    have rd := r.det (hci.get hi htm).1
    exact ⟨rd.1, r.ended, rd.2.2.2, r.end_cb, g2⟩

/-- The second half of the statement of C15 ("the compound completes … after the last one"), in full: whenever the compound's completion callback has run, every
    task of every composed taskpool has ended before it. -/
def CompletesAfterLast : Prop :=
  ∀ (k : Nat) (tps : List Tp) (comps : List Comp), WF tps comps → ∀ (trs : List CTr) (ci : Nat) (c : Comp),
    (crun k tps comps trs).comps[ci]? = some c → ∀ ts : Tp, (crun k tps comps trs).base.tps[c.self]? = some ts → ts.cbAt ≠ 0 →
    ∀ (m : Nat) (tm : Tp), m ∈ c.members → (crun k tps comps trs).base.tps[m]? = some tm →
      tm.ended = tm.total ∧ tm.lastEnd < ts.cbAt

/-- **The compound completes after its last taskpool** (repaired code). -/
theorem C15_completes_after_last : CompletesAfterLast := by
  intro k tps comps hwf trs ci c hc ts hts hcb m tm hm htm
  obtain ⟨_, _, _, _, _, h6⟩ := C15_once k tps comps hwf trs ci c hc ts hts
  obtain ⟨_, e2, _, e4, e5⟩ := h6 hcb m tm hm htm
  exact ⟨e2, by omega⟩

def wTps : List Tp := [mkTp 1 false false, mkTp 1 false false, mkTp 0 false true]
def wComps : List Comp := [{ self := 2, members := [0, 1] }]
/-- non-vacuity: master adds the compound, starts, waits; the members run one after the other; the last
    member's callback terminates the compound (nested), then both decrements, then the wait returns -/
def wRun : List CTr :=
  [.ctx (.addCall 0 2), .ctx (.addInc 0), .startup 0 0, .ctx (.addInc 0),
   .ctx (.addReturn 0), .ctx .startBarrier, .ctx .startToken, .ctx .waitBegin, .ctx (.taskBegin 0 0), .ctx (.taskEnd 0),
   .memberCb 0 0 0, .ctx (.addInc 0), .ctx (.addReturn 0), .ctx (.dec 0), .ctx (.taskBegin 0 1), .ctx (.taskEnd 0),
   .memberCb 0 0 1, .ctx (.nestDec 0), .ctx (.dec 0), .ctx .sawZero, .ctx .barrier, .ctx .waitReturn]

theorem forall_pair {α} {P : α → Prop} {a b : α} (ha : P a) (hb : P b) : ∀ m ∈ [a, b], P m :=
  List.forall_mem_cons.2 ⟨ha, List.forall_mem_singleton.2 hb⟩

theorem wWF : WF wTps wComps :=
  ⟨by decide, by decide,
    List.forall_mem_singleton.2
      ⟨rfl, rfl, by decide, by decide, ⟨_, rfl, rfl, rfl⟩, forall_pair ⟨_, rfl, rfl⟩ ⟨_, rfl, rfl⟩⟩,
    by simp [wTps, mkTp_fresh]⟩

/-- the run records: member callbacks at 12 and 20, the compound's callback at 21 (after the last task end,
    19), its decrement at 22, the last member's decrement at 23, the wait return at 26 -/
theorem wFacts : (crun 0 wTps wComps wRun).base.tps.map (fun t => (t.cbAt, t.decAt, t.addAt, t.firstBegin, t.lastEnd)) =
      [(12, 17, 5, 10, 11), (20, 23, 15, 18, 19), (21, 22, 2, 0, 0)] ∧
    (crun 0 wTps wComps wRun).base.waitRets = [26] ∧ (crun 0 wTps wComps wRun).base.active = 0 ∧
    (crun 0 wTps wComps wRun).comps.map (fun c => (c.self, c.members, c.completed, c.pending)) = [(2, [0, 1], 2, 0)] := by decide +kernel

/-- **A subtree runs inside the interval of its root.**  For a leaf x of the subtree rooted at the object n:
    x starts only after n was added, and once n's completion callback has run every task of x has ended before it. -/
theorem subtree_bounds {cs : CSt} (hg : GI cs) {n x : Nat} (hl : LeafOf cs.comps n x) :
    ∀ (tn tx : Tp), cs.base.tps[n]? = some tn → cs.base.tps[x]? = some tx →
      (tx.firstBegin ≠ 0 → tn.addAt ≠ 0 ∧ tn.addAt < tx.firstBegin) ∧
      (tn.cbAt ≠ 0 → tx.ended = tx.total ∧ tx.lastEnd < tn.cbAt) := by
  induction hl with
  | leaf n _ =>
    intro tn tx htn htx
    rw [htn] at htx; cases htx
    have hok := hg.sinv.tpok tn (List.mem_of_getElem? htn)
    exact ⟨tpOK_begin hok, fun hcb => have r := tpOK_in_cb hok (Or.inl hcb); ⟨r.ended, r.end_cb⟩⟩
  | node c m x hc hm _ ih =>
    intro tn tx htn htx
    obtain ⟨ci, hcget⟩ := List.mem_iff_getElem?.1 hc
    obtain ⟨i, hi⟩ := List.mem_iff_getElem?.1 hm
    obtain ⟨tm, htm, _⟩ := (hg.ci ci c hcget).mem i m hi
    obtain ⟨ih1, ih2⟩ := ih tm tx htm htx
    refine ⟨(((hg.cself ci c hcget).get htn).add hm htm).trans ih1, fun hcb => ?_⟩
    obtain ⟨g1, g2⟩ := member_cb_lt_self hg hcget htn hi htm hcb
    exact ⟨(ih2 g1).1, Nat.lt_trans (ih2 g1).2 g2⟩

/-- **Composition order over composition trees.**  In every reachable state of every run, for every object n of
    the composition forest (a compound at any nesting level) and leaves a before b in the in-order sequence of the
    subtree of n: as soon as any task of b has started, every task of a has ended, and the LAST task end of a is
    earlier than the FIRST task start of b. -/
theorem C15_inorder (k : Nat) (tps : List Tp) (comps : List Comp) (hwf : WF tps comps) (trs : List CTr)
    (n a b : Nat) (hp : Precedes (crun k tps comps trs).comps n a b)
    (ta tb : Tp) (hta : (crun k tps comps trs).base.tps[a]? = some ta) (htb : (crun k tps comps trs).base.tps[b]? = some tb)
    (hb : tb.firstBegin ≠ 0) : ta.ended = ta.total ∧ ta.lastEnd < tb.firstBegin := by
  have hg := gi_run k tps comps hwf trs
  induction hp with
  | direct c i j mi mj a b hc hij hi hj ha hbl =>
    obtain ⟨ci, hcget⟩ := List.mem_iff_getElem?.1 hc
    have hci := hg.ci ci c hcget
    obtain ⟨ti, hti, _⟩ := hci.mem i mi hi
    obtain ⟨tj, htj, _⟩ := hci.mem j mj hj
    obtain ⟨c1, c2⟩ := (chain hci hg.sinv.tpok hij hi hj hti htj).trans (subtree_bounds hg hbl tj tb htj htb).1 hb
    obtain ⟨e1, e2⟩ := (subtree_bounds hg ha ti ta hti hta).2 c1
    exact ⟨e1, Nat.lt_trans e2 c2⟩
  | nested c m a b _ _ _ ih => exact ih hta htb

/-- **The outermost compound completes at most once, and only after the last leaf.**  For every compound (in particular the root
    of a composition tree): its completion callback ran at most once, exactly once iff all its members completed,
    and when it has run every task of every leaf of its subtree — at any nesting depth — has ended before it. -/
theorem C15_root_after_leaves (k : Nat) (tps : List Tp) (comps : List Comp) (hwf : WF tps comps) (trs : List CTr)
    (ci : Nat) (c : Comp) (hc : (crun k tps comps trs).comps[ci]? = some c)
    (ts : Tp) (hts : (crun k tps comps trs).base.tps[c.self]? = some ts) :
    ts.cbs ≤ 1 ∧ (ts.cbs = 1 ↔ c.completed = c.members.length) ∧
    (ts.cbAt ≠ 0 → ∀ (x : Nat) (tx : Tp), LeafOf (crun k tps comps trs).comps c.self x →
        (crun k tps comps trs).base.tps[x]? = some tx → tx.ended = tx.total ∧ tx.lastEnd < ts.cbAt) := by
  obtain ⟨h1, h2, _⟩ := C15_once k tps comps hwf trs ci c hc ts hts
  exact ⟨h1, h2, fun hcb x tx hl htx => (subtree_bounds (gi_run k tps comps hwf trs) hl ts tx hts htx).2 hcb⟩

/-- the members of the compounds never change -/
theorem comps_static (k : Nat) (tps : List Tp) (comps : List Comp) (trs : List CTr) :
    (crun k tps comps trs).comps.map (fun c => (c.self, c.members)) = comps.map (fun c => (c.self, c.members)) :=
  foldl_getD_inv (f := cstep?) (P := fun cs => cs.comps.map (fun c => (c.self, c.members)) = comps.map _)
    (fun h e => (cstep?_comps e).trans h) trs rfl

theorem leavesList_append (a b : List CT) : leavesList (a ++ b) = leavesList a ++ leavesList b := by
  induction a with
  | nil => simp [leavesList]
  | cons t ts ih => simp [leavesList, ih, List.append_assoc]

/-- **The four argument-kind cases of `parsec_compose`, exactly as coded**: a compound `start` gets `next`
    appended as ONE member (whether `next` is plain or a compound: no flattening); a plain `start` yields a new
    compound [start, next] (a compound `next` becomes a nested member). -/
theorem C15_compose_cases :
    (∀ i j, composeT (.leaf i) (.leaf j) = .comp [.leaf i, .leaf j]) ∧
    (∀ ms j, composeT (.comp ms) (.leaf j) = .comp (ms ++ [.leaf j])) ∧
    (∀ i ns, composeT (.leaf i) (.comp ns) = .comp [.leaf i, .comp ns]) ∧
    (∀ ms ns, composeT (.comp ms) (.comp ns) = .comp (ms ++ [.comp ns])) :=
  ⟨fun _ _ => rfl, fun _ _ => rfl, fun _ _ => rfl, fun _ _ => rfl⟩

/-- in all four cases the leaves of the result are the leaves of `start` followed by the leaves of `next` -/
theorem C15_compose_inorder (a b : CT) : (composeT a b).leaves = a.leaves ++ b.leaves := by
  cases a with
  | leaf i => simp [composeT, CT.leaves, leavesList]
  | comp ms => simp [composeT, CT.leaves, leavesList_append, leavesList]

/-- **For every composition expression** (left folds, right folds, arbitrary binary trees) the leaf sequence of
    the object that `parsec_compose` builds is the in-order (left-to-right) sequence of the expression. -/
theorem C15_tree_inorder (e : CE) : e.eval.leaves = e.inorder := by
  induction e with
  | tp i => rfl
  | compose a b iha ihb => simp [CE.eval, CE.inorder, C15_compose_inorder, iha, ihb]

/-- the two behaviours of `C15_compose_cases` (append to a compound `a`, else a new compound [a, b]) for `hcompose`, where the
    compound objects are a list of (id, members) -/
theorem C15_hcompose (heap : List (Nat × List Nat)) (fresh a b : Nat) :
    (heap.any (fun e => e.1 == a) = true →
        (hcompose heap fresh a b).2 = a ∧
        (hcompose heap fresh a b).1 = heap.map (fun e => if e.1 == a then (e.1, e.2 ++ [b]) else e)) ∧
    (heap.any (fun e => e.1 == a) = false →
        (hcompose heap fresh a b).2 = fresh ∧ (hcompose heap fresh a b).1 = heap ++ [(fresh, [a, b])]) := by
  constructor <;> intro h <;> simp [hcompose, h]

example : (CE.compose (.tp 0) (.compose (.compose (.tp 1) (.tp 2)) (.compose (.tp 3) (.tp 4)))).eval =
    .comp [.leaf 0, .comp [.leaf 1, .leaf 2, .comp [.leaf 3, .leaf 4]]] := rfl

/-! Non-vacuity for nested compounds: compose(t0, compose(t1, t2)) — object 3 = [1,2] is a member of object 4 = [0,3].
    The master adds 4, starts, waits; t0, then the nested compound (t1, t2), whose termination is detected nested in t2's
    callback and notifies 4, which terminates nested one level deeper. -/
def nTps : List Tp := [mkTp 1 false false, mkTp 1 false false, mkTp 1 false false, mkTp 0 false true, mkTp 0 false true]
def nComps : List Comp := [{ self := 3, members := [1, 2] }, { self := 4, members := [0, 3] }]
def nRun : List CTr := [.ctx (.addCall 0 4), .ctx (.addInc 0), .startup 0 1, .ctx (.addInc 0), .ctx (.addReturn 0),
  .ctx .startBarrier, .ctx .startToken, .ctx .waitBegin, .ctx (.taskBegin 0 0), .ctx (.taskEnd 0),
  .memberCb 0 1 0, .ctx (.addInc 0), .startup 0 0, .ctx (.addInc 0), .ctx (.addReturn 0), .ctx (.dec 0),
  .ctx (.taskBegin 0 1), .ctx (.taskEnd 0), .memberCb 0 0 1, .ctx (.addInc 0), .ctx (.addReturn 0), .ctx (.dec 0),
  .ctx (.taskBegin 0 2), .ctx (.taskEnd 0), .memberCb 0 0 2, .compCb 0 1 0, .ctx (.nestDec 0), .ctx (.nestDec 0), .ctx (.dec 0),
  .ctx .sawZero, .ctx .barrier, .ctx .waitReturn]

theorem nWF : WF nTps nComps := by
  refine ⟨by decide, by decide, forall_pair ?_ ?_, by simp [nTps, mkTp_fresh]⟩ <;>
    exact ⟨rfl, rfl, by decide, by decide, ⟨_, rfl, rfl, rfl⟩, forall_pair ⟨_, rfl, rfl⟩ ⟨_, rfl, rfl⟩⟩

/-- (callback, decrement, add, first task begin, last task end) of t0, t1, t2, object 3, object 4 -/
theorem nFacts : (crun 0 nTps nComps nRun).base.tps.map (fun t => (t.cbAt, t.decAt, t.addAt, t.firstBegin, t.lastEnd)) =
      [(12, 20, 5, 10, 11), (23, 28, 18, 21, 22), (31, 36, 26, 29, 30), (32, 35, 15, 0, 0), (33, 34, 2, 0, 0)] ∧
    (crun 0 nTps nComps nRun).base.waitRets = [39] ∧ (crun 0 nTps nComps nRun).base.active = 0 := by decide +kernel

example : Precedes nComps 4 0 2 :=
  .direct { self := 4, members := [0, 3] } 0 1 0 3 0 2 (by simp [nComps]) (by decide) rfl rfl
    (.leaf 0 (by decide)) (.node { self := 3, members := [1, 2] } 2 2 (by simp [nComps]) (by decide) (.leaf 2 (by decide)))
example : Precedes nComps 4 1 2 :=
  .nested { self := 4, members := [0, 3] } 3 1 2 (by simp [nComps]) (by decide)
    (.direct { self := 3, members := [1, 2] } 0 1 1 2 1 2 (by simp [nComps]) (by decide) rfl rfl (.leaf 1 (by decide)) (.leaf 2 (by decide)))

/-- the statement `CompletesAfterLast` for the compound as the code stood before the repair (`WFBuggy`, `crunBuggy`) -/
def CompletesAfterLastBuggy : Prop :=
  ∀ (k : Nat) (tps : List Tp) (comps : List Comp), WFBuggy tps comps → ∀ (trs : List CTr) (ci : Nat) (c : Comp),
    (crunBuggy k tps comps trs).comps[ci]? = some c → ∀ ts : Tp, (crunBuggy k tps comps trs).base.tps[c.self]? = some ts → ts.cbAt ≠ 0 →
    ∀ (m : Nat) (tm : Tp), m ∈ c.members → (crunBuggy k tps comps trs).base.tps[m]? = some tm →
      tm.ended = tm.total ∧ tm.lastEnd < ts.cbAt

def bTps : List Tp := [mkTp 1 false false, mkTp 1 false false, mkTp 0 true false]
/-- the witness: the compound's callback and decrement run inside add_taskpool; only then do the members run -/
def bRun : List CTr :=
  [.ctx (.addCall 0 2), .ctx (.earlyCb 0), .ctx (.earlyDec 0), .ctx (.addInc 0), .startup 0 0, .ctx (.addInc 0),
   .ctx (.addReturn 0), .ctx .startBarrier, .ctx .startToken, .ctx .waitBegin, .ctx (.taskBegin 0 0), .ctx (.taskEnd 0),
   .memberCb 0 0 0, .ctx (.addInc 0), .ctx (.addReturn 0), .ctx (.dec 0), .ctx (.taskBegin 0 1), .ctx (.taskEnd 0),
   .memberCb 0 0 1, .ctx (.dec 0), .ctx .sawZero, .ctx .barrier, .ctx .waitReturn]

theorem bWF : WFBuggy bTps wComps :=
  ⟨by decide,
    List.forall_mem_singleton.2
      ⟨rfl, rfl, by decide, by decide, ⟨_, rfl, rfl⟩, forall_pair ⟨_, rfl, rfl, rfl⟩ ⟨_, rfl, rfl, rfl⟩⟩,
    by simp [bTps, mkTp_fresh]⟩

/-- before the repair: callback of the compound at stamp 2 and its decrement at 3, before its increment (4);
    the members' tasks at 11-12 and 18-19; the wait returns at 24 with everything done -/
theorem bFacts : (crunBuggy 0 bTps wComps bRun).base.tps.map (fun t => (t.cbAt, t.decAt, t.addAt, t.firstBegin, t.lastEnd)) =
      [(13, 17, 6, 11, 12), (20, 21, 15, 18, 19), (2, 3, 4, 0, 0)] ∧
    (crunBuggy 0 bTps wComps bRun).base.waitRets = [24] ∧ (crunBuggy 0 bTps wComps bRun).base.active = 0 ∧
    (crunBuggy 0 bTps wComps bRun).comps.map (fun c => (c.self, c.members, c.completed, c.pending)) = [(2, [0, 1], 2, 0)] := by decide +kernel

/-- **Before the repair the compound did NOT complete after its last taskpool** (finding, repaired by the
    `fix:` commit on parsec/compound.c; the reverse patch is caught by the check with a failing input). -/
theorem C15_buggy_not_after_last : ¬ CompletesAfterLastBuggy := by
  intro h
  obtain ⟨hf, _, _, hcm⟩ := bFacts
  have h := h 0 bTps wComps bWF bRun
  -- read the compound and the descriptors of its first member and of its object off the recorded facts
  generalize crunBuggy 0 bTps wComps bRun = cs at hf hcm h
  obtain ⟨c, _, hc, ec, _⟩ := List.map_eq_cons_iff.1 hcm
  obtain ⟨t0, _, h0, e0, r⟩ := List.map_eq_cons_iff.1 hf
  obtain ⟨t1, _, rfl, _, r⟩ := List.map_eq_cons_iff.1 r
  obtain ⟨t2, _, rfl, e2, _⟩ := List.map_eq_cons_iff.1 r
  simp only [Prod.mk.injEq] at ec e0 e2
  have := h 0 c (by rw [hc]; rfl) t2 (by rw [ec.1, h0]; rfl) (by rw [e2.1]; decide) 0 t0 (by rw [ec.2.1]; decide)
    (by rw [h0]; rfl)
  omega

/-- **The array of `parsec_compose`, for every n ≥ 2.**  Composing `a, b, rest…` left to right yields a
    compound whose count is n, whose array holds the n taskpools in composition order followed by a
    NULL, inside an allocation of `16·(n/16 + 1)` entries (grown by 16 whenever the count reaches a
    multiple of 16), and no write ever fell outside the allocation.  Fewer than two taskpools create no
    compound object (`parsec_compose(tp, NULL) = tp`). -/
theorem C15_compose_array (a b : Nat) (rest : List Nat) :
    ∃ arr : Arr, compose (a :: b :: rest) = some arr ∧ arr.nb = rest.length + 2 ∧ arr.oob = false ∧
      arr.slots.length = arr.cap ∧ arr.cap = 16 * (arr.nb / 16 + 1) ∧ arr.nb < arr.cap ∧
      arr.slots[arr.nb]? = some .null ∧
      (∀ i, i < rest.length + 2 → arr.slots[i]? = ((a :: b :: rest)[i]?).map Slot.tp) ∧
      compose [a] = none ∧ compose [] = none :=
  ⟨_, compose_eq a b rest, rfl, rfl, arrOf_length _, rfl, arrOf_lt _, arrOf_null _, fun _ hi => arrOf_get _ hi, rfl, rfl⟩

set_option maxRecDepth 20000 in
example : ((compose (List.range 33)).map (fun a => (a.cap, a.nb, a.oob, a.slots[32]?, a.slots[33]?))) =
    some (48, 33, false, some (.tp 32), some .null) := by decide +kernel

/-- the invariants of the context machine hold of the context under every run of the compound machine, and with them the
    soundness of `parsec_context_wait` (cf. `C06_wait_sound`) -/
theorem C15_context_theorems_apply (k : Nat) (tps : List Tp) (comps : List Comp) (hwf : WF tps comps) (trs : List CTr) :
    Inv (crun k tps comps trs).base ∧ SInv (crun k tps comps trs).base ∧
    ∀ r ∈ (crun k tps comps trs).base.waitRets, ∀ tp ∈ (crun k tps comps trs).base.tps, tp.addAt ≠ 0 → tp.addAt < r →
      tp.st = .done ∧ tp.ended = tp.total ∧ tp.cbs = 1 ∧ tp.lastEnd < tp.cbAt ∧ tp.cbAt < tp.decAt ∧ tp.decAt < r := by
  have hg := gi_run k tps comps hwf trs
  exact ⟨hg.inv, hg.sinv, fun r hr tp hm ha hlt =>
    let ⟨h1, h2, _, h4⟩ := hg.sinv.wait_sound hr hm ha hlt; ⟨h1, h2, h4⟩⟩

end ParsecVerif.C15
