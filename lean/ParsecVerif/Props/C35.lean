import ParsecVerif.Proofs.MaxHeapPool
import ParsecVerif.Proofs.MaxHeapShape
import ParsecVerif.Proofs.HbBufferBest
/-!
# C35 — task buffers and heaps keep every task and prefer the best

Models: `ParsecVerif.HbBuffer` (parsec/hbbuffer.c, one step per shared-memory access, any number of
threads) and `ParsecVerif.MaxHeap` (parsec/maxheap.c, sequential — "not thread safe, protected by the
upper level").

Buffers
* `C35_hbb_conservation` — for all initial contents, all programs of push_all / push_all_by_priority /
  pop_best per thread and ALL interleavings: slots ⊎ parent store ⊎ in-hand = what was there initially
  (nothing is created, nothing is lost), as multisets.
* `C35_hbb_never_lost` — the same at quiescence: slots ⊎ parent ⊎ callers' hands.
* `C35_hbb_best` — a pop_best that runs alone returns a task of maximal priority, the one at the lowest
  index among equals, empties exactly that slot; NULL iff the buffer holds no task.
* `C35_macro_is_micro` — a step of the cooperative scheduler is a run of model steps.

Heaps, in every pool reached by a script of create / insert / remove / split_and_steal (< 2^32 calls)
* `C35_heap_invariant` — every live heap satisfies the invariant `Inv`, hence
  `C35_heap_shape`, `C35_heap_leftComplete` — it is the left-complete tree with `size` nodes;
* `C35_heap_order` — the top has the highest priority of the heap and `heap->priority` is the top's.
* `C35_heap_conservation` — tasks in the heaps ⊎ returned tasks = inserted tasks.

Heaps, one call on any heap that satisfies `Inv` (for split: size < 2^32)
* `C35_heap_nav_defined` — remove and split are defined on a non-empty heap: the bit navigation of remove
  never dereferences NULL; `C35_heap_insert_defined` — insert keeps the invariant and adds exactly the new task.
* `C35_heap_returns_top` — remove and split_and_steal return the top, i.e. a maximal task.
* `C35_split_sizes` — the sizes written by the split are the real sizes of the two subtrees.
-/
namespace ParsecVerif.C35
open ParsecVerif.MaxHeap (Task)

section Buffers
open ParsecVerif.HbBuffer

/-- CONSERVATION, all interleavings (`sched` is any): `own a th` counts `a` in the locals of the running operation
    of `th` and in its caller's hand. -/
theorem C35_hbb_conservation (slots0 : List (Option Task)) (thr0 : List (List Task × List Op))
    (sched : List Nat) (a : Task) :
    (run (init slots0 thr0) sched).mem.slots.count (some a) + (run (init slots0 thr0) sched).mem.parent.count a +
      ((run (init slots0 thr0) sched).thr.map (own a)).sum
    = slots0.count (some a) + (thr0.map (fun p => p.1.count a)).sum :=
  (run_total sched _ a).trans (total_init slots0 thr0 a)

theorem C35_hbb_never_lost (slots0 : List (Option Task)) (thr0 : List (List Task × List Op))
    (sched : List Nat) (a : Task)
    (hq : ∀ th ∈ (run (init slots0 thr0) sched).thr, th.pc = .idle) :
    (run (init slots0 thr0) sched).mem.slots.count (some a) + (run (init slots0 thr0) sched).mem.parent.count a +
      ((run (init slots0 thr0) sched).thr.map (fun th => th.hand.count a)).sum
    = slots0.count (some a) + (thr0.map (fun p => p.1.count a)).sum :=
  (total_idle a hq).symm.trans (C35_hbb_conservation slots0 thr0 sched a)

/-- QUIESCENT pop_best = the best: thread `t` is about to call pop_best and then runs alone.  After
    finitely many of its steps the call has returned `r`, which is in the caller's hand. -/
theorem C35_hbb_best (s : State) (t : Nat) (th : Thread) (rest : List Op)
    (ht : s.thr[t]? = some th) (hpc : th.pc = .idle) (htodo : th.todo = .pop :: rest) :
    ∃ n r, (solo n s t).thr[t]? = some { th with todo := rest, hand := r.toList ++ th.hand, rets := th.rets ++ [.item r] } ∧
      (∀ u, u ≠ t → (solo n s t).thr[u]? = s.thr[u]?) ∧
      (solo n s t).mem.parent = s.mem.parent ∧
      match r with
      | none => (∀ (j : Nat) (y : Task), s.mem.slots[j]? = some (some y) → False) ∧ (solo n s t).mem.slots = s.mem.slots
      | some x => ∃ k, s.mem.slots[k]? = some (some x) ∧
          (∀ (j : Nat) (y : Task), s.mem.slots[j]? = some (some y) → y.prio < x.prio ∨ (y.prio = x.prio ∧ k ≤ j)) ∧
          (solo n s t).mem.slots = s.mem.slots.set k none := by
  have hti := Interleave.lt_of_getElem? ht
  obtain ⟨n, h⟩ := soloTh_pop s.mem th rest hpc htodo
  have hb := scan_spec s.mem.slots
  refine ⟨n, popResult s.mem.slots, ?_⟩
  rw [solo_eq t n s th ht, h]
  refine ⟨by simp [afterPop, List.getElem?_set_self hti, hpc], fun u hu => List.getElem?_set_ne (Ne.symm hu), rfl, ?_⟩
  unfold afterPop popResult
  generalize scan s.mem.slots 0 none = r at hb ⊢
  match r with
  | none => exact ⟨fun j y h => hb j y (Interleave.lt_of_getElem? h) h, rfl⟩
  | some (x, k) => exact ⟨k, hb.1, fun j y h => hb.2.2 j y (Interleave.lt_of_getElem? h) h, rfl⟩

/-- one step of the cooperative scheduler (the real code runs from a park point to the next one) is a
    run of micro steps of the same thread: every schedule the harness can produce is a schedule of the
    model, so the all-interleavings theorems cover it.  Not stated: that the run ends at a park point
    (`runToPark` also stops when its fuel is used up). -/
theorem C35_macro_is_micro (s : State) (t : Nat) : ∃ n, macroStep s t = run s (List.replicate (n + 1) t) := by
  obtain ⟨n, hn⟩ := runToPark_solo t 1000000 (step s t)
  exact ⟨n, hn.trans (solo_eq_run t (n + 1) s)⟩

/-! non-vacuity: a full buffer of size 2, two threads: T0 pushes [(9,1),(1,2)] by priority (ejecting the
    lowest), T1 pops twice; an interleaved schedule in which T1 pops the task T0 has just pushed -/
def exInit : State :=
  init [some ⟨5, 10⟩, some ⟨3, 11⟩] [([⟨9, 1⟩, ⟨1, 2⟩], [.pushPrio [⟨9, 1⟩, ⟨1, 2⟩] 0]), ([], [.pop, .pop])]

def exSched : List Nat := [0, 0, 1, 1, 0, 1, 1, 0, 0, 1, 0, 0, 0, 0, 0, 1, 1, 1, 1, 1, 0, 0, 0]

example : (run exInit exSched).mem.slots = [some ⟨1, 2⟩, none] ∧
    (run exInit exSched).mem.parent = [⟨3, 11⟩] ∧
    (run exInit exSched).thr.map (·.hand) = [[], [⟨9, 1⟩, ⟨5, 10⟩]] ∧
    (run exInit exSched).thr.map (·.pc) = [.idle, .idle] := by decide

example : ∃ (t : Nat) (th : Thread) (rest : List Op), exInit.thr[t]? = some th ∧ th.pc = .idle ∧ th.todo = .pop :: rest :=
  ⟨1, _, _, rfl, rfl, rfl⟩

end Buffers

section Heaps
open ParsecVerif.MaxHeap

theorem reach_inv (n : Nat) (ops : List MaxHeap.Op) (hl : ops.length < 2 ^ 32) :
    PoolInv (MaxHeap.run (MaxHeap.init n) ops) :=
  run_inv ops (MaxHeap.init n) (poolInv_init n) (by simpa [MaxHeap.init] using hl)

theorem C35_heap_invariant (n : Nat) (ops : List MaxHeap.Op) (hl : ops.length < 2 ^ 32)
    (i : Nat) (h : Heap) (hh : (MaxHeap.run (MaxHeap.init n) ops).heaps[i]? = some (some h)) : Inv h :=
  (reach_inv n ops hl).good _ (List.mem_of_getElem? hh) h rfl

/-- LEFT-COMPLETE SHAPE: every live heap is the left-complete binary tree with exactly `size` nodes -/
theorem C35_heap_shape (n : Nat) (ops : List MaxHeap.Op) (hl : ops.length < 2 ^ 32)
    (i : Nat) (h : Heap) (hh : (MaxHeap.run (MaxHeap.init n) ops).heaps[i]? = some (some h)) :
    Shape h.size h.t ∧ h.t.size = h.size :=
  have hs := (C35_heap_invariant n ops hl i h hh).shape
  ⟨hs, Shape_size _ _ hs⟩

/-- the same in textbook terms, the last level at depth `log2 size` (`LeftComplete`, `Perfect` are the usual
    recursive definitions, independent of the size arithmetic of `Shape`) -/
theorem C35_heap_leftComplete (n : Nat) (ops : List MaxHeap.Op) (hl : ops.length < 2 ^ 32)
    (i : Nat) (h : Heap) (hh : (MaxHeap.run (MaxHeap.init n) ops).heaps[i]? = some (some h)) (h0 : h.size ≠ 0) :
    LeftComplete h.size.log2 h.t :=
  shape_leftComplete h.t h.size (C35_heap_invariant n ops hl i h hh).shape h0

/-- on a non-empty heap satisfying the invariant remove and split_and_steal are defined (the model's
    `none` = a NULL dereference / failed assertion in the C code): the walk of remove along the bits of
    `size` meets no NULL child and ends on a node.  split_and_steal has no walk: it needs a top only. -/
theorem C35_heap_nav_defined (h : Heap) (hi : Inv h) (h0 : h.size ≠ 0) (h32 : h.size < 2 ^ 32) :
    (remove h).isSome ∧ (split h).isSome := by
  obtain ⟨o, r, _⟩ := remove_spec h hi h0
  obtain ⟨o', r', _⟩ := split_spec h hi h0 h32
  simp [r, r']

/-- heap_insert adds exactly the new task (a walk that met a NULL child, the junk branch of `insPath`, would
    drop it) -/
theorem C35_heap_insert_defined (h : Heap) (e : Task) (hi : Inv h) :
    Inv (insert h e) ∧ (insert h e).size = h.size + 1 ∧
    ∀ a, (insert h e).t.elems.count a = h.t.elems.count a + (if e = a then 1 else 0) := insert_spec h e hi

theorem C35_heap_order (n : Nat) (ops : List MaxHeap.Op) (hl : ops.length < 2 ^ 32)
    (i : Nat) (h : Heap) (hh : (MaxHeap.run (MaxHeap.init n) ops).heaps[i]? = some (some h))
    (x : Task) (hx : h.t.root? = some x) :
    h.prio = x.prio ∧ ∀ a ∈ h.t.elems, a.prio ≤ x.prio :=
  have hi := C35_heap_invariant n ops hl i h hh
  ⟨hi.prio x hx, top_is_max h hi x hx⟩

theorem C35_heap_conservation (n : Nat) (ops : List MaxHeap.Op) (hl : ops.length < 2 ^ 32) (a : Task) :
    ((MaxHeap.run (MaxHeap.init n) ops).heaps.map (hcount a)).sum + (MaxHeap.run (MaxHeap.init n) ops).returned.count a
      = (MaxHeap.run (MaxHeap.init n) ops).inserted.count a :=
  (reach_inv n ops hl).conserved a

/-- remove and split_and_steal return the top exactly once: it is gone from what remains, everything else stays -/
theorem C35_heap_returns_top (h : Heap) (hi : Inv h) (h0 : h.size ≠ 0) (h32 : h.size < 2 ^ 32) :
    (∃ o, remove h = some o ∧ h.t.root? = some o.ret ∧ (∀ a ∈ h.t.elems, a.prio ≤ o.ret.prio) ∧
        OInv o.heap ∧ o.fresh = none ∧
        ∀ a, h.t.elems.count a = hcount a o.heap + (if o.ret = a then 1 else 0)) ∧
    (∃ o, split h = some o ∧ h.t.root? = some o.ret ∧ (∀ a ∈ h.t.elems, a.prio ≤ o.ret.prio) ∧
        OInv o.heap ∧ OInv o.fresh ∧
        ∀ a, h.t.elems.count a = hcount a o.heap + hcount a o.fresh + (if o.ret = a then 1 else 0)) := by
  obtain ⟨o, r1, r3, r⟩ := remove_spec h hi h0
  obtain ⟨o', s1, s⟩ := split_spec h hi h0 h32
  exact ⟨⟨o, r1, r.top, top_is_max h hi _ r.top, r.heap, r3, fun a => by have := r.count a; rwa [r3] at this⟩,
    ⟨o', s1, s.top, top_is_max h hi _ s.top, s.heap, s.fresh, s.count⟩⟩

/-- SPLIT SIZES: on a heap with at least 2 nodes (the C code gets here with both subtrees, ≥ 3 nodes) the
    `hiBit` / `twoBit` formulas of heap_split_and_steal give exactly the numbers of nodes of the left and
    of the right subtree -/
theorem C35_split_sizes (h : Heap) (hi : Inv h) (l r : Tree) (x : Task) (ht : h.t = .node l x r)
    (h2 : 2 ≤ h.size) (h32 : h.size < 2 ^ 32) :
    splitSizes h.size = (l.size, r.size) := by
  have hs := hi.shape
  rw [ht] at hs
  rw [splitSizes_eq h.size h2 h32, Shape_size l _ hs.2.1, Shape_size r _ hs.2.2]

def exHeap : Heap :=
  [(5, 1), (7, 2), (3, 3), (7, 4), (9, 5), (1, 6)].foldl (fun h (p : Int × Nat) => insert h ⟨p.1, p.2⟩) create

example : exHeap = ⟨6, 9, .node (.node (.node .nil ⟨5, 1⟩ .nil) ⟨7, 2⟩ (.node .nil ⟨7, 4⟩ .nil)) ⟨9, 5⟩
    (.node (.node .nil ⟨1, 6⟩ .nil) ⟨3, 3⟩ .nil)⟩ := by decide

theorem exHeap_inv : Inv exHeap :=
  Interleave.foldl_inv (P := Inv) (fun h p hi => (insert_spec h ⟨p.1, p.2⟩ hi).1) _ inv_create

example : exHeap.size ≠ 0 ∧ exHeap.size < 2 ^ 32 ∧ 2 ≤ exHeap.size := by decide

example : (split exHeap).map (fun o => (o.ret, o.heap.map (·.size), o.fresh.map (·.size))) =
    some (⟨9, 5⟩, some 2, some 3) := by decide

example : (remove exHeap).map (fun o => (o.ret, o.heap.map (·.t))) =
    some (⟨9, 5⟩, some (.node (.node (.node .nil ⟨5, 1⟩ .nil) ⟨7, 4⟩ (.node .nil ⟨1, 6⟩ .nil)) ⟨7, 2⟩
      (.node .nil ⟨3, 3⟩ .nil))) := by decide

example : (MaxHeap.run (MaxHeap.init 2) [.new 0, .ins 0 ⟨4, 1⟩, .ins 0 ⟨8, 2⟩, .ins 0 ⟨6, 3⟩, .split 0 1, .rem 1]).returned
    = [⟨4, 1⟩, ⟨8, 2⟩] := by decide

/-- a reachable pool with two live heaps (the hypotheses of `C35_heap_shape` … `C35_heap_conservation`) -/
example : ∃ h g, (MaxHeap.run (MaxHeap.init 2) [.new 0, .ins 0 ⟨4, 1⟩, .ins 0 ⟨8, 2⟩, .ins 0 ⟨6, 3⟩, .ins 0 ⟨6, 4⟩, .split 0 1]).heaps
    = [some h, some g] ∧ h.size = 1 ∧ g.size = 2 ∧ h.t.root? = some ⟨6, 3⟩ := ⟨_, _, rfl, rfl, rfl, rfl⟩

end Heaps
end ParsecVerif.C35
