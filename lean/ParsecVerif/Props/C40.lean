import ParsecVerif.Proofs.VpMapRender
/-!
# C40 — virtual-process maps match their specification

Model: `ParsecVerif.VpMap` (mirrors parsec/vpmap.c and the bind_map parser of parsec/parsec.c).
Quantification: every specification string (`List Char`), every number `R` of binding resources, every
thread count, every socket layout, every allowed-core list.  `ub` = the C code performs an out-of-bounds
access / NULL dereference / read of uninitialised memory / signed overflow on that input.

The property statement is TRUE of the code for: the flat map (default, `flat`, NULL, unknown and malformed
specifications, unreadable files) when `1 ≤ nb_cores ≤ R`, the threads and bindings of the hwloc map (against
the cores of the socket list, which `Env` does not relate to `R`), the range and list modes of
parse_binding_parameter, every bind_map that names at most as many cores as there are threads, the default
placement.  It is FALSE (theorems below, each replayed on the real code by `checks/C40.py`) for
`rr:n:p:c` with `n ≠ -1`, for every readable vpmap file, for oversubscribed flat maps, for the thread total of
the hwloc map, for the hex-mask mode (core `R`), for short core lists (bit 2^32-1); and the list mode (stores
past `core_tab`), the range mode (read past the NUL) and bind_map (both) leave their buffers.
-/
namespace ParsecVerif.C40
open ParsecVerif.VpMap ParsecVerif.VpMap.CpuSet

/-- what the property asks of one thread on `R` binding resources: a non-empty set of valid indices -/
def ThrBound (R : Nat) (t : Thr) : Prop := ∃ c, t.cpuset = some c ∧ c.bits ≠ [] ∧ c.Within R

def PairDisjoint (vp : Vp) : Prop :=
  vp.Pairwise (fun a b => ∀ ca cb, a.cpuset = some ca → b.cpuset = some cb → Disjoint ca cb)

/-- **Counts.**  `parsec_vpmap_init_from_flat(n)`, `n ≥ 1`: one VP, `n` threads, total `n` — for every `R`,
    oversubscribed or not. -/
theorem flat_counts (R : Nat) (sing n : Int) (hn : 1 ≤ n) :
    ∃ vp, flat R sing n = .ok [vp] n ∧ vp.length = n.toNat :=
  ⟨flatVp R sing n, flat_eq R sing n hn⟩

/-- **The flat map meets the property** whenever it is not oversubscribed: `1 ≤ n ≤ R` threads, each with a
    non-empty candidate set inside `[0,R)`, pairwise disjoint — for every value of the singlify parameter. -/
theorem flat_spec (R : Nat) (sing n : Int) (h1 : 1 ≤ n) (h2 : n ≤ R) :
    ∃ vp, flat R sing n = .ok [vp] n ∧ vp.length = n.toNat ∧ (∀ t ∈ vp, ThrBound R t) ∧ PairDisjoint vp := by
  obtain ⟨hs1, hs2⟩ := flatStep_bounds R sing n h1 h2
  obtain ⟨hf, hl⟩ := flat_eq R sing n h1
  refine ⟨flatVp R sing n, hf, hl, ?_, flatVp_pairwise R sing n hs1⟩
  intro t ht
  obtain ⟨id, hid, rfl⟩ := (mem_flatVp R sing n t).1 ht
  rw [flatN_pos R n h1] at hid
  refine ⟨_, flatThr_cpuset _ id hs1, ?_, rfl, ?_⟩
  · simp only [ne_eq, List.range'_eq_nil_iff]; omega
  · intro b hb
    simp only [List.mem_range'_1] at hb
    have hm := Nat.mul_le_mul_right (flatStep R sing n) hid
    rw [Nat.add_one_mul] at hm
    omega

example : ∃ vp, flat 16 0 4 = .ok [vp] 4 ∧ vp.length = 4 ∧ (∀ t ∈ vp, ThrBound 16 t) ∧ PairDisjoint vp :=
  flat_spec 16 0 4 (by decide) (by decide)

/-- **Finding (oversubscription).**  With more threads than binding resources and the singlify parameter
    not -1, `step = R / n = 0` and `hwloc_bitmap_set_range(set, 0, -1)` makes EVERY thread's candidate set the
    infinite set `[0, ∞)`, with `nbcores = 0`. -/
theorem flat_oversubscribed_unbounded (R : Nat) (sing n : Int) (hs : sing ≠ -1) (hn : (R : Int) < n) :
    ∀ t ∈ flatVp R sing n, t.nbcores = 0 ∧ t.cpuset = some ⟨[], some 0⟩ ∧ ∀ c, t.cpuset = some c → ¬ c.Within R := by
  intro t ht
  obtain ⟨id, _, rfl⟩ := (mem_flatVp R sing n t).1 ht
  rw [flatStep_over R sing n hs hn]
  refine ⟨rfl, flatThr_zero id, fun c hc hw => ?_⟩
  cases (flatThr_zero id).symm.trans hc
  cases hw.1

example : ∀ t ∈ flatVp 16 0 17, t.nbcores = 0 ∧ t.cpuset = some ⟨[], some 0⟩ ∧ ∀ c, t.cpuset = some c → ¬ c.Within 16 :=
  flat_oversubscribed_unbounded 16 0 17 (by decide) (by decide)

/-- the full statement for the flat map: every thread bound inside `[0,R)`, whatever the thread count -/
def FlatInRange : Prop := ∀ (R : Nat) (sing n : Int), 1 ≤ R → 1 ≤ n → ∀ t ∈ flatVp R sing n, ThrBound R t

/-- `FlatInRange` is false of the code (oversubscription); `flat_spec` is the part that holds (`n ≤ R`). -/
theorem flat_in_range_false : ¬ FlatInRange := by
  intro h
  have hm : flatThr (flatStep 16 0 17) 0 ∈ flatVp 16 0 17 := (mem_flatVp 16 0 17 _).2 ⟨0, by decide, rfl⟩
  obtain ⟨c, hc, _, hw⟩ := h 16 0 17 (by decide) (by decide) _ hm
  exact (flat_oversubscribed_unbounded 16 0 17 (by decide) (by decide) _ hm).2.2 c hc hw

/-- **Finding (oversubscription, early singlify).**  With `singlify = -1` thread `R` exists and is given the
    single core `R`, which is not a binding resource. -/
theorem flat_early_singlify_out_of_range (R : Nat) (n : Int) (hn : (R : Int) < n) :
    ∃ t ∈ flatVp R (-1) n, t.cpuset = some (CpuSet.single R) ∧ ¬ (CpuSet.single R).Within R := by
  refine ⟨flatThr (flatStep R (-1) n) R, ?_, ?_, ?_⟩
  · exact (mem_flatVp R (-1) n _).2 ⟨R, by rw [flatN_pos R n (by omega)]; omega, rfl⟩
  · rw [flatStep_early, flatThr_cpuset 1 R (by omega)]
    simp [CpuSet.single, List.range']
  · intro h
    have := h.2 R (by simp [CpuSet.single])
    omega

/-- **Counts and bindings of the hwloc map.**  Thread number `k` (over all VPs in order) is bound to core `k`,
    there are `hwCount socks n` threads, in at most one VP per socket; that is `min n cores` threads for
    `n ≥ 1` (and all cores for `n ≤ 0`: read `hwCount`). -/
theorem hwloc_counts (socks : List Nat) (n : Int) :
    (hwGoVps socks 0 n).flatten.map (·.cpuset) = (List.range (hwCount socks n)).map (fun k => some (CpuSet.single k))
    ∧ (hwGoVps socks 0 n).length ≤ socks.length
    ∧ (1 ≤ n → hwCount socks n = min n.toNat socks.sum) := by
  refine ⟨?_, hwGoVps_length_le socks 0 n, hwCount_of_pos socks⟩
  simp [hwGoVps_flatten, hwVp_cpusets]

theorem hwloc_in_range (socks : List Nat) (n : Int) :
    ∀ t ∈ (hwGoVps socks 0 n).flatten, ∃ c, t.cpuset = some (CpuSet.single c) ∧ c < socks.sum := by
  intro t ht
  rw [hwGoVps_flatten] at ht
  obtain ⟨k, hk, rfl⟩ := List.mem_map.1 ht
  exact ⟨0 + k, rfl, by rw [Nat.zero_add]; exact Nat.lt_of_lt_of_le (List.mem_range.1 hk) (hwCount_le socks n)⟩

example : (hwGoVps [3, 3] 0 4).map List.length = [3, 1] := by decide

/-- **Finding.**  `parsec_nb_total_threads` is not corrected when the thread budget ends inside a socket:
    4 threads on one 16-core socket report 16. -/
theorem hwloc_total_wrong :
    hwlocInit ⟨16, 0, [16], fun _ => none⟩ 4 = .ok [hwVp 0 4] 16 ∧ (hwVp 0 4).length = 4 := by
  constructor <;> rfl

theorem init_null_is_flat (e : Env) (nb : Int) : vpmapInit e none nb = flatC e nb := rfl

/-- **Rejection.**  A specification that is none of `flat…`, `hwloc…`, `file:…`, `rr:…` (after an optional
    `display:`) produces exactly the map of the default.  The map is all the model has: the other statics of
    vpmap.c (`parsec_display_vpmap`) are left out. -/
theorem init_unknown_is_flat (e : Env) (s : Str) (nb : Int)
    (h1 : strFlat.isPrefixOf (stripDisplay s) = false) (h2 : strHwloc.isPrefixOf (stripDisplay s) = false)
    (h3 : strFile.isPrefixOf (stripDisplay s) = false) (h4 : strRR.isPrefixOf (stripDisplay s) = false) :
    vpmapInit e (some s) nb = flatC e nb := by
  unfold vpmapInit
  simp [h1, h2, h3, h4]

example (e : Env) (nb : Int) : vpmapInit e (some "numa".toList) nb = flatC e nb := by
  -- here and below: as `String.ofList _` the literal gives its characters at once; the kernel decodes `"…".toList` slowly
  rw [String.toList_ofList]
  exact init_unknown_is_flat e _ nb (by decide +kernel) (by decide +kernel) (by decide +kernel) (by decide +kernel)

/-- a `file:` specification whose file cannot be opened is rejected the same way -/
theorem init_missing_file_is_flat (e : Env) (s : Str) (nb : Int)
    (h1 : strFlat.isPrefixOf (stripDisplay s) = false) (h2 : strHwloc.isPrefixOf (stripDisplay s) = false)
    (h3 : strFile.isPrefixOf (stripDisplay s) = true) (hf : e.file ((stripDisplay s).drop 5) = none) :
    vpmapInit e (some s) nb = flatC e nb := by
  unfold vpmapInit
  simp [h1, h2, h3, hf]

/-- an `rr:` specification that `sscanf("rr:%d:%d:%d")` does not fully match is rejected the same way -/
theorem init_bad_rr_is_flat (e : Env) (s : Str) (nb : Int)
    (h1 : strFlat.isPrefixOf (stripDisplay s) = false) (h2 : strHwloc.isPrefixOf (stripDisplay s) = false)
    (h3 : strFile.isPrefixOf (stripDisplay s) = false) (h4 : strRR.isPrefixOf (stripDisplay s) = true)
    (hs : scanRR (stripDisplay s) = none) :
    vpmapInit e (some s) nb = flatC e nb := by
  unfold vpmapInit
  simp [h1, h2, h3, h4, hs]

example (e : Env) (nb : Int) : vpmapInit e (some "rr:1:x".toList) nb = flatC e nb := by
  rw [String.toList_ofList]
  exact init_bad_rr_is_flat e _ nb (by decide +kernel) (by decide +kernel) (by decide +kernel) (by decide +kernel)
    (by decide +kernel)

theorem consThr_bound {R : Nat} (sing : Int) {t : Thr} (h : ThrBound R t) :
    ∃ c c', t.cpuset = some c ∧ (consThr sing t).cpuset = some c' ∧ c'.bits ≠ [] ∧ c'.Within R ∧
      ∀ n, Mem n c' → Mem n c := by
  obtain ⟨c, hc, hne, hw⟩ := h
  refine ⟨c, _, hc, rfl, ?_⟩
  simp only [hc, Option.getD_some]
  split
  · exact singlify_within R c hw hne
  · exact ⟨hne, hw, fun _ h => h⟩

theorem consolidate_spec {R : Nat} (sing : Int) {vp : Vp} (hb : ∀ t ∈ vp, ThrBound R t) (hd : PairDisjoint vp) :
    (∀ t ∈ vp.map (consThr sing), ThrBound R t) ∧ PairDisjoint (vp.map (consThr sing)) := by
  refine ⟨List.forall_mem_map.2 fun t ht => ?_, ?_⟩
  · obtain ⟨_, c', _, hc', hne, hw, _⟩ := consThr_bound sing (hb t ht)
    exact ⟨c', hc', hne, hw⟩
  · refine List.pairwise_map.2 (hd.imp_of_mem fun {a b} ha hb' hab ca cb hca hcb n ⟨hn1, hn2⟩ => ?_)
    obtain ⟨c1, _, hc1, e1, _, _, s1⟩ := consThr_bound sing (hb a ha)
    obtain ⟨c2, _, hc2, e2, _, _, s2⟩ := consThr_bound sing (hb b hb')
    cases e1.symm.trans hca; cases e2.symm.trans hcb
    exact hab c1 c2 hc1 hc2 n ⟨s1 n hn1, s2 n hn2⟩

/-- **The default / `flat` map as parsec_vpmap_init leaves it** (late pass included: NULL sets allocated,
    positive singlify applied): for `1 ≤ nb_cores ≤ R`, one VP with `nb_cores` threads, each with a non-empty
    candidate set inside `[0,R)`, pairwise disjoint. -/
theorem init_flat_spec (e : Env) (nb : Int) (h1 : 1 ≤ nb) (h2 : nb ≤ e.R) :
    ∃ vp, flatC e nb = .ok [vp] nb ∧ vp.length = nb.toNat ∧ (∀ t ∈ vp, ThrBound e.R t) ∧ PairDisjoint vp := by
  obtain ⟨vp, hf, hl, hb, hd⟩ := flat_spec e.R e.sing nb h1 h2
  exact ⟨vp.map (consThr e.sing), by unfold flatC; rw [hf]; rfl, by simp [hl], consolidate_spec e.sing hb hd⟩

example : ∃ vp, flatC ⟨16, 1, [16], fun _ => none⟩ 3 = .ok [vp] 3 ∧ vp.length = 3 ∧
    (∀ t ∈ vp, ThrBound 16 t) ∧ PairDisjoint vp := init_flat_spec ⟨16, 1, [16], fun _ => none⟩ 3 (by decide) (by decide)

/-- **Finding.**  `rr:n:p:c` — documented in the MCA help — builds no map of its own: whenever the string scans
    as `rr:n:p:c` with `n ≥ 1` the execution dereferences the NULL map (`parsec_vpmap_init_from_parameters` is a
    TODO); `n = 0` leaves zero VPs, `n < -1` a negative VP count (or `ub`, when `n * p` overflows).  `n = -1`
    is left out: it gives the flat map. -/
theorem rr_never_builds_a_map (e : Env) (s : Str) (nb n p c : Int)
    (h : strRR.isPrefixOf (stripDisplay s) = true) (hs : scanRR (stripDisplay s) = some (n, p, c)) :
    (1 ≤ n → vpmapInit e (some s) nb = .ub) ∧
    (n ≠ -1 → vpmapInit e (some s) nb = .ub ∨ vpmapInit e (some s) nb = .ok [] (n * p)
                ∨ vpmapInit e (some s) nb = .negvp n (n * p)) := by
  unfold vpmapInit
  simp only [isPrefixOf_excl h (q := strFlat) rfl rfl, isPrefixOf_excl h (q := strHwloc) rfl rfl,
    isPrefixOf_excl h (q := strFile) rfl rfl, h, hs, Bool.false_eq_true, if_false, if_true]
  unfold rrInit
  split
  · exact ⟨fun _ => rfl, fun _ => .inl rfl⟩
  · refine ⟨fun h1 => by rw [if_neg (by omega), if_pos h1], fun hne => ?_⟩
    rw [if_neg hne]
    split
    · exact .inl rfl
    · split
      · exact .inr (.inl rfl)
      · exact .inr (.inr rfl)

example (e : Env) : vpmapInit e (some "rr:2:2:4".toList) 4 = .ub := by
  rw [String.toList_ofList]
  exact (rr_never_builds_a_map e _ 4 2 2 4 (by decide +kernel) (by decide +kernel)).1 (by decide)

/-- **Finding.**  No readable vpmap file builds a map, whatever its content: the outcome is undefined
    behaviour (one accepted line: heap overflow; more: uninitialised VPs) or ZERO virtual processes (no
    accepted line; the announced fallback to a flat map is refused). -/
theorem file_never_builds_a_map (e : Env) (s : Str) (nb : Int) (content : Str)
    (h : strFile.isPrefixOf (stripDisplay s) = true) (hf : e.file ((stripDisplay s).drop 5) = some content) :
    vpmapInit e (some s) nb = .ub ∨ vpmapInit e (some s) nb = .ok [] 0 := by
  unfold vpmapInit
  simp only [isPrefixOf_excl h (q := strFlat) rfl rfl, isPrefixOf_excl h (q := strHwloc) rfl rfl, h, hf,
    Bool.false_eq_true, if_false, if_true]
  unfold fromFileContent
  split
  · right; rfl
  · left; rfl

example : vpmapInit ⟨16, 0, [16], fun p => if p = "m".toList then some "0:4:0,1,2,3\n".toList else none⟩
    (some "file:m".toList) 4 = .ub := by
  rw [String.toList_ofList, String.toList_ofList, String.toList_ofList]; decide +kernel

example : vpmapInit ⟨16, 0, [16], fun p => if p = "m".toList then some "1:4:0,1,2,3\n".toList else none⟩
    (some "file:m".toList) 4 = .ok [] 0 := by
  rw [String.toList_ofList, String.toList_ofList, String.toList_ofList]; decide +kernel

/-- the map describes exactly the requested number of threads, for every binding string -/
theorem bind_thread_count (R nbth : Nat) (s : Str) (ts : List Thr) (h : parseBinding R nbth s = .ok ts) :
    ts.length = nbth := by
  unfold parseBinding at h
  split at h
  · rw [maskMode_ok h]; exact maskThreads_length _ _ _ _
  · split at h
    · exact rangeMode_length R nbth s ts h
    · exact (listMode_spec R nbth s ts h).1

/-- **Range mode is safe**: for EVERY string with a ';' and no 'x', every thread that is given a set is
    given cores inside `[0,R)`. -/
theorem bind_range_in_range (R nbth : Nat) (hR : 1 ≤ R) (s : Str) (ts : List Thr)
    (hx : afterChar 'x' s = none) (hsc : (strchr ';' s).isSome) (h : parseBinding R nbth s = .ok ts) :
    ∀ th ∈ ts, ∀ c, th.cpuset = some c → c.Within R := by
  obtain ⟨r, hr⟩ := Option.isSome_iff_exists.1 hsc
  simp only [parseBinding, hx, hr] at h
  exact rangeMode_within R nbth hR s ts h

example : parseBinding 16 6 "2;5;2".toList = .ok [⟨1, some (single 2), -1⟩, ⟨1, some (single 4), -1⟩,
    ⟨1, some (single 3), -1⟩, ⟨1, some (single 5), -1⟩, ⟨1, some CpuSet.empty, -1⟩, ⟨1, none, 0⟩] := by
  rw [String.toList_ofList]; decide +kernel

/-- **List mode binds inside `[0,R)` or not at all**: for EVERY string without 'x' and ';', each thread is
    given exactly one index, a valid core or `4294967295` (what `HWLOC_SET(cpuset, -1)` sets). -/
theorem bind_list_in_range (R nbth : Nat) (s : Str) (ts : List Thr)
    (hx : afterChar 'x' s = none) (hsc : strchr ';' s = none) (h : parseBinding R nbth s = .ok ts) :
    ∀ th ∈ ts, ∃ c : Nat, th.cpuset = some (CpuSet.single c) ∧ (c < R ∨ c = UNBOUND_BIT) := by
  simp only [parseBinding, hx, hsc] at h
  exact (listMode_spec R nbth s ts h).2

/-- **Mask mode, the part that holds**: every thread is given one core which is `≤ R` (not `< R`) or the
    lowest bit of the mask. -/
theorem bind_mask_partial (R nbth : Nat) (s ax : Str) (ts : List Thr)
    (hx : afterChar 'x' s = some ax) (h : parseBinding R nbth s = .ok ts) :
    ∀ th ∈ ts, ∃ c : Int, th.cpuset = some (CpuSet.single c.toNat) ∧ (c ≤ R ∨ c = nextBit (strtoul16 ax) (-1)) := by
  simp only [parseBinding, hx] at h
  rw [maskMode_ok h]
  exact maskThreads_spec _ _ _ _

/-- the full statement for the mask mode -/
def BindMaskInRange : Prop :=
  ∀ (R nbth : Nat) (s : Str) (ts : List Thr), 1 ≤ R → (afterChar 'x' s).isSome → parseBinding R nbth s = .ok ts →
    ∀ th ∈ ts, ∀ c, th.cpuset = some c → c.Within R

/-- **Finding.**  The mask mode binds outside the cores: `0x10000` on 16 cores binds every thread to core 16
    (`core > nb_real_cores` instead of `>=`; the lowest bit is never checked at all). -/
theorem bind_mask_escapes : ¬ BindMaskInRange := by
  intro h
  have h16 : parseBinding 16 4 "0x10000".toList = .ok (List.replicate 4 ⟨1, some (single 16), -1⟩) := by
    rw [String.toList_ofList]; decide +kernel
  have := h 16 4 "0x10000".toList _ (by decide) (by decide) h16 ⟨1, some (single 16), -1⟩ (by simp) (single 16) rfl
  exact absurd (this.2 16 (by simp [CpuSet.single])) (by decide)

/-- **Finding.**  `a-b` after the number that filled the last slot stores past the end of `core_tab`
    (a VLA on the stack): `0-3` for one thread. -/
theorem bind_list_overflow : parseBinding 16 1 "0-3".toList = .ub := by
  rw [String.toList_ofList]; decide +kernel

/-- **Finding.**  A list shorter than the thread count: each remaining thread gets bit 4294967295
    (`HWLOC_SET(cpuset, -1)`; hwloc grows the bitmap to 2^32 bits = 512 MiB). -/
theorem bind_list_short_unbound :
    parseBinding 16 3 "0,1".toList = .ok [⟨1, some (single 0), -1⟩, ⟨1, some (single 1), -1⟩, ⟨1, some (single 4294967295), -1⟩] := by
  rw [String.toList_ofList]; decide +kernel

/-- **Finding.**  Every `start;` string (nothing after the first ';') makes the parser read one byte past
    the terminating NUL. -/
theorem bind_range_overread (R nbth : Nat) (s : Str) (hx : afterChar 'x' s = none) (h : afterChar ';' s = some []) :
    parseBinding R nbth s = .ub := by
  obtain ⟨r, hr, _⟩ := Option.map_eq_some_iff.1 h
  simp only [parseBinding, hx, hr, rangeMode, h]

example : parseBinding 16 3 "2;".toList = .ub := by
  rw [String.toList_ofList]; exact bind_range_overread 16 3 _ (by decide +kernel) (by decide +kernel)

/-- **Every placement of a bind_map is -1 or an allowed core**, for every option string, every allowed mask
    and every thread count (whenever the execution is defined). -/
theorem bindmap_in_allowed (R : Nat) (allowed : List Nat) (n : Nat) (comm : Int) (opt : Str)
    (comm' : Int) (binds : List Int) (used : List Nat)
    (h : parseBindMap R allowed n comm opt = .ok comm' binds used) :
    ∀ b ∈ binds, b = -1 ∨ (0 ≤ b ∧ b.toNat ∈ allowed) :=
  (parseBindMap_inv h).2

/-- one placement per compute thread -/
theorem bindmap_length (R : Nat) (allowed : List Nat) (n : Nat) (comm : Int) (opt : Str)
    (comm' : Int) (binds : List Int) (used : List Nat)
    (h : parseBindMap R allowed n comm opt = .ok comm' binds used) : binds.length = n :=
  (parseBindMap_inv h).1

example : parseBindMap 16 [4,5,6,7,8,9,10,11] 4 (-1) "1:7:2".toList = .ok (-1) [5, 7, 9, 11] [5, 7, 9, 11] := by
  rw [String.toList_ofList]; decide +kernel

/-- **Finding.**  `thr_idx` is never compared with the number of compute threads: a map that names more
    cores than threads writes past the end of `startup[]` (`0:3` with 2 threads); and `3:` reads past the NUL. -/
theorem bindmap_overflow :
    parseBindMap 16 (List.range 16) 2 (-1) "0:3".toList = .ub ∧
    parseBindMap 16 (List.range 16) 8 (-1) "3:".toList = .ub := by
  rw [String.toList_ofList, String.toList_ofList]; constructor <;> decide +kernel

/-- **bind_map honours every well-formed core list, and overflows on every too long one.**  For the text
    `c1,c2,...,ck` (decimal, every `ci < R`): if `k ≤ n` thread `i` is placed on the `ci`-th allowed core
    (-1 when the allowed mask has fewer cores) and the remaining threads stay unbound; if `k > n` the execution
    writes past the end of `startup[]`.  `R ≤ 2^31` because the numbers are read into an `int` (`atoiVal`). -/
theorem bindmap_core_list (R : Nat) (hR : R ≤ 2147483648) (allowed : List Nat) (n : Nat) (comm : Int) (cs : List Nat)
    (hne : cs ≠ []) (hlt : ∀ c ∈ cs, c < R) :
    (cs.length ≤ n → ∃ used, parseBindMap R allowed n comm (renderList cs)
        = .ok comm (cs.map (fun (c : Nat) => findCore allowed (c : Int)) ++ List.replicate (n - cs.length) (-1)) used)
    ∧ (n < cs.length → parseBindMap R allowed n comm (renderList cs) = .ub) := by
  have hloop := bmLoop_renderList R hR allowed cs hne hlt ((renderList cs).length + 1)
    (by have := renderList_length_ge cs; omega)
  obtain ⟨hfit, hov⟩ := placeAll_spec allowed cs [] n []
  simp only [List.nil_append, List.length_nil, Nat.zero_add] at hfit hov
  simp only [parseBindMap, renderList_plus, Bool.false_eq_true, if_false, hloop]
  exact ⟨fun hk => (hfit hk).imp fun u hu => by rw [hu], fun hk => by rw [hov hk]⟩

example : renderList [3, 12, 7] = "3,12,7".toList := by rw [String.toList_ofList]; simp [renderList, render, digitChar]
example : ∃ used, parseBindMap 16 (List.range 16) 5 (-1) "3,12,7".toList = .ok (-1) [3, 12, 7, -1, -1] used :=
  ⟨[3, 7, 12], by rw [String.toList_ofList]; decide +kernel⟩

/-- **Every default placement is -1 or an allowed core**, one per thread, whatever the map. -/
theorem default_in_allowed (allowed : List Nat) (vps : List Vp) (binds : List Int) (used : List Nat)
    (h : applyVpmap allowed vps = .ok binds used) :
    binds.length = vps.flatten.length ∧ ∀ b ∈ binds, b = -1 ∨ (0 ≤ b ∧ b.toNat ∈ allowed) := by
  unfold applyVpmap at h
  have := applyGo_ok allowed _ [] [] binds used (by intro b hb; cases hb) h
  simpa [PlaceOk] using this

example : ∃ vps t, vpmapInit ⟨16, 0, [16], fun _ => none⟩ none 6 = .ok vps t ∧
    applyVpmap (List.range 16) vps = .ok [0, 2, 4, 6, 8, 10] [0, 2, 4, 6, 8, 10] := ⟨_, _, rfl, by decide +kernel⟩

/-- **Finding.**  The default placement of an oversubscribed flat map does not end in reasonable time: once the
    16 cores are used the scan of the 17th thread walks the infinite candidate set (2^31 iterations in the
    code; the model's outcome `hang`). -/
theorem default_flat_hang :
    ∃ vps t, vpmapInit ⟨16, 0, [16], fun _ => none⟩ none 17 = .ok vps t ∧ applyVpmap (List.range 16) vps = .hang :=
  ⟨_, _, rfl, by decide +kernel⟩

end ParsecVerif.C40
