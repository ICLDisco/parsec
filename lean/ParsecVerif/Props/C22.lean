import ParsecVerif.Proofs.MatrixOpsApply
import ParsecVerif.Proofs.MatrixOpsMap
import ParsecVerif.Proofs.MatrixOpsReduce
/-!
# C22 — matrix operators visit each tile once and reduce correctly

* `apply_exactly_once`, `apply_uplo_arg`: for all `mt nt uplo` the three task spaces of apply.jdf
  invoke the operator exactly once on every tile of the requested region and on no other tile.
* `map_exactly_once`, `map_never_twice`, `map_global`: the column-claiming chains of
  map_operator.c, under ANY interleaving of task executions and atomic claims of `next_n`, visit
  every local tile exactly once; on each of `P` ranks a tile is visited once if the rank owns it and
  never otherwise.
* `reduce_schedule_fold`: any reduction tree whose leaves are a permutation of the tiles, executed
  as a dataflow under ANY schedule, with an associative-commutative operator: a value stored at the
  root is the sequential fold.  `reduce_jdf_partial`, `reduce_col_partial`: the trees that
  reduce.jdf / reduce_col.jdf / reduce_row.jdf describe have that leaf property at the root
  (reduce.jdf: every `MT ≥ 1`; reduce_col/row: `2^depth` leaf tasks); `reduce_schedule_fold` is
  instantiated at them nowhere: the `example`s at the end only check its two hypotheses for `MT = 3`.
* The full statement for the reduction task classes is FALSE of the code (`reduce_full_false`,
  `reduce_jdf_oob_even`, `reduce_jdf_edge_mismatch`, `reduce_col_not_pow2`, `reduce_wrapper_oob`,
  `reduce_row_reads_column0`): see docs/notes/C22.md for the replay on the real code.
-/
namespace ParsecVerif.C22
open ParsecVerif.MatrixOps

theorem apply_exactly_once (mt nt uplo m n : Int) :
    ((applyCalls mt nt uplo).map (fun c => (c.1, c.2.1))).count (m, n) =
      if inRegion mt nt uplo m n then 1 else 0 := by
  rw [applyCalls_tiles, (nodup_applyTiles mt nt uplo).count]
  exact ite_cond_congr (propext (mem_applyTiles mt nt uplo m n))

/-- the `uplo` argument the operator receives: the caller's `uplo` on diagonal tiles (APPLY_DIAG),
    `PARSEC_MATRIX_FULL` on all others -/
theorem apply_uplo_arg (mt nt uplo : Int) (c : Int × Int × Int) (h : c ∈ applyCalls mt nt uplo) :
    c.2.2 = if c.1 = c.2.1 then uplo else FULL := by
  obtain ⟨m, n, u⟩ := c
  unfold applyCalls at h
  simp only [List.mem_append, List.mem_map, Prod.mk.injEq] at h
  rcases h with (⟨⟨a, b⟩, hab, rfl, rfl, rfl⟩ | ⟨⟨a, b⟩, hab, rfl, rfl, rfl⟩) | ⟨⟨a, b⟩, hab, rfl, rfl, rfl⟩
  · exact (if_neg (Int.ne_of_gt ((mem_applyL ..).1 hab).2)).symm
  · exact (if_neg (Int.ne_of_lt ((mem_applyU ..).1 hab).2)).symm
  · exact (if_pos ((mem_applyDiag mt nt uplo a b).1 hab).2).symm

example : inRegion 3 4 UPPER 1 2 ∧ ¬ inRegion 3 4 UPPER 2 1 ∧ inRegion 3 4 LOWER 2 1 := by decide
example : applyCalls 2 3 UPPER = [(0, 1, FULL), (0, 2, FULL), (1, 2, FULL), (0, 0, UPPER), (1, 1, UPPER)] := by decide

/-- safety at every moment of every interleaving, not only once all chains are done -/
theorem map_never_twice (cfg : MapCfg) (sched : List Nat) (t : Nat × Nat) :
    (mapRun cfg (mapInit cfg) sched).log.count t ≤ 1 ∧
    (¬ isLocalTile cfg t → (mapRun cfg (mapInit cfg) sched).log.count t = 0) := by
  have I := mapInv_run cfg _ (mapInv_init cfg) sched
  refine ⟨?_, I.only t⟩
  by_cases h : isLocalTile cfg t
  · have := I.once t h; omega
  · rw [I.only t h]; omega

theorem map_exactly_once (cfg : MapCfg) (sched : List Nat)
    (hd : allDone (mapRun cfg (mapInit cfg) sched)) (t : Nat × Nat) :
    (mapRun cfg (mapInit cfg) sched).log.count t = if isLocalTile cfg t then 1 else 0 := by
  have I := mapInv_run cfg _ (mapInv_init cfg) sched
  by_cases h : isLocalTile cfg t
  · have E := I.once t h
    have hnt : cfg.nt ≤ (mapRun cfg (mapInit cfg) sched).nextN :=
      I.live.elim id fun ⟨c, hc, hne⟩ => absurd (hd c hc) hne
    have lt := h.2.1
    rw [sum_cov_allDone _ hd t, if_neg (show ¬ _ < t.2 by omega)] at E
    rw [if_pos h]; omega
  · rw [if_neg h]; exact I.only t h

def rankCfg (mt nt cores : Nat) (owner : Nat → Nat → Nat) (r : Nat) : MapCfg :=
  ⟨mt, nt, cores, fun m n => owner m n == r⟩

/-- on each of the `P` ranks a tile is visited once if the rank owns it and never otherwise -/
theorem map_global (mt nt cores P : Nat) (owner : Nat → Nat → Nat) (scheds : Nat → List Nat)
    (hd : ∀ r, r < P → allDone (mapRun (rankCfg mt nt cores owner r) (mapInit (rankCfg mt nt cores owner r)) (scheds r)))
    (m n : Nat) (hm : m < mt) (hn : n < nt) (r : Nat) (hr : r < P) :
    (mapRun (rankCfg mt nt cores owner r) (mapInit (rankCfg mt nt cores owner r)) (scheds r)).log.count (m, n) =
      if r = owner m n then 1 else 0 := by
  rw [map_exactly_once _ _ (hd r hr)]
  exact ite_cond_congr (propext ⟨fun h => (beq_iff_eq.1 h.2.2).symm, fun e => ⟨hm, hn, beq_iff_eq.2 e.symm⟩⟩)

/-- a 3 × 4 matrix, checkerboard locality, two cores: a schedule after which all chains are done -/
def exCfg : MapCfg := ⟨3, 4, 2, fun m n => (m + n) % 2 == 0⟩
example : (mapInit exCfg).chains = [.ready 0 0, .ready 1 1] ∧ (mapInit exCfg).nextN = 1 := by decide
example : (mapRun exCfg (mapInit exCfg) [1, 0, 1, 0, 0, 1, 1, 0, 1, 0, 1]).log =
    [(1, 1), (0, 0), (2, 0), (0, 2), (2, 2), (1, 3)] := by decide +kernel
example : ∀ c ∈ (mapRun exCfg (mapInit exCfg) [1, 0, 1, 0, 0, 1, 1, 0, 1, 0, 1]).chains, c = Chain.done := by decide +kernel

/-- under any schedule, a value stored at node `p` of the tree is the value of the sub-tree at `p` -/
theorem reduce_schedule_deterministic {α} (f : α → α → α) (v : Nat → α) (root : RTree)
    (sched : List (List Bool)) (p : List Bool) (x : α)
    (hx : (runSched f v root [] sched).get p = some x) :
    ∃ t, root.sub p = some t ∧ x = t.eval f v :=
  runSched_ok (storeOK_nil root) sched p x hx

theorem reduce_schedule_fold {α} (f : α → α → α) (hassoc : ∀ a b c, f (f a b) c = f a (f b c))
    (hcomm : ∀ a b, f a b = f b a) (v : Nat → α) (root : RTree) (tiles : List Nat)
    (hperm : root.leaves.Perm tiles) (sched : List (List Bool)) (x : α)
    (hx : (runSched f v root [] sched).get [] = some x) :
    some x = foldSeq f (tiles.map v) := by
  obtain ⟨t, h1, h2⟩ := reduce_schedule_deterministic f v root sched [] x hx
  simp only [RTree.sub] at h1
  cases h1
  rw [h2, ← eval_eq_foldSeq hassoc root]
  exact foldSeq_perm hassoc hcomm (hperm.map v)

theorem clog2_spec (n : Nat) : n ≤ 2 ^ clog2 n ∧ ∀ e, e < clog2 n → 2 ^ e < n :=
  clog2Aux_spec n n 0 (by rw [Nat.zero_add]; exact Nat.le_of_lt Nat.lt_two_pow_self)
    fun _ h => absurd h (Nat.not_lt_zero _)

/-- reduce.jdf, true part: for every `MT ≥ 1` the tree below the task that writes `R(0,0)`
    (`reduce(depth+1, 0)`) has the tiles `descA(0..MT-1, 0)` as leaves, in order, each once, and its
    value with an associative operator is the sequential fold. -/
theorem reduce_jdf_partial {α} (MT : Nat) (h1 : 1 ≤ MT) (f : α → α → α)
    (hassoc : ∀ a b c, f (f a b) c = f a (f b c)) (v : Nat → α) :
    (redTree MT (clog2 MT + 1) 0).leaves = List.range MT ∧
    some (redVal MT f v (clog2 MT + 1) 0) = foldSeq f ((List.range MT).map v) := by
  have hl : (redTree MT (clog2 MT + 1) 0).leaves = List.range MT := by
    rw [redTree_leaves]; exact redLeaves_root MT _ h1 (clog2_spec MT).1
  refine ⟨hl, ?_⟩
  rw [← redTree_eval, ← hl]
  exact (eval_eq_foldSeq hassoc _).symm

/-- reduce.jdf, true part: for odd `MT` every task of the space is a proper node (covers at least
    one existing tile) -/
theorem reduce_jdf_in_bounds_odd (MT l p : Nat) (hodd : MT % 2 = 1) (h : (l, p) ∈ redSpace MT) :
    p * 2 ^ l < MT := by
  obtain ⟨h1, _, h3⟩ := (mem_redSpace MT l p).1 h
  have hle : p * 2 ^ l ≤ MT := (Nat.le_div_iff_mul_le (Nat.two_pow_pos l)).1 h3
  cases l with
  | zero => omega
  | succ k =>
    -- `p·2^(k+1)` is even and `MT` is odd
    rw [← two_mul_pow, Nat.mul_assoc] at hle ⊢
    omega

/-- the statement one would like: every tile a task of reduce.jdf reads exists -/
def ReduceFull : Prop :=
  ∀ MT, 1 ≤ MT → ∀ t ∈ redSpace MT, ∀ m ∈ srcTiles (redA t.1 t.2) ++ srcTiles (redB MT t.1 t.2), m < MT

/-- FINDING: for every even `MT` the task `reduce(1, MT/2)` is in the space and reads `descA(MT, 0)`,
    a tile that does not exist -/
theorem reduce_jdf_oob_even (MT : Nat) (heven : MT % 2 = 0) :
    (1, MT / 2) ∈ redSpace MT ∧ redA 1 (MT / 2) = .tile MT := by
  simp only [mem_redSpace, redA, Nat.pow_one, Nat.le_refl, if_true, Src.tile.injEq, and_true, true_and]
  omega

theorem reduce_full_false : ¬ ReduceFull := by
  intro h
  have := h 2 (by decide) (1, 1) (by decide) 2 (by decide)
  omega

/-- FINDING: for `MT = 4` the task `reduce(2,1)` sends its result to flow `B` of `reduce(3,0)`, whose
    own input declaration for `B` is `NULL` -/
theorem reduce_jdf_edge_mismatch :
    (2, 1) ∈ redSpace 4 ∧ redOut 4 2 1 = .flowB 3 0 ∧ redB 4 3 0 = .null := by decide

/-- reduce_col.jdf / reduce_row.jdf, true part: the tree below `reduce_col(depth, 0, col)` has the
    leaf tasks of rows `0 .. 2^depth − 1` as leaves, in order, each once; its value with an
    associative operator is the sequential fold over these rows. -/
theorem reduce_col_partial {α} (d : Nat) (f : α → α → α)
    (hassoc : ∀ a b c, f (f a b) c = f a (f b c)) (v : Nat → α) :
    (colTree d 0).leaves = List.range (2 ^ d) ∧
    some (colVal f v d 0) = foldSeq f ((List.range (2 ^ d)).map v) := by
  have hl : (colTree d 0).leaves = List.range (2 ^ d) := by
    rw [colTree_leaves]; exact colLeaves_root d
  refine ⟨hl, ?_⟩
  rw [← colTree_eval, ← hl]
  exact (eval_eq_foldSeq hassoc _).symm

/-- reduce_col.jdf / reduce_row.jdf: the output declarations of the producers and the input
    declarations of the consumers describe the same edges -/
theorem reduce_col_edges_match (d lv i : Nat) :
    Dst.flowA (lv + 1) i ∈ colOut d lv (2 * i) ∧ Dst.flowB (lv + 1) i ∈ colOut d lv (2 * i + 1) ∧
    colLeafOut (2 * i) = .flowA 1 i ∧ colLeafOut (2 * i + 1) = .flowB 1 i ∧
    colTop 1 i = .tile (2 * i) ∧ colBottom 1 i = .tile (2 * i + 1) ∧
    colTop (lv + 2) i = .node (lv + 1) (2 * i) ∧ colBottom (lv + 2) i = .node (lv + 1) (2 * i + 1) := by
  simp [colOut, colLeafOut, colTop, colBottom]
  omega

/-- FINDING: when `mt` is not a power of two the tree of reduce_col.jdf / reduce_row.jdf (depth
    `ceil(log2 mt)`) needs a leaf for row `mt`, which is not a row of the matrix -/
theorem reduce_col_not_pow2 (mt : Nat) (h : mt ≠ 2 ^ clog2 mt) : mt ∈ colLeaves (clog2 mt) 0 := by
  rw [colLeaves_root, List.mem_range]
  have := (clog2_spec mt).1
  omega

/-- FINDING: `parsec_reduce_col_New` / `parsec_reduce_row_New` pass `(IA, JA, M, N) = (0, 0, lnt, lmt)`;
    the leaf task space of reduce_col.jdf then contains `(row, col) = (lnt, lmt)`.  To lie in an
    `lmt × lnt` tile matrix the row `lnt` would have to be `< lmt` and the column `lmt` to be `< lnt`:
    the second conjunct says no more than that the two exclude each other. -/
theorem reduce_wrapper_oob (lmt lnt : Int) (h1 : 0 ≤ lmt) (h2 : 0 ≤ lnt) :
    (lnt, lmt) ∈ colInSpace (wrapperArgs lmt lnt).1 (wrapperArgs lmt lnt).2.1
        (wrapperArgs lmt lnt).2.2.1 (wrapperArgs lmt lnt).2.2.2 ∧
    ¬ (lnt < lmt ∧ lmt < lnt) := by
  constructor
  · unfold colInSpace wrapperArgs
    rw [mem_pairs _ (fun _ => irange 0 lmt)]
    simp only [mem_irange]
    omega
  · omega

/-- FINDING: every leaf task of reduce_row.jdf reads a tile of column 0 -/
theorem reduce_row_reads_column0 (depth : Nat) (IA N : Int) (t : Int × Int) (h : t ∈ rowReads depth IA N) :
    t.2 = 0 := by
  unfold rowReads at h
  simp only [List.mem_map] at h
  obtain ⟨_, _, rfl⟩ := h
  rfl

example : (redTree 5 (clog2 5 + 1) 0).leaves = [0, 1, 2, 3, 4] := by decide
example : redVal 5 (· + ·) (fun i => i + 1) (clog2 5 + 1) 0 = 15 := by decide
example : redSpace 3 = [(1, 0), (1, 1), (2, 0), (3, 0)] := by decide
/-- a complete schedule of the tree of `MT = 3` (leaves first, then inner nodes bottom-up) -/
example : (runSched (· + ·) (fun i => 10 * i + 1) (redTree 3 3 0) []
    [[false, false, true], [false, true, false], [false, false, false], [false, false], [false, true], [false], []]).get []
    = some 33 := by decide +kernel
example : (redTree 3 3 0).leaves.Perm [2, 0, 1] := by decide
example : (colTree 2 0).leaves = [0, 1, 2, 3] := by decide
example : (3 : Nat) ≠ 2 ^ clog2 3 := by decide

end ParsecVerif.C22
