import ParsecVerif.Proofs.RemoteDepMachine
/-!
# C13 — collective activations reach each destination exactly once

Model: `ParsecVerif.RemoteDep` (mirrors `parsec_remote_dep_activate`, the three child predicates,
`remote_dep_rank_to_bit/bit_to_rank`, the payload selection of `remote_dep_mpi_pack_dep`, and the
re-activation of a receiver by `parsec_remote_dep_propagate`).

Quantification: every communicator size `n ≤ 2^31`, every root, every family of destination sets
(any number of outputs, any overlap, the root possibly among the consumers), every one of the three
topologies (DTD forcing star), every delivery order of the activation messages.

The statement of C13 ("… however the destination sets of the different outputs overlap") is
`FullStatement` below.  It is FALSE of the code for the chain and the binomial topology
(`general_false_chain`, `general_false_binomial`).  What is true, and proved here:
`never_twice` (safety, always), `general_iff` / `deliveries_iff` (exactly-once ⇔ `Cfg.deliveryOK`),
`star_exactly_once` and `same_sets_exactly_once` (the partial forms of the property).
-/
namespace ParsecVerif.C13
open ParsecVerif.RemoteDep

/-- The property as stated, for one topology: every well-formed family is delivered exactly once. -/
def FullStatement (t : Topo) : Prop :=
  ∀ (n root : Nat) (outs : List Out), (mkCfg t false n root outs).WF →
    ExactlyOnce (mkCfg t false n root outs) (mkCfg t false n root outs).deliveries

theorem tree_mkCfg (t : Topo) (dtd : Bool) (n root : Nat) (outs : List Out) :
    TreeChild (mkCfg t dtd n root outs).child (2 ^ 32) := by
  unfold mkCfg; exact topo_tree _

/-- **The sends of one `parsec_remote_dep_activate`** (any child predicate, any participant): rank
    `p` sends an activation to `x` iff `p` precedes `x` in the numbering of `x`'s layer and the
    child predicate permits, i.e. iff `(p, x)` is an edge. -/
theorem sends_iff_edges (c : Cfg) (h : c.WF) (p x : Nat) : x ∈ c.sends p ↔ (p, x) ∈ c.edges :=
  c.mem_sends_iff h p x

/-- **Safety, at every moment of every run, all three topologies:** no (receiver, output) pair has been
    delivered twice, and whatever has been delivered was wanted by its receiver. -/
theorem never_twice (t : Topo) (dtd : Bool) (n root : Nat) (outs : List Out)
    (h : (mkCfg t dtd n root outs).WF) (ms : List Msg) (r k : Nat) :
    (deliveriesOf ((mkCfg t dtd n root outs).run ms).log).count (r, k) ≤ 1 ∧
    (0 < (deliveriesOf ((mkCfg t dtd n root outs).run ms).log).count (r, k) →
      (mkCfg t dtd n root outs).wanted r k = true) := by
  have hi := inv_run h (tree_mkCfg t dtd n root outs) ms
  exact ⟨List.nodup_iff_count.1 (hi.deliveries_nodup h) _, fun hpos => hi.wanted_of_mem h (List.count_pos_iff.1 hpos)⟩

theorem mem_deliveries_iff (c : Cfg) (h : c.WF) (ht : TreeChild c.child (2 ^ 32)) {s : St} (hi : Inv c s)
    (hq : s.inflight = []) (r k : Nat) :
    (r, k) ∈ deliveriesOf s.log ↔ ∃ p, (p, r) ∈ c.edges ∧ k ∈ c.payload p r := by
  rw [hi.mem_deliveries]
  constructor
  · rintro ⟨m, hm, rfl, hk⟩
    exact ⟨m.src, (hi.edge m (List.mem_append_right _ hm)).1, hk⟩
  · rintro ⟨p, he, hk⟩
    obtain ⟨m, hm, rfl⟩ := mem_dsts.1 (hi.all_delivered h ht hq r (Cfg.edge_dst he))
    exact ⟨m, hm, rfl, (Cfg.edge_iff h ht he).1 (hi.edge m (List.mem_append_right _ hm)).1 ▸ hk⟩

/-- **What exactly is delivered** once nothing is in flight (any delivery order): `(r, k)` is delivered
    (once) iff `r` consumes `k` and the rank that sends to `r` is the root or consumes `k` itself. -/
theorem delivered_count (c : Cfg) (h : c.WF) (ht : TreeChild c.child (2 ^ 32)) (ms : List Msg)
    (hq : (c.run ms).inflight = []) (r k : Nat) :
    (deliveriesOf (c.run ms).log).count (r, k) ≤ 1 ∧
    ((deliveriesOf (c.run ms).log).count (r, k) = 1 ↔
      ∃ p, (p, r) ∈ c.edges ∧ ∃ o ∈ c.outs, o.1 = k ∧ r ∈ o.2 ∧ (p = c.root ∨ p ∈ o.2)) := by
  have hi := inv_run h ht ms
  rw [(hi.deliveries_nodup h).count]
  simp only [← mem_payload, ← mem_deliveries_iff c h ht hi hq]
  split <;> simp [*]

theorem iff_of_inv (c : Cfg) (h : c.WF) (ht : TreeChild c.child (2 ^ 32)) (s : St) (hi : Inv c s)
    (hq : s.inflight = []) : ExactlyOnce c (deliveriesOf s.log) ↔ c.deliveryOK = true := by
  rw [exactlyOnce_iff (hi.deliveries_nodup h), deliveryOK_iff_wanted h ht]
  simp only [mem_deliveries_iff c h ht hi hq]

/-- **C13, general form.**  For star, chain and binomial, every well-formed family and every delivery
    order: once nothing is in flight, "each remote consumer of each output has received it exactly once
    and nothing else was delivered" holds **iff** the decidable predicate `Cfg.deliveryOK` holds. -/
theorem general_iff (t : Topo) (dtd : Bool) (n root : Nat) (outs : List Out)
    (h : (mkCfg t dtd n root outs).WF) (ms : List Msg)
    (hq : ((mkCfg t dtd n root outs).run ms).inflight = []) :
    ExactlyOnce (mkCfg t dtd n root outs) (deliveriesOf ((mkCfg t dtd n root outs).run ms).log) ↔
      (mkCfg t dtd n root outs).deliveryOK = true :=
  iff_of_inv _ h (tree_mkCfg t dtd n root outs) _ (inv_run h (tree_mkCfg t dtd n root outs) ms) hq

/-- The FIFO run used by the executable `deliveries` terminates with nothing in flight within `n` deliveries. -/
theorem fifo_quiescent (t : Topo) (dtd : Bool) (n root : Nat) (outs : List Out)
    (h : (mkCfg t dtd n root outs).WF) :
    ((mkCfg t dtd n root outs).runFifo (mkCfg t dtd n root outs).n (mkCfg t dtd n root outs).init).inflight = [] :=
  (runFifo_quiescent h (tree_mkCfg t dtd n root outs)).2

/-- **C13 for the executable closure** `Cfg.deliveries`: exactly-once ⇔ `deliveryOK`. -/
theorem deliveries_iff (t : Topo) (dtd : Bool) (n root : Nat) (outs : List Out)
    (h : (mkCfg t dtd n root outs).WF) :
    ExactlyOnce (mkCfg t dtd n root outs) (mkCfg t dtd n root outs).deliveries ↔
      (mkCfg t dtd n root outs).deliveryOK = true := by
  have hq := runFifo_quiescent h (tree_mkCfg t dtd n root outs)
  exact iff_of_inv _ h (tree_mkCfg t dtd n root outs) _ hq.1 hq.2

/-- with the star predicate every sender is the root -/
theorem star_ok (c : Cfg) (hc : c.child = starChild) : c.deliveryOK = true := by
  rw [deliveryOK_iff]
  intro p x he
  obtain ⟨L, _, hh, m, _, h2, _, h4⟩ := (c.mem_edges p x).1 he
  rw [hc] at h4
  cases (by simpa [starChild] using h4 : m = 0)
  exact Or.inl (zipIdx_snd_inj h2 (by rw [List.zipIdx_cons]; exact List.mem_cons_self))

/-- **C13 holds for the star topology** (and for DTD taskpools whatever is configured): all n, all roots,
    all families of destination sets. -/
theorem star_exactly_once (t : Topo) (dtd : Bool) (n root : Nat) (outs : List Out)
    (hstar : t = Topo.star ∨ dtd = true) (h : (mkCfg t dtd n root outs).WF) :
    ExactlyOnce (mkCfg t dtd n root outs) (mkCfg t dtd n root outs).deliveries := by
  refine (deliveries_iff t dtd n root outs h).2 (star_ok _ ?_)
  rcases hstar with e | e <;> subst e
  · unfold mkCfg; cases dtd <;> rfl
  · rfl

/-- when all outputs go to the same ranks every relay holds everything it has to forward -/
theorem same_sets_ok (c : Cfg) (h : c.WF)
    (hsame : ∀ o ∈ c.outs, ∀ o' ∈ c.outs, ∀ r, r ∈ o.2 ↔ r ∈ o'.2) : c.deliveryOK = true := by
  rw [deliveryOK_iff]
  intro p x he
  rcases Cfg.edge_src he with e | hpm
  · exact Or.inl e
  · obtain ⟨_, o', ho', hp⟩ := (Cfg.mem_members h p).1 hpm
    exact Or.inr (fun o ho _ => (hsame o' ho' o ho p).1 hp)

/-- **C13 holds for chain and binomial (all topologies) when all outputs share one destination set**:
    all n, all roots, any number of outputs. -/
theorem same_sets_exactly_once (t : Topo) (dtd : Bool) (n root : Nat) (outs : List Out)
    (h : (mkCfg t dtd n root outs).WF)
    (hsame : ∀ o ∈ outs, ∀ o' ∈ outs, ∀ r, r ∈ o.2 ↔ r ∈ o'.2) :
    ExactlyOnce (mkCfg t dtd n root outs) (mkCfg t dtd n root outs).deliveries :=
  (deliveries_iff t dtd n root outs h).2 (same_sets_ok _ h hsame)

/-! ## The unrestricted statement is false (chain: the instance of DESIGN.md 5.2; binomial: docs/notes/C13.md) -/

def witnessChain : Cfg := mkCfg .chain false 3 0 [(0, [1, 2]), (1, [2])]

def witnessBinomial : Cfg := mkCfg .binomial false 4 0 [(0, [1, 2, 3]), (1, [3])]

/-- **Chain (the default) loses an output**: rank 2 consumes output 1 and never receives it
    (0 sends output 0 to 1, 1 relays output 0 to 2, nobody sends output 1). -/
theorem general_false_chain : ¬ FullStatement .chain := by
  intro hfull
  have h := hfull 3 0 [(0, [1, 2]), (1, [2])] (by decide) 2 1
  revert h
  decide +kernel

/-- **Binomial loses an output**: rank 3 consumes output 1 and never receives it (0 sends output 0 to 1 and 2,
    1 relays output 0 to 3, nobody sends output 1). -/
theorem general_false_binomial : ¬ FullStatement .binomial := by
  intro hfull
  have h := hfull 4 0 [(0, [1, 2, 3]), (1, [3])] (by decide) 3 1
  revert h
  decide +kernel

/-! ## Non-vacuity: `WF`, `deliveryOK` either way, `hq` of `general_iff` -/

example : witnessChain.WF ∧ witnessChain.deliveryOK = false ∧ witnessChain.deliveries = [(2, 0), (1, 0)] := by decide +kernel
example : witnessBinomial.WF ∧ witnessBinomial.deliveryOK = false := by decide +kernel
-- a family with differing sets that chain delivers correctly (nested: the relay of 3 consumes both outputs)
example : (mkCfg .chain false 5 1 [(0, [2, 3]), (4, [2, 3, 4])]).WF ∧
    (mkCfg .chain false 5 1 [(0, [2, 3]), (4, [2, 3, 4])]).deliveryOK = true ∧
    (mkCfg .chain false 5 1 [(0, [2, 3]), (4, [2, 3, 4])]).messages =
      [⟨1, 2, [0, 4]⟩, ⟨1, 4, [4]⟩, ⟨2, 3, [0, 4]⟩] := by decide +kernel
-- same sets, binomial: a non-FIFO delivery order reaches quiescence
example : (mkCfg .binomial false 6 2 [(1, [0, 3, 4, 5]), (3, [0, 3, 4, 5])]).WF ∧
    ((mkCfg .binomial false 6 2 [(1, [0, 3, 4, 5]), (3, [0, 3, 4, 5])]).run
      [⟨2, 4, [1, 3]⟩, ⟨2, 3, [1, 3]⟩, ⟨3, 5, [1, 3]⟩, ⟨2, 0, [1, 3]⟩]).inflight = [] := by decide +kernel
example : (mkCfg .star false 4 3 [(0, [0, 1]), (2, [1, 2, 3])]).WF ∧
    (mkCfg .star false 4 3 [(0, [0, 1]), (2, [1, 2, 3])]).deliveries = [(2, 2), (1, 0), (1, 2), (0, 0)] := by decide +kernel

end ParsecVerif.C13
