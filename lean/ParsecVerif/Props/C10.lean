import ParsecVerif.Proofs.TermdetLocalInv
/-!
# C10 — local termination detection is exact

Model: `Model/TermdetLocal.lean` (one transition per atomic operation of
`parsec/mca/termdet/local/termdet_local_module.c`).  All theorems quantify over ANY number of threads,
ANY scripts of API calls and ANY interleaving (`Reach scripts s`: `s` is reached from the initial state by a
schedule every step of which respects the usage protocol `okStep`):

* counters never go negative, a thread releases only units it holds (`put`/`take` hand units over);
* a counter is raised (positive add, set to a larger value) only by a thread that itself holds an accounted
  unit or the set-up token (`canRaise`) — hence nothing is added after termination;
* `taskpool_ready` is called by the holder of the set-up token.

Outside that protocol the detector is unsound by design: `C10_boundary`.
-/
namespace ParsecVerif.C10
open ParsecVerif.TermdetLocal

def AllDone (s : State) : Prop := ∀ th ∈ s.ths, th.pc = .idle ∧ th.script = []

/-- no thread is between its update of `nb_tasks` and the matching inc/dec of `nb_pending_actions` -/
def NoneInCounterPart (s : State) : Prop := ∀ th ∈ s.ths, ∀ r, th.pc ≠ .tInc r ∧ th.pc ≠ .tDec r

/-- no accounted unit is left anywhere (so the protocol allows no further change of the counters) -/
def NothingHeld (s : State) : Prop :=
  (∀ th ∈ s.ths, th.hT = 0 ∧ th.hA = 0 ∧ th.hK = 0) ∧ s.sh.pT = 0 ∧ s.sh.pA = 0 ∧ s.sh.pK = 0

/-- **Safety.**  Whenever the monitor is TERMINATING or TERMINATED — i.e. from the linearization point of the
    winning CAS BUSY→TERMINATING on — `ready` has happened, both counters are 0, no thread is inside the counter
    part of an update and no unit is outstanding. -/
theorem C10_safe (scripts : List (List Op)) (s : State) (h : Reach scripts s)
    (ht : s.sh.mon = 3 ∨ s.sh.mon = 0) :
    s.sh.rdy = 1 ∧ s.sh.nt = 0 ∧ s.sh.npa = 0 ∧ NoneInCounterPart s ∧ NothingHeld s := by
  have hI := inv_reach scripts s h
  obtain ⟨hm, hnt, hnpa, (hA : sumBy wA s.ths + s.sh.pA = 0), hinc, hdec⟩ :=
    hI.q (ht.elim .inl fun h => .inr (.inl h))
  have hT : s.sh.nt = ((sumBy wT s.ths + s.sh.pT : Nat) : Int) := hI.a
  have hK : sumBy wK s.ths + s.sh.pK = 0 := hI.c.2 hm
  have z := fun f (h0 : sumBy f s.ths = 0) => (sumBy_eq_zero f s.ths).1 h0
  refine ⟨hI.rdy.2 hm, hnt, hnpa, fun th hth r => ?_,
    fun th hth => ⟨z wT (by omega) th hth, z wA (by omega) th hth, z wK (by omega) th hth⟩, by omega, by omega, by omega⟩
  have a := z wInc hinc th hth
  have b := z wDec hdec th hth
  constructor
  · intro hp; simp [wInc, hp] at a
  · intro hp; simp [wDec, hp] at b

/-- the monitor word only moves forward NOT_READY → BUSY → TERMINATING → TERMINATED (no protocol needed) -/
theorem tstep_mon (sh : Shared) (th : Thread) :
    (tstep sh th).1.mon = sh.mon ∨ (sh.mon = 1 ∧ (tstep sh th).1.mon = 2) ∨
    (sh.mon = 2 ∧ (tstep sh th).1.mon = 3) ∨ (sh.mon = 3 ∧ (tstep sh th).1.mon = 0) := by
  unfold tstep begin addPool subPool
  repeat' split
  all_goals simp_all

theorem run_detected (s : State) (sched : List Nat) (h : s.sh.mon = 3 ∨ s.sh.mon = 0) :
    (run s sched).sh.mon = 3 ∨ (run s sched).sh.mon = 0 := by
  refine Interleave.foldl_inv (P := fun s : State => s.sh.mon = 3 ∨ s.sh.mon = 0) (fun s t h => ?_) sched h
  unfold step
  cases s.ths[t]? with
  | none => exact h
  | some th => have := tstep_mon s.sh th; dsimp only; omega

/-- **Safety, for ever.**  Once detected, every protocol-respecting continuation keeps the taskpool detected with
    both counters 0 and exactly one callback: it is never reported terminated while a count is non-zero, and
    the counts do not leave 0 after termination. -/
theorem C10_safe_forever (scripts : List (List Op)) (s : State) (h : Reach scripts s)
    (ht : s.sh.mon = 3 ∨ s.sh.mon = 0) (sched : List Nat) (hok : okRun s sched = true) :
    ((run s sched).sh.mon = 3 ∨ (run s sched).sh.mon = 0) ∧ (run s sched).sh.nt = 0 ∧
    (run s sched).sh.npa = 0 ∧ (run s sched).sh.cb = 1 := by
  have hr := reach_run scripts s sched h hok
  have hd := run_detected s sched ht
  have hs := C10_safe scripts _ hr hd
  have hI := inv_reach scripts _ hr
  have hcb := hI.h
  refine ⟨hd, hs.2.1, hs.2.2.1, ?_⟩
  omega

/-- **Exactly once.**  The callback runs at most once; it has not run while NOT_READY/BUSY, it has run exactly
    once when TERMINATING (the caller is between the callback and its final CAS) or TERMINATED. -/
theorem C10_once (scripts : List (List Op)) (s : State) (h : Reach scripts s) :
    s.sh.cb ≤ 1 ∧ (s.sh.mon = 1 ∨ s.sh.mon = 2 → s.sh.cb = 0) ∧ (s.sh.mon = 3 ∨ s.sh.mon = 0 → s.sh.cb = 1) ∧
    (s.sh.cb = 1 → s.sh.mon = 3 ∨ s.sh.mon = 0) := by
  have hI := inv_reach scripts s h
  have := hI.mon3
  have := hI.h
  omega

/-- what a monitoring thread sees: if `taskpool_state` returns TERMINATED (4) then, at that moment, the callback
    has run exactly once and both counters are 0 -/
theorem C10_state_call (scripts : List (List Op)) (s : State) (h : Reach scripts s) (t : Nat) (th th' : Thread)
    (rest : List Op) (hth : s.ths[t]? = some th) (hpc : th.pc = .idle) (hs : th.script = .state :: rest)
    (hth' : (step s t).ths[t]? = some th') (hret : th'.ret = 4) :
    s.sh.mon = 0 ∧ s.sh.cb = 1 ∧ s.sh.nt = 0 ∧ s.sh.npa = 0 ∧ (step s t).sh = s.sh := by
  obtain ⟨hi, _⟩ := getElem_of_getElem? hth
  have hstep : step s t = ⟨s.sh, s.ths.set t (fin { th with script := rest } (stateCode s.sh.mon))⟩ := by
    simp [step, hth, tstep, hpc, begin, hs]
  rw [hstep] at hth'
  simp only [List.getElem?_set_self hi, Option.some.injEq] at hth'
  subst hth'
  have hm : s.sh.mon = 0 := by
    simp only [fin, stateCode] at hret
    split at hret
    · assumption
    · split at hret
      · omega
      · split at hret <;> omega
  have hsafe := C10_safe scripts s h (Or.inr hm)
  have honce := C10_once scripts s h
  refine ⟨hm, ?_, hsafe.2.1, hsafe.2.2.1, by rw [hstep]⟩
  omega

theorem allDone_total (s : State) (hd : AllDone s) :
    (total s.ths).inc = 0 ∧ (total s.ths).dec = 0 ∧ (total s.ths).c2 = 0 ∧ (total s.ths).c3 = 0 ∧
    (total s.ths).ret = 0 ∧ (total s.ths).rel = 0 := by
  have z := fun f (hf : ∀ th : Thread, th.pc = .idle → f th = 0) =>
    (sumBy_eq_zero f s.ths).2 fun th hm => hf th (hd th hm).1
  exact ⟨z wInc fun th hp => by simp [wInc, hp], z wDec fun th hp => by simp [wDec, hp],
    z wC2 fun th hp => by simp [wC2, hp], z wC3 fun th hp => by simp [wC3, hp],
    z wRet fun th hp => by simp [wRet, hp], z wRel fun th hp => by simp [wRel, hp]⟩

/-- **Liveness (no lost detection).**  In every reachable state in which all threads have returned from all their
    calls: the monitor is not stuck in TERMINATING, `nb_pending_actions` is exactly the outstanding actions plus
    `[nb_tasks > 0]`, and if `ready` was called and both counters are 0 then termination HAS been reported
    (TERMINATED, callback run once). -/
theorem C10_live (scripts : List (List Op)) (s : State) (h : Reach scripts s) (hd : AllDone s) :
    s.sh.mon ≠ 3 ∧ ¬(s.sh.mon = 2 ∧ s.sh.npa = 0) ∧
    s.sh.npa = ((sumBy wA s.ths + s.sh.pA : Nat) : Int) + (if 0 < s.sh.nt then 1 else 0) ∧
    (s.sh.rdy = 1 → s.sh.nt = 0 → s.sh.npa = 0 → s.sh.mon = 0 ∧ s.sh.cb = 1) := by
  have hI := inv_reach scripts s h
  have := allDone_total s hd
  have h3 : s.sh.mon ≠ 3 := by have := hI.h.2.1; omega
  have h2 : ¬(s.sh.mon = 2 ∧ s.sh.npa = 0) := by have := hI.l; omega
  refine ⟨h3, h2, ?_, ?_⟩
  · have hA : (total s.ths).hA = sumBy wA s.ths := rfl
    have := hI.b
    split <;> omega
  · have := hI.mon3
    have := hI.rdy.1
    have := hI.h.2.2
    omega

theorem step_dCas2 {s : State} {t : Nat} {th : Thread} {r : Int} (hth : s.ths[t]? = some th)
    (hpc : th.pc = .dCas2 r) (hm : s.sh.mon = 2) :
    okStep s t ∧ (step s t).sh.mon = 3 ∧ (step s t).sh.cb = s.sh.cb + 1 := by
  simp [okStep, step, hth, enabled, tstep, hpc, hm]

/-- **Liveness (progress).**  Whenever the monitor is BUSY with `nb_pending_actions = 0`, some thread is already
    committed to the detection: taken next, its one or two following steps are allowed and bring the monitor to
    TERMINATING (callback called).  Steps of other threads in between are not covered by this statement. -/
theorem C10_live_progress (scripts : List (List Op)) (s : State) (h : Reach scripts s)
    (hm : s.sh.mon = 2) (hz : s.sh.npa = 0) :
    ∃ t, okStep s t ∧ (((step s t).sh.mon = 3 ∧ (step s t).sh.cb = 1) ∨
      (okStep (step s t) t ∧ (step (step s t) t).sh.mon = 3 ∧ (step (step s t) t).sh.cb = 1)) := by
  have hI := inv_reach scripts s h
  have hcb : s.sh.cb = 0 := (hI.h.1 (Or.inr hm)).1
  have hl := hI.l ⟨hm, hz⟩
  have hl' : 1 ≤ sumBy (fun th => wC2 th + wRet th) s.ths := by
    rw [sumBy_add]; exact hl
  obtain ⟨t, hi, hf⟩ := exists_of_sumBy_pos _ _ hl'
  have hth : s.ths[t]? = some s.ths[t] := List.getElem?_eq_getElem hi
  generalize s.ths[t] = th at hth hf
  refine ⟨t, ?_⟩
  cases hpc : th.pc <;> simp [wC2, wRet, hpc] at hf
  · -- rRetain: RETAIN, reads nbpa = 0, goes for the CAS; second step wins it
    have h1 : step s t = ⟨{ s.sh with rc := s.sh.rc + 1 }, s.ths.set t { th with pc := .dCas2 0 }⟩ := by
      simp [step, hth, tstep, hpc, hz]
    have h2 := step_dCas2 (s := step s t) (t := t) (th := { th with pc := .dCas2 0 }) (r := 0)
      (by rw [h1]; exact List.getElem?_set_self hi) rfl (by rw [h1]; exact hm)
    refine ⟨by simp [okStep, hth, enabled, hpc], .inr ⟨h2.1, h2.2.1, ?_⟩⟩
    rw [h2.2.2, h1]
    exact congrArg (· + 1) hcb
  · -- dCas2: the CAS succeeds
    have h2 := step_dCas2 hth hpc hm
    exact ⟨h2.1, .inl ⟨h2.2.1, by omega⟩⟩

/-- reference count: `ready` retains once, the detection releases once; relative to its initial value the count
    stays within −1 … 1 and is back to 0 when everything has returned after termination -/
theorem C10_refcount (scripts : List (List Op)) (s : State) (h : Reach scripts s) :
    -1 ≤ s.sh.rc ∧ s.sh.rc ≤ 1 ∧ (AllDone s → s.sh.mon = 0 → s.sh.rc = 0) := by
  have hI := inv_reach scripts s h
  have ir := hI.r
  have iy := hI.rdy
  refine ⟨by omega, by omega, ?_⟩
  intro hd hm
  have := allDone_total s hd
  omega

/-! ### The documented boundary: without the protocol the detector is unsound by design

Thread 0 legitimately brings `nb_pending_actions` to 0 while BUSY and is about to CAS; thread 1 — holding no
accounted unit — raises the counter to 1; thread 0's CAS BUSY→TERMINATING still succeeds.  (Replayed on the real
code: corpus/C10/010-boundary-unsound.case.) -/

def bScripts : List (List Op) := [[.take .K 1, .addA 1, .ready, .addA (-1)], [.addA 1]]
def bSched : List Nat := [0, 0, 0, 0, 0, 0, 0, 0, 1, 1, 0]

theorem C10_boundary :
    okRun (init bScripts) bSched = false ∧ firstBad (init bScripts) bSched 0 = some 9 ∧
    (run (init bScripts) bSched).sh.mon = 3 ∧ (run (init bScripts) bSched).sh.cb = 1 ∧
    (run (init bScripts) bSched).sh.npa = 1 := by decide

/-! ### An observation on the real code (inside the protocol): RELEASE can precede ready's RETAIN

`taskpool_ready` publishes BUSY *before* it retains the taskpool.  If the units are held by other threads, one of
them can detect termination and run the RELEASE in that window: the reference count drops below its initial value
(with an initial count of 1 the taskpool would be destructed while `ready` is still about to touch it).
(Replayed on the real code: corpus/C10/011-release-before-retain.case.) -/

def rScripts : List (List Op) := [[.take .K 1, .addA 1, .put .A 1, .ready], [.take .A 1, .addA (-1)]]
def rSched : List Nat := [0, 0, 0, 0, 0, 0, 1, 1, 1, 1, 1, 1]

theorem C10_refcount_dip :
    okRun (init rScripts) rSched = true ∧ (run (init rScripts) rSched).sh.rc = -1 ∧
    (run (init rScripts) rSched).sh.mon = 0 ∧
    ((run (init rScripts) rSched).ths[0]?.map (·.pc)) = some .rRetain := by decide

/-! ### Non-vacuity: the hypotheses are satisfiable on non-trivial executions -/

/-- three threads; under `eSched` thread 2 raises and lowers `nb_tasks` around thread 0's `ready` (one decrement
    between its CAS and its RETAIN), and `nb_tasks` returns to zero once, at the end -/
def eScripts : List (List Op) :=
  [[.take .K 1, .addT 2, .addA 2, .put .T 1, .put .A 1, .ready, .addT (-1), .addA (-1)],
   [.take .T 1, .addT (-1), .state],
   [.take .A 1, .addT 1, .addT (-1), .addT 2, .addT (-2), .addA (-1), .state]]
def eSched : List Nat :=
  [0, 0, 0, 0, 0, 0, 0, 0,   -- set-up: token, 2 tasks, 2 actions, hand one of each over
   2, 1, 2, 2, 1, 1, 0, 0, 1, 2, 2, 0, 2, 2, 2, 0, 2, 2, 2, 0, 2, 0, 0, 0, 0, 0, 0]

theorem eSched_ok : okRun (init eScripts) eSched = true := by decide
example : okRun (init eScripts) eSched = true := eSched_ok
example : Reach eScripts (run (init eScripts) eSched) :=
  reach_run eScripts _ _ (Reach.init) eSched_ok
example : (run (init eScripts) eSched).sh.mon = 0 ∧ (run (init eScripts) eSched).sh.cb = 1 ∧
    (run (init eScripts) eSched).sh.rc = 0 ∧ (run (init eScripts) eSched).ths.all Thread.done = true := by decide
/-- a reachable state to which `C10_live_progress` applies (BUSY, nbpa = 0, detection pending) -/
example : ∃ k, (run (init eScripts) (eSched.take k)).sh.mon = 2 ∧ (run (init eScripts) (eSched.take k)).sh.npa = 0 :=
  ⟨32, by decide⟩

end ParsecVerif.C10
