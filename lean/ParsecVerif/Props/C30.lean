/-
  C30 — the lock-free LIFO (parsec/class/lifo.h, 128-bit CAS branch) is a linearizable stack.

  Model: `Model/Lifo.lean` (one transition per shared-memory access; any number of threads, any
  programs of push / chain / pop / try_pop / owner writes of `list_next`, any schedule).
  Hypotheses, explicit in the model:
  * a thread pushes/chains/writes only items it owns (enforced as the call precondition `PushPre`,
    decided thread-locally; other calls are not issued and recorded as `rejected`, and so is a
    `setNext x v` whose `v` is not NULL or one of the item ids `1..n`);
  * items are never freed: `next` is a total heap, a popper may read `item->list_next` of an item
    that another thread popped meanwhile (it reads garbage, and its CAS then fails);
  * sequentially consistent memory; the 64-bit counter does not wrap (a `Nat`).
-/
import ParsecVerif.Proofs.LifoLin

namespace ParsecVerif.C30
open ParsecVerif.Lifo

structure Linearization (c : Config) (s : State) (S : List LinRec) : Prop where
  /-- `S` is a legal history of the sequential stack started on the initial content; it ends in the
      stack that the heap contains (chain from the head following `list_next`). -/
  legal : Spec.replay c.stack (S.map LinRec.ev) = some s.mem.abs
  heap : IsSeg s.mem.next s.mem.top s.mem.abs 0
  /-- thread `t`'s part of `S` = its completed operations with their results, in program order
      (followed by its operation that has taken effect but not yet returned, if any) -/
  perThread : ∀ t th, s.thr[t]? = some th →
    S.filter (fun l => l.tid == t) = th.hist.map (OpRec.lin t) ++ pending t th
  /-- and these are the thread's program: completed ++ running ++ remaining -/
  program : ∀ t th, s.thr[t]? = some th →
    th.hist.map (fun r => r.op) ++ pcOp th.pc ++ th.todo = c.progs.getD t []
  threads : s.thr.length = c.progs.length
  /-- real-time order: an operation that returned (step stamp `tRet`) before another one was invoked
      (`tInv`) comes first in `S` -/
  realTime : ∀ (i : Nat) (thi : Thread) (a : OpRec), s.thr[i]? = some thi → a ∈ thi.hist → ∀ b ∈ S, a.tRet < b.tInv → Before S (a.lin i) b
  /-- every entry of `S` took effect between its invocation and (if it returned) its return -/
  stamps : (∀ l ∈ S, l.tInv ≤ l.tLin) ∧ ∀ (t : Nat) (th : Thread), s.thr[t]? = some th → ∀ r ∈ th.hist, r.tLin ≤ r.tRet

theorem _root_.ParsecVerif.Lifo.Inv.linearization {c : Config} {s : State} (h : Inv c s) : Linearization c s s.lins := by
  refine ⟨h.spec, h.g.seg, fun t th ht => (h.th t th ht).lins,
    fun t th ht => (h.th t th ht).prog, h.len, ?_, h.stamp, fun t th ht r hr => ((h.th t th ht).time.hist r hr).2.1⟩
  intro i thi a hi ha b hb hab
  have hti := (h.th i thi hi)
  have ha' : a.lin i ∈ s.lins := by
    have : a.lin i ∈ linsOf i thi := List.mem_append_left _ (List.mem_map_of_mem ha)
    rw [← hti.lins] at this
    exact (List.mem_filter.1 this).1
  have h1 := hti.time.hist a ha
  have h2 := h.stamp b hb
  exact Interleave.before_of_pairwise (f := (·.tLin)) h.sorted ha' hb (by show a.tLin < b.tLin; omega)

/-- **Linearizability**, for every well-formed configuration (any number of items, threads and any
    programs) and EVERY schedule of micro steps: there is a sequential stack history with the same
    per-thread operations and results that respects the real-time order. -/
theorem C30_linearizable (c : Config) (hc : c.WF) (sched : List Nat) :
    ∃ S, Linearization c (run c sched) S :=
  ⟨_, (Inv.run c hc sched).linearization⟩

/-- when every thread has finished, the sequential history consists exactly of the threads' whole
    programs with the results they returned -/
theorem C30_linearizable_complete (c : Config) (hc : c.WF) (sched : List Nat)
    (hfin : ∀ th ∈ (run c sched).thr, th.pc = .idle ∧ th.todo = []) :
    ∃ S, Linearization c (run c sched) S ∧
      ∀ t th, (run c sched).thr[t]? = some th →
        S.filter (fun l => l.tid == t) = th.hist.map (OpRec.lin t) ∧ th.hist.map (fun r => r.op) = c.progs.getD t [] := by
  obtain ⟨S, hS⟩ := C30_linearizable c hc sched
  refine ⟨S, hS, fun t th ht => ?_⟩
  have hf := hfin th (List.mem_of_getElem? ht)
  have h1 := hS.perThread t th ht
  have h2 := hS.program t th ht
  simp only [pending, hf.1, hf.2, pcOp, List.append_nil] at h1 h2
  exact ⟨h1, h2⟩

/-- **Conservation** (no element lost or duplicated), in every reachable state: the items chained from
    the head are pairwise distinct, and every item x ≠ NULL is EITHER in the LIFO (`who x = 0`) OR
    owned by exactly one thread (`who` is a function; ownership is acquired only by popping the item
    and given up only by the successful CAS of a push/chain of it). -/
theorem C30_conservation (c : Config) (hc : c.WF) (sched : List Nat) :
    IsSeg (run c sched).mem.next (run c sched).mem.top (run c sched).mem.abs 0 ∧
    (run c sched).mem.abs.Nodup ∧
    ∀ x, x ≠ 0 → ((run c sched).mem.who x = 0 ↔ x ∈ (run c sched).mem.abs) := by
  have h := (Inv.run c hc sched).g
  refine ⟨h.seg, h.nodup, fun x hx => ?_⟩
  rw [h.who0 x]; simp [hx]

/-- the saved values of a popper that is about to CAS are still accurate whenever the CAS can succeed:
    if the head still carries its saved counter and item then that item is the top of the stack and the
    saved `next` heads the rest of the chain (the ABA argument). -/
theorem C30_pop_cas_sound (c : Config) (hc : c.WF) (sched : List Nat) (t : Nat) (th : Thread) (tr : Bool) (k it nx : Nat)
    (ht : (run c sched).thr[t]? = some th) (hpc : th.pc = .popCas tr k it nx)
    (hctr : (run c sched).mem.ctr = k) (htop : (run c sched).mem.top = it) :
    ∃ rest, (run c sched).mem.abs = it :: rest ∧ IsSeg (run c sched).mem.next nx rest 0 := by
  have h := Inv.run c hc sched
  exact (hpc ▸ (h.th t th ht).tinv).cas_sound h.g hctr htop

/-- **try_pop gives up only on interference** (and pop retries only then): if the 128-bit CAS of a
    popper is about to fail — the head differs from its saved (counter, item) — then the operation of
    another thread changed the stack (successful push/chain/pop, linearized) after this popper's
    invocation.  Together with `C30_trypop_null_on_empty` this bounds the weak specification of try_pop:
    NULL is returned only on an empty LIFO or under contention. -/
theorem C30_trypop_gives_up_only_on_interference (c : Config) (hc : c.WF) (sched : List Nat) (t : Nat) (th : Thread)
    (tr : Bool) (k it nx : Nat) (ht : (run c sched).thr[t]? = some th) (hpc : th.pc = .popCas tr k it nx)
    (hfail : ¬ ((run c sched).mem.ctr = k ∧ (run c sched).mem.top = it)) :
    ∃ l ∈ (run c sched).lins, l.tid ≠ t ∧ th.tInv < l.tLin ∧ Effective l := by
  have h := (Inv2.run c hc sched).tryi t th ht
  unfold TryInv at h
  rw [hpc] at h
  exact h hfail

/-- in every reachable state the head item is NULL only if the stack is empty: a popper that reads a NULL
    head item (and returns NULL at that read) does so on an empty stack -/
theorem C30_trypop_null_on_empty (c : Config) (hc : c.WF) (sched : List Nat)
    (htop : (run c sched).mem.top = 0) : (run c sched).mem.abs = [] := by
  have h := (Inv.run c hc sched).g.seg
  rw [htop] at h
  exact h.nil_of_zero

theorem step_pop {σ σ' : List Nat} {tr : Bool} {x : Nat} (hx : x ≠ 0)
    (h : Spec.step σ (.pop tr) (.item x) = some σ') : σ = x :: σ' := by
  obtain ⟨y, rfl⟩ := Nat.exists_eq_succ_of_ne_zero hx
  cases σ with
  | nil => simp [Spec.step] at h
  | cons a r => simp [Spec.step] at h; rw [h.1, h.2]

theorem pops_prefix (ps : List (Bool × Nat)) (h0 : ∀ p ∈ ps, p.2 ≠ 0) (σ σ' : List Nat)
    (h : Spec.replay σ (ps.map fun p => (Op.pop p.1, Res.item p.2)) = some σ') : σ = ps.map (·.2) ++ σ' := by
  induction ps generalizing σ with
  | nil => exact Option.some.inj h
  | cons p ps ih =>
    simp only [List.map_cons, Spec.replay] at h
    cases hs : Spec.step σ (.pop p.1) (.item p.2) with
    | none => rw [hs] at h; cases h
    | some σ1 =>
      rw [hs] at h
      rw [step_pop (h0 p (List.mem_cons_self ..)) hs, ih (fun q hq => h0 q (List.mem_cons_of_mem _ hq)) σ1 h]
      rfl

/-- **Chain order.** In the sequential history (which exists by `C30_linearizable`): if a chain of the
    ring `pre ++ [tl]` is directly followed by k ≤ |ring| successful pops / try_pops, these return the
    ring's items in ring order. -/
theorem C30_chain_order (σ σ' : List Nat) (pre : List Nat) (tl : Nat) (rs : List Nat) (trs : List Bool)
    (h0 : ∀ x ∈ rs, x ≠ 0) (hl : trs.length = rs.length) (hk : rs.length ≤ (pre ++ [tl]).length)
    (h : Spec.replay σ ((Op.push pre tl, Res.unit) :: (trs.zip rs).map fun p => (Op.pop p.1, Res.item p.2)) = some σ') :
    rs = (pre ++ [tl]).take rs.length := by
  simp only [Spec.replay, Spec.step, Option.bind_some] at h
  have := pops_prefix (trs.zip rs) (fun p hp => h0 p.2 (List.of_mem_zip hp).2) _ _ h
  rw [List.map_snd_zip (Nat.le_of_eq hl.symm)] at this
  have h2 := congrArg (List.take rs.length) this
  rwa [List.take_append_of_le_length hk, List.take_left' rfl, eq_comm] at h2

/-- At the linearization point of a chain the heap chain really is ring ++ old content: in a memory that
    satisfies `GInv` and the pusher's `TInv` at its CAS (as in every reachable state, `Inv.run`), the
    successful CAS turns the ghost stack σ into `pre ++ [tl] ++ σ`, and the invariant
    `IsSeg next top abs 0` holds again afterwards. -/
theorem C30_chain_commit (m : Mem) (t : Nat) (pre : List Nat) (tl nxt : Nat) (hG : GInv m)
    (hT : TInv m t (.pushCas pre tl nxt)) (htop : m.top = nxt) :
    (pushCommit m pre tl).abs = pre ++ [tl] ++ m.abs ∧
    IsSeg (pushCommit m pre tl).next (pushCommit m pre tl).top (pre ++ [tl] ++ m.abs) 0 :=
  ⟨rfl, (Guar.pushCommit hG hT htop).g.seg⟩

theorem runToPark_micro (fuel : Nat) (s : State) (t : Nat) :
    ∃ k, runToPark fuel s t = (List.replicate k t).foldl step s := by
  induction fuel generalizing s with
  | zero => exact ⟨0, rfl⟩
  | succ f ih =>
    unfold runToPark
    split
    · exact ⟨0, rfl⟩
    · obtain ⟨k, hk⟩ := ih (step s t)
      exact ⟨k + 1, by rw [hk]; rfl⟩

/-- one step of the cooperative scheduler (atomic primitive at the park point, then plain code up to
    the next park point) is a run of micro steps of that thread: every execution of the real code
    under the scheduler is an execution of the model, to which the theorems above apply. -/
theorem C30_macro_is_micro (c : Config) (msched : List Nat) :
    ∃ sched, msched.foldl macroStep (init c) = run c sched := by
  suffices ∀ s, ∃ l : List Nat, msched.foldl macroStep s = l.foldl step s from this _
  induction msched with
  | nil => intro s; exact ⟨[], rfl⟩
  | cons t r ih =>
    intro s
    obtain ⟨k, hk⟩ := runToPark_micro 100000 (step s t) t
    obtain ⟨l, hl⟩ := ih (macroStep s t)
    refine ⟨t :: (List.replicate k t ++ l), ?_⟩
    simp only [List.foldl_cons, List.foldl_append]
    rw [← hk]; exact hl

theorem nextOf_seg : ∀ (l : List Nat), l.Nodup → 0 ∉ l → IsSeg (nextOf l) (l.headD 0) l 0
  | [], _, _ => rfl
  | [a], _, h0 => ⟨rfl, fun h => h0 (by simp [h]), rfl⟩
  | a :: b :: r, hn, h0 => by
    have hn' := List.nodup_cons.1 hn
    refine ⟨rfl, fun h => h0 (by simp [h]), ?_⟩
    rw [show nextOf (a :: b :: r) a = b by simp [nextOf]]
    refine (nextOf_seg (b :: r) hn'.2 fun h => h0 (List.mem_cons_of_mem _ h)).congr fun x hx => ?_
    simp [nextOf, show x ≠ a from fun h => hn'.1 (h ▸ hx)]

theorem mkConfig_WF (n : Nat) (stack owner : List Nat) (progs : List (List Op)) (hn : stack.Nodup) (h0 : 0 ∉ stack) :
    (mkConfig n stack owner progs).WF := by
  refine ⟨hn, nextOf_seg stack hn h0, fun x => ?_⟩
  simp only [mkConfig]
  by_cases hx : x = 0 ∨ x ∈ stack
  · simp [hx]
  · simp only [hx, ite_false, iff_false]; omega

/-- items 1,2 in the LIFO (2 on top), item 3 owned by thread 0 -/
def exCfg : Config := mkConfig 3 [2, 1] [2, 2, 0] [[.pop false], [.pop false, .pop false, .push [] 2]]

example : exCfg.WF := mkConfig_WF _ _ _ _ (by decide) (by decide)

/-- the ABA schedule: T0 reads (counter 0, item 2, next 1) and stops before its CAS; T1 pops 2, pops 1
    and pushes 2 back — the head item is 2 again, but the counter is 2 and 2.next is NULL; T0's CAS
    fails (a pointer-only CAS would succeed and install the popped item 1), T0 retries and pops 2. -/
def exSched : List Nat := List.replicate 5 0 ++ List.replicate 21 1 ++ List.replicate 8 0

example : (threadAt (run exCfg (List.replicate 5 0 ++ List.replicate 21 1)) 0).pc = .popCas false 0 2 1 := by decide
example : (run exCfg (List.replicate 5 0 ++ List.replicate 21 1)).mem.ctr = 2 ∧
          (run exCfg (List.replicate 5 0 ++ List.replicate 21 1)).mem.top = 2 := by decide
example : (threadAt (run exCfg (List.replicate 5 0 ++ List.replicate 21 1 ++ [0])) 0).pc = .popRdC false := by decide
example : ((run exCfg exSched).thr.map fun th => th.hist.map fun r => r.res) =
    [[.item 2], [.item 2, .item 1, .unit]] := by decide
example : (run exCfg exSched).lins.map (fun l => (l.tid, l.res)) =
    [(1, .item 2), (1, .item 1), (1, .unit), (0, .item 2)] := by decide
example : ∀ th ∈ (run exCfg exSched).thr, th.pc = .idle ∧ th.todo = [] := by decide
/-- a chain of a ring of two, rejected calls, an empty pop and a try_pop giving up on a changed counter
    (the head item is 1 again, as when it read it) are all reachable -/
def exCfg2 : Config := mkConfig 3 [1] [0, 0, 0]
  [[.push [2] 3, .setNext 2 3, .push [2] 3, .pop false, .pop false, .pop false, .pop false, .push [] 1, .push [] 1], [.pop true]]
set_option maxRecDepth 8000 in
example : ((run exCfg2 (List.replicate 5 1 ++ List.replicate 60 0 ++ [1])).thr.map fun th => th.hist.map fun r => r.res) =
    [[.rejected, .unit, .unit, .item 2, .item 3, .item 1, .item 0, .unit, .rejected], [.item 0]] := by decide
-- the hypotheses of `C30_chain_order` can be met
example : C30_chain_order [1] [1] [2] 3 [2, 3] [false, true] (by decide) rfl (by decide) (by decide) = rfl := rfl

end ParsecVerif.C30
