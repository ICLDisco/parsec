import ParsecVerif.Proofs.FutureBase
import ParsecVerif.Proofs.FutureDCMutex
/-!
# C29 — futures complete once and deliver one value

All theorems are about `brun` / `drun`: the state reached by ANY schedule (list of thread ids, stutter steps
of blocked threads included) from the initial state of ANY number of threads with ANY operation lists.
-/
namespace ParsecVerif.C29
open ParsecVerif.Future

/-- **C29 (base future).**  For every program list whose set values are non-NULL, after ANY schedule:
    at most one CAS won, and exactly one as soon as the future holds a value; the callback ran at most once and
    exactly once iff the future is ready; a ready future holds a value; the value is the argument of an issued set;
    every finished `get` returned while the future was ready and returned the (final) value; a positive `is_ready`
    was answered only on a ready future. -/
theorem C29_base_once (progs : List (List BOp)) (hv : ∀ p ∈ progs, ∀ v, BOp.set v ∈ p → v ≠ 0) (c : Int) (sched : List Nat) :
    (brun false c progs sched).sh.wins ≤ 1 ∧ (brun false c progs sched).sh.cb ≤ 1 ∧
    ((brun false c progs sched).sh.compl = true ↔ (brun false c progs sched).sh.cb = 1) ∧
    ((brun false c progs sched).sh.wins = 1 ↔ (brun false c progs sched).sh.data ≠ 0) ∧
    ((brun false c progs sched).sh.compl = true → (brun false c progs sched).sh.data ≠ 0) ∧
    ((brun false c progs sched).sh.data ≠ 0 → ∃ p ∈ progs, BOp.set (brun false c progs sched).sh.data ∈ p) ∧
    ∀ th ∈ (brun false c progs sched).thr,
      (∀ v, (BOp.get, v) ∈ th.res → (brun false c progs sched).sh.compl = true ∧ v = (brun false c progs sched).sh.data ∧ v ≠ 0) ∧
      ((BOp.ready, 1) ∈ th.res → (brun false c progs sched).sh.compl = true) := by
  have h := binv_run progs hv c sched
  generalize brun false c progs sched = s at h
  have key : s.sh.wins ≤ 1 ∧ s.sh.cb ≤ 1 ∧ (s.sh.compl = true ↔ s.sh.cb = 1) ∧ (s.sh.wins = 1 ↔ s.sh.data ≠ 0) ∧
      (s.sh.compl = true → s.sh.data ≠ 0) := by
    rcases h.shared with ⟨hd, hw, hcb, hc, _⟩ | ⟨hd, hw, hcb, hc⟩
    · simp [hd, hw, hcb, hc]
    · exact ⟨by omega, by omega, hc, by simp [hd, hw], fun _ => hd⟩
  obtain ⟨h1, h2, h3, h4, hcd⟩ := key
  refine ⟨h1, h2, h3, h4, hcd, fun hd => List.mem_flatten.1 (h.issued hd), fun th hth => ⟨fun v hm => ?_, (h.thr th hth).rdy⟩⟩
  obtain ⟨hc, hvd⟩ := (h.thr th hth).get v hm
  exact ⟨hc, hvd, hvd ▸ hcd hc⟩

/-- When every thread has finished and at least one set was issued, the future is ready, one CAS won and the callback ran once. -/
theorem C29_base_all_done (progs : List (List BOp)) (hv : ∀ p ∈ progs, ∀ v, BOp.set v ∈ p → v ≠ 0) (c : Int) (sched : List Nat)
    (hdone : ∀ th ∈ (brun false c progs sched).thr, th.pc = .done) (hset : ∃ p ∈ progs, ∃ v, BOp.set v ∈ p) :
    (brun false c progs sched).sh.compl = true ∧ (brun false c progs sched).sh.cb = 1 ∧ (brun false c progs sched).sh.wins = 1 := by
  have h := binv_run progs hv c sched
  have hpr := brun_prog false c progs sched
  generalize brun false c progs sched = s at h hpr hdone
  obtain ⟨p, hp, v, hm⟩ := hset
  rw [← hpr] at hp
  obtain ⟨th, hth, rfl⟩ := List.mem_map.1 hp
  have ht := h.thr th hth
  have htd := ht.dn (hdone th hth)
  have hprog := ht.prog
  rw [htd, List.append_nil] at hprog
  rw [← hprog] at hm
  obtain ⟨⟨o, r⟩, hor, ho⟩ := List.mem_map.1 hm
  simp only at ho
  subst ho
  have hn0 : nWmb s = 0 := List.countP_eq_zero.2 fun x hx => by simp [isWmb, hdone x hx]
  rcases h.shared with ⟨hd', _⟩ | ⟨_, hw, hcb, hc⟩
  · exact absurd hd' (ht.sets v r hor)
  · rw [hn0] at hcb
    exact ⟨hc.2 (by omega), by omega, hw⟩

/-- The non-NULL hypothesis is needed: two `set(NULL)` both win the CAS and the callback runs twice. -/
theorem C29_base_null_needs_precondition :
    (brun false 0 [[.set 0], [.set 0]] [0, 0, 0, 1, 1, 1]).sh.cb = 2 ∧ (brun false 0 [[.set 0], [.set 0]] [0, 0, 0, 1, 1, 1]).sh.wins = 2 := by
  decide +kernel

/-- non-vacuity: two setters and a reader; the reader gets the winner's value -/
example : (brun false 0 [[.set 1], [.set 2], [.get]] [1, 2, 0, 1, 0, 1, 2, 2]).thr.map (·.res) =
    [[(.set 1, 0)], [(.set 2, 1)], [(.get, 2)]] := by decide +kernel

/-- **C29 (countable future).**  For a count `c ≥ 1`, after ANY schedule: the future is ready exactly when at least `c` `set`
    operations have executed (their fetch-dec), the callback ran exactly once if ready and never before, the count word is
    `c − #sets`, and every finished `get` returned after readiness (with the NULL the countable future tracks). -/
theorem C29_count (c : Int) (hc : 1 ≤ c) (progs : List (List BOp)) (sched : List Nat) :
    ((brun true c progs sched).sh.compl = true ↔ c ≤ (finishedSets (brun true c progs sched) : Int)) ∧
    ((brun true c progs sched).sh.cb = if c ≤ (finishedSets (brun true c progs sched) : Int) then 1 else 0) ∧
    (brun true c progs sched).sh.count = c - (finishedSets (brun true c progs sched) : Int) ∧
    ∀ th ∈ (brun true c progs sched).thr,
      (∀ v, (BOp.get, v) ∈ th.res → (brun true c progs sched).sh.compl = true ∧ v = 0) ∧
      ((BOp.ready, 1) ∈ th.res → (brun true c progs sched).sh.compl = true) := by
  have h := kinv_run c progs sched
  generalize brun true c progs sched = s at h
  refine ⟨?_, ?_, ?_, fun th hth => ⟨(h.thr th hth).get, (h.thr th hth).rdy⟩⟩ <;> rw [h.sh] <;> simp [kshared, hc]

/-- A countable future initialised with a count `≤ 0` never becomes ready and never runs its callback. -/
theorem C29_count_nonpositive (c : Int) (hc : c ≤ 0) (progs : List (List BOp)) (sched : List Nat) :
    (brun true c progs sched).sh.compl = false ∧ (brun true c progs sched).sh.cb = 0 := by
  have : ¬ (1 ≤ c ∧ c ≤ (finishedSets (brun true c progs sched) : Int)) := by omega
  rw [(kinv_run c progs sched).sh, kshared]
  simp [this]

/-- non-vacuity: count 2, three setters; ready after the second fetch-dec, callback once -/
example : (brun true 2 [[.set 0], [.set 0, .get], [.set 0]] [0, 1, 0]).sh.compl = false ∧
    (brun true 2 [[.set 0], [.set 0, .get], [.set 0]] [0, 1, 0, 1, 2, 2, 1, 1]).sh.cb = 1 ∧
    finishedSets (brun true 2 [[.set 0], [.set 0, .get], [.set 0]] [0, 1, 0, 1, 2, 2, 1, 1]) = 3 := by decide +kernel

/-! ## Data-copy (reshape) future

`cfg.cls` is ANY class function (the match callback is `cls a = cls b`), `cfg.async` ANY choice of which shapes are
fulfilled by a deferred `set`; `b` the base future's shape; `pre` whether its creator completed it before sharing. -/
open ParsecVerif.FutureDC

/-- **C29 (trigger once).**  After ANY schedule, for the base future and every nested future: the fulfilment callback ran
    at most once, and exactly once iff the future is TRIGGERED. -/
theorem C29_trigger_once (cfg : Cfg) (b : Nat) (pre : Bool) (progs : List (List DOp)) (sched : List Nat) :
    ∀ fu ∈ (drun cfg b pre progs sched).futs, fu.cb ≤ 1 ∧ (fu.cb = 1 ↔ fu.trig = true) := by
  intro fu hfu
  have h := ((dminv_run cfg b pre progs sched).1.futs fu hfu).1
  cases ht : fu.trig <;> simp [ht] at h ⊢ <;> omega

/-- **C29 (nested futures).**  After ANY schedule the shape classes of the base future and of all nested futures are
    pairwise distinct: at most one nested future per shape class, and none that matches the base future. -/
theorem C29_nested_distinct (cfg : Cfg) (b : Nat) (pre : Bool) (progs : List (List DOp)) (sched : List Nat) :
    (((drun cfg b pre progs sched).futs.map (·.shape)).map cfg.cls).Nodup ∧
    ∀ (i j : Nat) (fi fj : Fut), (drun cfg b pre progs sched).futs[i]? = some fi → (drun cfg b pre progs sched).futs[j]? = some fj →
      cfg.cls fi.shape = cfg.cls fj.shape → i = j := by
  have h := (dminv_run cfg b pre progs sched).1.nodup
  refine ⟨h, ?_⟩
  intro i j fi fj hi hj hc
  refine (List.getElem?_inj (by simpa [shapes] using (Interleave.lt_of_getElem? hi)) h).1 ?_
  simp [shapes, hi, hj, hc]

/-- class of the future that serves request `r` (NULL spec: the base future) -/
def reqClass (cfg : Cfg) (s : DState) (r : Nat) : Nat := if r = 0 then cfg.cls (baseShape s) else cfg.cls r

/-- **C29 (values).**  After ANY schedule every finished `get_or_trigger(r)` returned NULL or the value a COMPLETED future of
    `r`'s class (the base future for a NULL spec) tracks, which is the value of that future's first (only) fulfilment. -/
theorem C29_dc_values (cfg : Cfg) (b : Nat) (pre : Bool) (progs : List (List DOp)) (sched : List Nat) :
    ∀ th ∈ (drun cfg b pre progs sched).thr, ∀ r v, (DOp.trig r, v) ∈ th.res →
      v = 0 ∨ ∃ f fu, (drun cfg b pre progs sched).futs[f]? = some fu ∧ fu.compl = true ∧ fu.data = v ∧ v = valOf 1 fu.shape ∧
        cfg.cls fu.shape = reqClass cfg (drun cfg b pre progs sched) r ∧ (r = 0 → f = 0) := by
  have h := (dminv_run cfg b pre progs sched).1
  generalize drun cfg b pre progs sched = s at h
  intro th hth r v hm
  by_cases h0 : v = 0
  · exact Or.inl h0
  · obtain ⟨f, fu, hfu, hc, hv, hd, hr0, hr1⟩ := valok_fut h ((h.thr th hth).2 r v hm) h0
    refine Or.inr ⟨f, fu, hfu, hc, hd, hv, ?_, hr0⟩
    unfold reqClass
    split
    next hr => cases hr0 hr; unfold baseShape; rw [hfu]
    next hr => exact hr1 hr

/-- **C29 (one value per class).**  After ANY schedule any two non-NULL answers to requests of the same class are equal. -/
theorem C29_dc_one_value_per_class (cfg : Cfg) (b : Nat) (pre : Bool) (progs : List (List DOp)) (sched : List Nat) :
    ∀ th1 ∈ (drun cfg b pre progs sched).thr, ∀ th2 ∈ (drun cfg b pre progs sched).thr, ∀ r1 v1 r2 v2,
      (DOp.trig r1, v1) ∈ th1.res → (DOp.trig r2, v2) ∈ th2.res → v1 ≠ 0 → v2 ≠ 0 →
      reqClass cfg (drun cfg b pre progs sched) r1 = reqClass cfg (drun cfg b pre progs sched) r2 → v1 = v2 := by
  intro th1 h1 th2 h2 r1 v1 r2 v2 hm1 hm2 hv1 hv2 hc
  rcases C29_dc_values cfg b pre progs sched th1 h1 r1 v1 hm1 with h0 | ⟨f1, fu1, hf1, -, -, hval1, hc1, -⟩
  · exact absurd h0 hv1
  rcases C29_dc_values cfg b pre progs sched th2 h2 r2 v2 hm2 with h0 | ⟨f2, fu2, hf2, -, -, hval2, hc2, -⟩
  · exact absurd h0 hv2
  have hff := (C29_nested_distinct cfg b pre progs sched).2 f1 f2 fu1 fu2 hf1 hf2 (by rw [hc1, hc2, hc])
  subst hff
  rw [hf1] at hf2
  cases hf2
  rw [hval1, hval2]

/-- **C29 (locks).**  After ANY schedule every future lock is held by at most one thread, and by exactly one iff it is taken.
    Who holds a lock is read off the park point (`holds`): for `f = 0` the holders are the threads parked inside the scan of
    the nested list or after creating a nested future (and those inside the base future's own trigger section).  So at most
    one thread is inside the scan at a time, and while one is the base lock is taken. -/
theorem C29_parent_lock_mutex (cfg : Cfg) (b : Nat) (pre : Bool) (progs : List (List DOp)) (sched : List Nat) (f : Nat) :
    nHold (drun cfg b pre progs sched) f ≤ 1 ∧
    (nHold (drun cfg b pre progs sched) f = 1 ↔ lockedOf (drun cfg b pre progs sched) f = true) := by
  have h := (dminv_run cfg b pre progs sched).2 f
  by_cases hl : lockedOf (drun cfg b pre progs sched) f = true
  · rw [if_pos hl] at h; simp [h, hl]
  · rw [if_neg hl] at h; simp [h, hl]

/-- non-vacuity: base shape 1, classes mod 4, synchronous fulfilment; two threads ask for shape 2 and one for shape 6
    (same class): one nested future, triggered once, all three get its value -/
example : ((drun ⟨fun x => x % 4, fun _ => false⟩ 1 false [[.trig 2], [.trig 6], [.trig 2, .trig 0]]
      [0, 1, 2, 0, 0, 0, 0, 1, 1, 2, 2, 2, 2, 2]).futs.map fun fu => (fu.shape, fu.cb, fu.data)) = [(1, 1, 101), (2, 1, 102)] ∧
    ((drun ⟨fun x => x % 4, fun _ => false⟩ 1 false [[.trig 2], [.trig 6], [.trig 2, .trig 0]]
      [0, 1, 2, 0, 0, 0, 0, 1, 1, 2, 2, 2, 2, 2]).thr.map (·.res)) =
      [[(.trig 2, 102)], [(.trig 6, 102)], [(.trig 2, 102), (.trig 0, 101)]] := by decide +kernel

/-- non-vacuity of the lock theorem: a thread parked inside the scan holds the base lock -/
example : nHold (drun ⟨fun x => x % 4, fun _ => true⟩ 1 false [[.trig 2], [.trig 3]] [0, 0, 0, 0, 0, 1, 1, 1]) 0 = 1 ∧
    lockedOf (drun ⟨fun x => x % 4, fun _ => true⟩ 1 false [[.trig 2], [.trig 3]] [0, 0, 0, 0, 0, 1, 1, 1]) 0 = true := by decide +kernel

end ParsecVerif.C29
