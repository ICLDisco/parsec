import ParsecVerif.Proofs.TpRegistry
import ParsecVerif.Base.Interleave
/-!
# C37 — taskpool identifiers resolve to the registered taskpool

"While a taskpool is registered, looking up its identifier returns it; after unregistration the
lookup returns nothing; identifiers reserved concurrently are distinct; and after identifier
synchronization all processes assign the same identifier to their next taskpool."

Clauses 1 and 2 hold for the histories whose identifiers come from `reserve_id` (`Disciplined`), by
simulation (`Sim`) of a plain finite map (`Spec`); without the discipline clause 1 is FALSE of the
code, and the bounds defects (DESIGN.md 5.7) are theorems about the model, replayed on the real code
(corpus/C37).  Clause 3 holds in EVERY history between two resets, since no call lowers `pos`
(`move_ids`); every interleaving of the thread machine `cstep` is the sequential history in
lock-acquisition order (`CInv`), which carries it over to threads.
-/
namespace ParsecVerif.C37
open ParsecVerif.TpRegistry

structure Spec where
  next : Nat                 -- ids 1..next have been handed out (or skipped by a synchronisation)
  tpid : List Nat            -- the taskpool_id field of every taskpool object
  live : Nat → Option Nat    -- id ↦ the taskpool currently registered under it

def Spec.init : Spec := ⟨0, List.replicate NH NOID, fun _ => none⟩

def specStep (sp : Spec) : Op → Spec × Out
  | .reserve h =>
    if h < sp.tpid.length then
      ({ sp with next := sp.next + 1, tpid := sp.tpid.set h (sp.next + 1) }, .rid (sp.next + 1))
    else (sp, .rejected)
  | .setid h v => if h < sp.tpid.length then ({ sp with tpid := sp.tpid.set h v }, .ok) else (sp, .rejected)
  | .register h =>
    match sp.tpid[h]? with
    | none => (sp, .rejected)
    | some id => ({ sp with live := fun i => if i = id then some h else sp.live i }, .reg id)
  | .unregister h =>
    match sp.tpid[h]? with
    | none => (sp, .rejected)
    | some id =>
      if sp.live id = some h then ({ sp with live := fun i => if i = id then none else sp.live i }, .ok)
      else (sp, .rejected)
  | .lookup id => (sp, match sp.live id with | some h => .tp h | none => .null)
  | .lookupOwn h =>
    match sp.tpid[h]? with
    | none => (sp, .rejected)
    | some id => (sp, match sp.live id with | some t => .tp t | none => .null)
  | .sync others => ({ sp with next := max sp.next others }, .ok)
  | .fini => ({ sp with next := 0, live := fun _ => none }, .ok)

def specRun : Spec → List Op → Spec
  | sp, [] => sp
  | sp, op :: ops => specRun (specStep sp op).1 ops

def specOuts : Spec → List Op → List Out
  | _, [] => []
  | sp, op :: ops => (specStep sp op).2 :: specOuts (specStep sp op).1 ops

/-- The id discipline: the application never writes `taskpool_id` itself, a taskpool is registered
    under an id in `1..next` (obtained from reserve_id, or skipped by a synchronisation), and id 0 —
    which reserve_id never returns — is not looked up. -/
def OpOK (sp : Spec) : Op → Prop
  | .setid _ _ => False
  | .register h => ∀ id, sp.tpid[h]? = some id → 1 ≤ id ∧ id ≤ sp.next
  | .lookup id => 1 ≤ id
  | _ => True

def Disciplined : Spec → List Op → Prop
  | _, [] => True
  | sp, op :: ops => OpOK sp op ∧ Disciplined (specStep sp op).1 ops

structure Sim (s : St) (sp : Spec) : Prop where
  alive : s.dead = false
  reg : Refines s.reg sp.next sp.live
  tpid : s.tpid = sp.tpid
  -- a `taskpool_id` field holds `NOID` (= 2^32 - 1) or an id `reserve_id` returned, never 0: this is why
  -- `OpOK` asks nothing of `unregister` and `lookupOwn`, which read cell `taskpool_id`
  ids : ∀ v ∈ sp.tpid, 1 ≤ v

theorem sim_init : Sim St.init Spec.init :=
  ⟨rfl, .init, rfl, fun v hv => by rw [List.eq_of_mem_replicate hv]; decide⟩

theorem sim_lookup {s : St} {sp : Spec} (h : Sim s sp) {id : Nat} (h1 : 1 ≤ id) :
    Sim { s with dead := decide (lookupReg s.reg id = .crash) } sp ∧
    lookupReg s.reg id = (match sp.live id with | some t => Out.tp t | none => Out.null) := by
  have hl := h.reg.lookup h1
  refine ⟨⟨?_, h.reg, h.tpid, h.ids⟩, hl⟩
  rw [hl]
  cases sp.live id <;> rfl

theorem sim_step (s : St) (sp : Spec) (op : Op) (h : Sim s sp) (hok : OpOK sp op) :
    Sim (step s op).1 (specStep sp op).1 ∧ (step s op).2 = (specStep sp op).2 := by
  have h1 : ∀ {t id}, sp.tpid[t]? = some id → 1 ≤ id := fun e => h.ids _ (List.mem_of_getElem? e)
  rw [step, if_neg (Bool.eq_false_iff.1 h.alive)]
  cases op with
  | reserve t =>
    simp only [stepLive, specStep, h.tpid, h.reg.pos]
    split
    · exact ⟨⟨h.alive, h.reg.reserve, rfl, fun v hv =>
        (List.mem_or_eq_of_mem_set hv).elim (h.ids v) (· ▸ Nat.le_add_left ..)⟩, rfl⟩
    · exact ⟨h, rfl⟩
  | setid t v => exact hok.elim
  | register t =>
    simp only [stepLive, specStep, h.tpid]
    cases hid : sp.tpid[t]? with
    | none => exact ⟨h, rfl⟩
    | some idx =>
      obtain ⟨r', hr, hreg'⟩ := h.reg.register (hok idx hid).1 (hok idx hid).2 t
      simp only [hr, and_true]
      exact ⟨h.alive, hreg', rfl, h.ids⟩
  | unregister t =>
    simp only [stepLive, specStep, h.tpid]
    cases hid : sp.tpid[t]? with
    | none => exact ⟨h, rfl⟩
    | some idx =>
      simp only [h.reg.canUnregister_iff (h1 hid) t]
      split
      · exact ⟨⟨h.alive, h.reg.unregister idx, rfl, h.ids⟩, rfl⟩
      · exact ⟨h, rfl⟩
  | lookup id => exact sim_lookup h hok
  | lookupOwn t =>
    simp only [stepLive, specStep, ← h.tpid]
    cases hid : s.tpid[t]? with
    | none => exact ⟨h, rfl⟩
    | some id => exact sim_lookup h (h1 (h.tpid ▸ hid))
  | sync others =>
    simp only [stepLive, specStep, h.reg.pos, and_true]
    exact ⟨h.alive, h.reg.sync (Nat.le_max_left ..), h.tpid, h.ids⟩
  | fini => exact ⟨⟨h.alive, .init, h.tpid, h.ids⟩, rfl⟩

theorem sim_run (ops : List Op) : ∀ (s : St) (sp : Spec), Sim s sp → Disciplined sp ops →
    Sim (runSt s ops) (specRun sp ops) ∧ runOuts s ops = specOuts sp ops := by
  induction ops with
  | nil => intro s sp h _; exact ⟨h, rfl⟩
  | cons op ops ih =>
    intro s sp h hd
    obtain ⟨h1, h2⟩ := sim_step s sp op h hd.1
    obtain ⟨h3, h4⟩ := ih _ _ h1 hd.2
    exact ⟨h3, by simp only [runOuts, specOuts, h2, h4]⟩

/-- **C37, clauses 1 and 2 (`_partial`: under the id discipline).**  In every history of
    reserve/register/unregister/lookup/sync/fini calls in which ids come from reserve_id, the real
    mechanism (array, growth, `id <= pos` test) never crashes and returns, call by call, exactly what
    a finite map returns: a lookup finds the taskpool registered under the id and not unregistered
    since, and nothing otherwise. -/
theorem refines_map_partial (ops : List Op) (h : Disciplined Spec.init ops) :
    runOuts St.init ops = specOuts Spec.init ops ∧ (runSt St.init ops).dead = false := by
  obtain ⟨h1, h2⟩ := sim_run ops St.init Spec.init sim_init h
  exact ⟨h2, h1.alive⟩

theorem lookup_spec_partial (ops : List Op) (h : Disciplined Spec.init ops) (id : Nat) (h1 : 1 ≤ id) :
    lookupReg (runSt St.init ops).reg id =
      (match (specRun Spec.init ops).live id with | some t => Out.tp t | none => Out.null) :=
  (sim_run ops St.init Spec.init sim_init h).1.reg.lookup h1

theorem lookup_registered_partial (ops : List Op) (h : Disciplined Spec.init ops) (id t : Nat) (h1 : 1 ≤ id)
    (hl : (specRun Spec.init ops).live id = some t) : lookupReg (runSt St.init ops).reg id = .tp t := by
  rw [lookup_spec_partial ops h id h1, hl]

theorem lookup_unregistered_partial (ops : List Op) (h : Disciplined Spec.init ops) (id : Nat) (h1 : 1 ≤ id)
    (hl : (specRun Spec.init ops).live id = none) : lookupReg (runSt St.init ops).reg id = .null := by
  rw [lookup_spec_partial ops h id h1, hl]

/-! non-vacuity: a disciplined history with growth, a hole, an unregistration, a sync and a reset -/
def demo : List Op :=
  [.reserve 0, .reserve 1, .register 1, .reserve 2, .register 0, .lookup 2, .unregister 1, .lookup 2,
   .sync 9, .reserve 3, .register 3, .lookup 10, .lookup 7, .fini, .lookup 1, .reserve 4]

example : Disciplined Spec.init demo := by
  simp only [demo, Disciplined, OpOK, specStep, Spec.init, NH, NOID]
  decide
example : runOuts St.init demo =
    [.rid 1, .rid 2, .reg 2, .rid 3, .reg 1, .tp 1, .ok, .null, .ok, .rid 10, .reg 10, .tp 3, .null, .ok, .null, .rid 1] := by
  decide

/-- clause 1 for arbitrary applications -/
def LookupRegisteredFull : Prop :=
  ∀ (ops : List Op) (id t : Nat), (runSt St.init ops).dead = false →
    (specRun Spec.init ops).live id = some t → lookupReg (runSt St.init ops).reg id = .tp t

/-- the application-chosen id 3 is beyond `pos = 1`: the taskpool is stored but not found -/
theorem lookup_registered_full_false : ¬ LookupRegisteredFull := by
  intro h
  have := h [.reserve 0, .setid 1 3, .register 1] 3 1 (by decide) (by decide)
  revert this
  decide

/-- the history of `lookup_registered_full_false` continued: the calls themselves succeed (`register`
    returns 3), the lookup finds nothing, and a later reservation hands id 3 out again, so that two
    taskpools share it -/
theorem caller_chosen_id_trace :
    runOuts St.init [.reserve 0, .setid 1 3, .register 1, .lookup 3, .reserve 2, .reserve 3, .lookup 3] =
      [.rid 1, .ok, .reg 3, .null, .rid 2, .rid 3, .tp 1] := by decide

/-- DESIGN 5.7: a lookup before the first reservation dereferences the NULL array -/
theorem lookup_before_first_reserve_crashes : runOuts St.init [.lookup 0] = [.crash] := by decide

/-- after the first reservation a lookup of id 0 reads cell 0, which nothing ever initialised -/
theorem lookup_zero_uninitialised : runOuts St.init [.reserve 0, .lookup 0] = [.rid 1, .junk] := by decide

/-- registering a taskpool whose id was never reserved (`taskpool_id = -1`) writes far outside the array -/
theorem register_unreserved_crashes : runOuts St.init [.register 0] = [.crash] := by decide

/-- DESIGN 5.7: `register` doubles the array once; an id ≥ 2·size is written out of bounds -/
theorem register_beyond_double_crashes :
    runOuts St.init [.reserve 0, .setid 1 4, .register 1] = [.rid 1, .ok, .crash] := by decide

def isSync : Op → Bool
  | .sync _ => true
  | _ => false

theorem move_ids {r r' : Reg} {op : Op} {ids : List Nat} (m : RegMove r op r' ids) (hop : op ≠ .fini) :
    (ids = [r.pos + 1] ∧ r'.pos = r.pos + 1) ∨
    (ids = [] ∧ r.pos ≤ r'.pos ∧ (isSync op = false → r'.pos = r.pos)) := by
  cases m with
  | skip => exact .inr ⟨rfl, Nat.le_refl _, fun _ => rfl⟩
  | reserve => exact .inl ⟨rfl, pos_reserveReg _⟩
  | register t hr =>
    have e : r'.pos = r.pos := by rw [registerReg_some hr, regGrown_eq]; rfl
    exact .inr ⟨rfl, Nat.le_of_eq e.symm, fun _ => e⟩
  | unregister t i =>
    have e : (unregisterReg r i).pos = r.pos := by rw [unregisterReg_eq]; rfl
    exact .inr ⟨rfl, Nat.le_of_eq e.symm, fun _ => e⟩
  | sync => exact .inr ⟨rfl, Nat.le_max_left .., nofun⟩
  | fini => exact absurd rfl hop

/-- **C37, clause 3 at call granularity.**  From ANY state and for EVERY history without a reset
    (any mix of calls, disciplined or not, even after a crash): the ids handed out by reserve_id
    are strictly increasing — hence pairwise distinct — and larger than every id handed out before. -/
theorem reserved_ids_increasing (ops : List Op) : ∀ (s : St), Op.fini ∉ ops →
    (reservedIds (runOuts s ops)).Pairwise (· < ·) ∧ ∀ i ∈ reservedIds (runOuts s ops), s.reg.pos < i := by
  induction ops with
  | nil => intro s _; simp [runOuts, reservedIds]
  | cons op ops ih =>
    intro s hnf
    obtain ⟨ih1, ih2⟩ := ih (step s op).1 (fun x => hnf (.tail _ x))
    rw [runOuts, reservedIds_cons]
    rcases move_ids (step_move s op) (fun x => hnf (x ▸ .head _)) with ⟨e, hp⟩ | ⟨e, hp, -⟩ <;> rw [e]
    · rw [hp] at ih2
      exact ⟨List.pairwise_cons.2 ⟨ih2, ih1⟩,
        List.forall_mem_cons.2 ⟨Nat.lt_succ_self _, fun j hj => Nat.lt_of_succ_lt (ih2 j hj)⟩⟩
    · exact ⟨ih1, fun j hj => Nat.lt_of_le_of_lt hp (ih2 j hj)⟩

theorem reserved_ids_nodup (ops : List Op) (s : St) (h : Op.fini ∉ ops) : (reservedIds (runOuts s ops)).Nodup :=
  (reserved_ids_increasing ops s h).1.imp (fun hab => Nat.ne_of_lt hab)

/-- in a history without reset and without synchronisation the ids handed out are exactly `pos+1, pos+2, …` in order, and `pos`
    advances by their number -/
theorem reserved_ids_consecutive (ops : List Op) : ∀ (s : St), Op.fini ∉ ops → (∀ op ∈ ops, isSync op = false) →
    reservedIds (runOuts s ops) = List.range' (s.reg.pos + 1) (reservedIds (runOuts s ops)).length ∧
    (runSt s ops).reg.pos = s.reg.pos + (reservedIds (runOuts s ops)).length := by
  induction ops with
  | nil => intro s _ _; simp [runOuts, runSt, reservedIds]
  | cons op ops ih =>
    intro s hnf hns
    obtain ⟨ih1, ih2⟩ := ih (step s op).1 (fun x => hnf (.tail _ x)) (fun o ho => hns o (.tail _ ho))
    rw [runOuts, runSt, reservedIds_cons]
    rcases move_ids (step_move s op) (fun x => hnf (x ▸ .head _)) with ⟨e, hp⟩ | ⟨e, -, hp⟩ <;> rw [e]
    · rw [hp] at ih1 ih2
      rw [List.singleton_append, List.length_cons, List.range'_succ, ← ih1]
      exact ⟨rfl, by omega⟩
    · rw [hp (hns op (.head _))] at ih1 ih2
      exact ⟨ih1, ih2⟩

example : reservedIds (runOuts St.init [.reserve 0, .setid 1 3, .register 1, .lookup 0, .reserve 2, .sync 20, .reserve 1]) = [1, 2, 21] := by
  decide

/-- after ANY history (application-chosen ids included) the registry is well formed: `NULL`/size 1/
    pos 0, or an array of exactly `size` cells with `pos < size` and only cell 0 uninitialised -/
theorem wf_always : ∀ (ops : List Op) (s : St), WF s.reg → WF (runSt s ops).reg
  | [], _, h => h
  | op :: ops, s, h => wf_always ops _ ((step_move s op).wf h)

/-- in a well-formed registry, hence by `wf_always` after any history, a lookup can only crash on id 0
    before the first allocation (it never reads beyond the array), and can only return uninitialised
    storage for id 0 -/
theorem lookup_crash_iff (r : Reg) (id : Nat) (h : WF r) :
    (lookupReg r id = .crash ↔ r.arr = none ∧ id = 0) ∧ (lookupReg r id = .junk → id = 0) := by
  rw [lookupReg_eq]
  rcases WF_cases h with ⟨ha, -, hp⟩ | ⟨a, ha, hl, hp, hj⟩
  · simp only [cell, ha, hp, Nat.le_zero]
    split <;> simp [*]
  · simp only [cell_of_arr ha, ha]
    split
    · have hlt : id < a.length := by omega
      have hj := hj id
      rw [List.getElem?_eq_getElem hlt] at hj ⊢
      cases hc : a[id] <;> simp [hc] at hj ⊢
      omega
    · simp

/-- **C37, clause 4.**  Any number of processes in arbitrary (well-formed) registry states run the
    collective: afterwards every process is well formed, has `pos` = the maximum over all processes,
    and its next reserve_id therefore returns the same id `max + 1` everywhere. -/
theorem sync_same_next_id (rs : List Reg) (hw : ∀ r ∈ rs, WF r) (r : Reg) (hr : r ∈ syncAll rs) :
    WF r ∧ r.pos = maxPos rs ∧ (reserveReg r).pos = maxPos rs + 1 ∧ WF (reserveReg r) := by
  obtain ⟨r0, h0, rfl⟩ := List.mem_map.1 hr
  have hwf := WF_sync (hw r0 h0) (maxPos rs)
  exact ⟨hwf, rfl, pos_reserveReg _, WF_reserve hwf⟩

/-- clause 4 for processes that got where they are by ARBITRARY histories, phrased with the values
    returned by the next reserve_id calls of two of them -/
theorem sync_next_reserve_agrees (hs : List (List Op)) (s1 s2 : St) (t1 t2 : Nat)
    (h1 : s1.reg ∈ syncAll (hs.map (fun ops => (runSt St.init ops).reg)))
    (h2 : s2.reg ∈ syncAll (hs.map (fun ops => (runSt St.init ops).reg)))
    (hd1 : s1.dead = false) (hd2 : s2.dead = false) (ht1 : t1 < s1.tpid.length) (ht2 : t2 < s2.tpid.length) :
    (step s1 (.reserve t1)).2 = (step s2 (.reserve t2)).2 ∧
    (step s1 (.reserve t1)).2 = .rid (maxPos (hs.map (fun ops => (runSt St.init ops).reg)) + 1) ∧
    WF (step s1 (.reserve t1)).1.reg := by
  have hw : ∀ r ∈ hs.map (fun ops => (runSt St.init ops).reg), WF r :=
    List.forall_mem_map.2 fun ops _ => wf_always ops St.init WF_init
  have a1 := sync_same_next_id _ hw _ h1
  rw [step_reserve hd1 ht1, step_reserve hd2 ht2, a1.2.1, (sync_same_next_id _ hw _ h2).2.1]
  exact ⟨rfl, rfl, (step_move ..).wf a1.1⟩

/-- the synchronisation loses nothing registered and makes nothing appear; `Clean` stands for the id
    discipline -/
theorem sync_preserves_lookup (r : Reg) (m id : Nat) (hw : WF r) (hc : Clean r) (hm : r.pos ≤ m) (h1 : 1 ≤ id) :
    lookupReg (syncReg r m) id = lookupReg r id := by
  -- `r` represents its own slots as a map, and the synchronisation keeps the map
  have hr := Refines.of_clean hw hc
  rw [(hr.sync hm).lookup h1, hr.lookup h1]

/-! non-vacuity: three processes with different histories (one never reserved anything) -/
example : (syncAll [(runSt St.init [.reserve 0, .reserve 1, .register 1, .reserve 2, .reserve 3, .reserve 4]).reg,
                    (runSt St.init [.reserve 0, .register 0]).reg, Reg.init]).map (fun r => (r.pos, r.size, lookupReg r 2, lookupReg r 1)) =
    [(5, 8, .tp 1, .null), (5, 8, .null, .tp 0), (5, 8, .null, .null)] := by decide

def progOf (progs : List (List Op)) (t : Nat) : List Op := progs[t]?.getD []

/-- calls performed, i.e. whose critical section was entered -/
def progress (prog : List Op) : Pc → Nat
  | .start => 0
  | .atLock k => k
  | .inCS k => k + 1
  | .done => prog.length

def opsOf (s : CState) (t : Nat) : List Op := (s.lin.filter (fun e => e.tid == t)).map (·.op)

def isInCS : Pc → Bool
  | .inCS _ => true
  | _ => false

/-- invariant of the thread machine, with the ghost list `lin` as the sequential history -/
structure CInv (progs : List (List Op)) (s0 : St) (s : CState) : Prop where
  lin_state : runSt s0 (s.lin.map (·.op)) = s.st
  lin_outs : runOuts s0 (s.lin.map (·.op)) = s.lin.map (·.out)
  lin_ops : ∀ e ∈ s.lin, e.op ∈ progOf progs e.tid
  order : ∀ t pc, s.pcs[t]? = some pc → opsOf s t = (progOf progs t).take (progress (progOf progs t) pc)
  mutex : s.pcs.countP isInCS = if s.lock then 1 else 0

theorem cinv_init (progs : List (List Op)) (s0 : St) (n : Nat) : CInv progs s0 (cinit s0 n) := by
  refine ⟨rfl, rfl, fun _ he => (nomatch he), fun t pc h => ?_, ?_⟩
  · cases List.eq_of_mem_replicate (List.mem_of_getElem? h)
    rfl
  · simp [cinit, List.countP_replicate, isInCS]

theorem take_nextPc (prog : List Op) (k : Nat) : prog.take (progress prog (nextPc prog k)) = prog.take k := by
  unfold nextPc
  split
  · rfl
  · rw [progress, List.take_of_length_le (Nat.le_refl _), List.take_of_length_le (by omega)]

theorem isInCS_nextPc (prog : List Op) (k : Nat) : isInCS (nextPc prog k) = false := by
  unfold nextPc; split <;> rfl

theorem opsOf_snoc {s s' : CState} {e : Ev} (h : s'.lin = s.lin ++ [e]) (u : Nat) :
    opsOf s' u = opsOf s u ++ if e.tid = u then [e.op] else [] := by
  unfold opsOf
  rw [h, List.filter_append, List.map_append]
  by_cases hu : e.tid = u <;> simp [hu]

theorem cinv_step (progs : List (List Op)) (s0 : St) (s : CState) (t : Nat) (h : CInv progs s0 s) :
    CInv progs s0 (cstep progs s t) := by
  unfold cstep
  cases hpc : s.pcs[t]? with
  | none => exact h
  | some pc =>
    obtain ⟨hi, hx⟩ := getElem_of_getElem? hpc
    have hord := h.order t pc hpc
    cases pc with
    | start | inCS k =>
      -- either way the thread is parked at `nextPc`, outside the critical section, and `lin` stays
      refine ⟨h.lin_state, h.lin_outs, h.lin_ops,
        Interleave.forall_getElem?_set (hord.trans (take_nextPc ..).symm) fun u pc _ => h.order u pc, ?_⟩
      show List.countP isInCS (s.pcs.set t _) = _
      rw [List.countP_set hi, hx, isInCS_nextPc, h.mutex]
      cases s.lock <;> rfl
    | atLock k =>
      dsimp only
      split
      · exact h
      · cases hop : (progs[t]?.getD [])[k]? with
        | none => exact h
        | some op =>
          -- the successful CAS runs the call and appends its event to `lin`: the sequential run is
          -- extended by that call, and only the calls of thread `t` in `lin` grow, by `prog[k]`
          refine ⟨?_, ?_, List.forall_mem_append.2 ⟨h.lin_ops, List.forall_mem_singleton.2 (List.mem_of_getElem? hop)⟩,
            Interleave.forall_getElem?_set ?_ fun u pc hu hpc => ?_, ?_⟩
          · rw [List.map_append, runSt_append, h.lin_state]
            rfl
          · rw [List.map_append, List.map_append, runOuts_append, h.lin_state, h.lin_outs]
            rfl
          · rw [opsOf_snoc rfl, if_pos rfl, hord, progress, progress, List.take_add_one, progOf, hop]
            rfl
          · rw [opsOf_snoc rfl, if_neg hu.symm, List.append_nil]
            exact h.order u pc hpc
          · show List.countP isInCS (s.pcs.set t _) = _
            rw [List.countP_set hi, hx, h.mutex, if_neg ‹_›]
            rfl
    | done => exact h

theorem cinv_run (progs : List (List Op)) (s0 : St) :
    ∀ (sched : List Nat) (s : CState), CInv progs s0 s → CInv progs s0 (crun progs s sched)
  | [], _, h => h
  | t :: ts, s, h => cinv_run progs s0 ts _ (cinv_step progs s0 s t h)

def final (progs : List (List Op)) (s0 : St) (sched : List Nat) : CState :=
  crun progs (cinit s0 progs.length) sched

theorem cinv_final (progs : List (List Op)) (s0 : St) (sched : List Nat) : CInv progs s0 (final progs s0 sched) :=
  cinv_run progs s0 sched _ (cinv_init progs s0 _)

theorem CInv.mem_prog {progs : List (List Op)} {s0 : St} {s : CState} (h : CInv progs s0 s) {op : Op}
    (hm : op ∈ s.lin.map (·.op)) : ∃ p ∈ progs, op ∈ p := by
  obtain ⟨e, he, rfl⟩ := List.mem_map.1 hm
  have hin := h.lin_ops e he
  rw [progOf] at hin
  cases hp : progs[e.tid]? <;> rw [hp] at hin
  · cases hin
  · exact ⟨_, List.mem_of_getElem? hp, hin⟩

/-- **Every interleaving is a sequential history.**  For all thread programs, all initial states
    and ALL schedules (lists of thread ids, one entry per atomic step, failed lock attempts
    included): the shared registry and every result obtained are those of executing the calls one
    after the other in the order `lin` in which they acquired the lock; `lin` contains, for every
    thread, exactly the calls the thread has performed so far, in program order (so when all
    threads are done it is an interleaving of the complete programs). -/
theorem interleaving_linearizes (progs : List (List Op)) (s0 : St) (sched : List Nat) :
    runSt s0 ((final progs s0 sched).lin.map (·.op)) = (final progs s0 sched).st ∧
    runOuts s0 ((final progs s0 sched).lin.map (·.op)) = (final progs s0 sched).lin.map (·.out) ∧
    ∀ t pc, (final progs s0 sched).pcs[t]? = some pc →
      opsOf (final progs s0 sched) t = (progOf progs t).take (progress (progOf progs t) pc) := by
  have h := cinv_final progs s0 sched
  exact ⟨h.lin_state, h.lin_outs, h.order⟩

/-- the lock word is set exactly while one thread is between its successful CAS and its fence -/
theorem mutual_exclusion (progs : List (List Op)) (s0 : St) (sched : List Nat) :
    (final progs s0 sched).pcs.countP isInCS = if (final progs s0 sched).lock then 1 else 0 :=
  (cinv_final ..).mutex

/-- **C37, clause 3.**  Threads concurrently performing any calls except the reset: under EVERY
    interleaving, the ids handed out by reserve_id (listed in lock-acquisition order, over all
    threads) are strictly increasing, hence pairwise distinct, and all above the ids handed out
    before the threads started. -/
theorem concurrent_reserved_distinct (progs : List (List Op)) (s0 : St) (sched : List Nat)
    (hnf : ∀ p ∈ progs, Op.fini ∉ p) :
    (reservedIds ((final progs s0 sched).lin.map (·.out))).Pairwise (· < ·) ∧
    (reservedIds ((final progs s0 sched).lin.map (·.out))).Nodup ∧
    ∀ i ∈ reservedIds ((final progs s0 sched).lin.map (·.out)), s0.reg.pos < i := by
  have h := cinv_final progs s0 sched
  have := reserved_ids_increasing _ s0 fun hm => let ⟨p, hp, hin⟩ := h.mem_prog hm; hnf p hp hin
  rw [h.lin_outs] at this
  exact ⟨this.1, this.1.imp Nat.ne_of_lt, this.2⟩

/-- Threads concurrently performing any calls except the reset and the synchronisation: under every
    interleaving the ids handed out so far are exactly the next ones after those handed out before
    the threads started, each once (e.g. n threads each reserving one id obtain, in lock order,
    `pos+1 … pos+n`). -/
theorem concurrent_reserved_consecutive (progs : List (List Op)) (s0 : St) (sched : List Nat)
    (hnf : ∀ p ∈ progs, ∀ op ∈ p, op ≠ .fini ∧ isSync op = false) :
    reservedIds ((final progs s0 sched).lin.map (·.out)) =
      List.range' (s0.reg.pos + 1) (reservedIds ((final progs s0 sched).lin.map (·.out))).length ∧
    (final progs s0 sched).st.reg.pos = s0.reg.pos + (reservedIds ((final progs s0 sched).lin.map (·.out))).length := by
  have h := cinv_final progs s0 sched
  have hall : ∀ op ∈ (final progs s0 sched).lin.map (·.op), op ≠ .fini ∧ isSync op = false :=
    fun op hm => let ⟨p, hp, hin⟩ := h.mem_prog hm; hnf p hp op hin
  have := reserved_ids_consecutive _ s0 (fun hm => (hall _ hm).1 rfl) (fun op hm => (hall op hm).2)
  rwa [h.lin_outs, h.lin_state] at this

/-! non-vacuity: three threads; the CAS of thread 1 fails twice while thread 0 owns the lock, thread 2 spins too -/
def demoProgs : List (List Op) := [[.reserve 0, .register 0], [.reserve 1, .lookup 1], [.reserve 2]]
def demoSched : List Nat := [0, 1, 0, 1, 1, 2, 0, 1, 2, 1, 0, 2, 1, 0, 1, 0, 2, 1, 2, 2]

example : ((final demoProgs St.init demoSched).lin.map (fun e => (e.tid, e.out))) =
    [(0, .rid 1), (1, .rid 2), (0, .reg 1), (1, .tp 0), (2, .rid 3)] ∧
    (final demoProgs St.init demoSched).pcs = [.done, .done, .done] := by decide

end ParsecVerif.C37
