/-
  C27 — arenas and memory pools never hand out a block twice.

  "Blocks obtained from an arena or a thread memory pool are aligned as requested, at least as large
  as asked, and never handed to a second owner before being released; an arena with an allocation
  limit refuses allocations beyond it and keeps at most its cache limit of released blocks."

  Model: `Model/Arena.lean` — parsec/arena.c (`parsec_arena_allocate_device_private`,
  `parsec_arena_get_chunk`, `parsec_arena_release_chunk`, `parsec_arena_construct_ex`, the
  `PARSEC_ALIGN` arithmetic) as a concurrent machine with one transition per shared-memory action,
  for ANY number of threads, ANY programs of allocations (any counts) and releases, ANY set of
  failing `data_malloc` calls and EVERY schedule; parsec/mempool.{c,h} as per-owner stacks.

  Explicit hypotheses of the model (see the header of the model file):
  * H-LIFO: a LIFO push / pop is one atomic stack operation.  This is property C30
    (`ParsecVerif.C30.C30_linearizable`: parsec_lifo_t is linearizable for every schedule);
  * H-MALLOC: `data_malloc` returns storage that is not in use (fresh chunk identifiers);
  * H-INT: `used` and `released` do not wrap (unbounded integers in the model, int32_t in the code); for the
    address arithmetic the hypotheses are `h1`, `h2` of `C27_aligned_sized`;
  * sequentially consistent interleaving of the atomic operations.

  The last clause of the property ("keeps at most its cache limit") is FALSE of the code under
  concurrency: `parsec_arena_release_chunk` tests `released < max_released` and increments afterwards.
  `C27_cache_full_false` is a kernel-checked witness (replayed on the real code by the check,
  corpus/C27/001); the parts that are true are `C27_cache_seq` (sequential use: bound exact) and
  `C27_cache_conc_partial` (all schedules: bound + threads − 1, which the witness shows to be reached).
-/
import ParsecVerif.Proofs.ArenaStep
import ParsecVerif.Proofs.ArenaLayout
import ParsecVerif.Proofs.ArenaPool

namespace ParsecVerif.C27
open ParsecVerif.Arena

/-- in every prefix in time of the trace (a suffix: newest first) the events of chunk `x` alternate `got`, `rel`, `got`, … -/
def TraceOK (tr : List Ev) : Prop :=
  ∀ x p, p <:+ tr → rels x p ≤ gots x p ∧ gots x p ≤ rels x p + 1

theorem traceOK_step {cfg : Cfg} {s : State} (hi : Inv cfg s) (ht : TraceOK s.trace) (t : Nat) :
    TraceOK (step cfg s t).trace := by
  rcases trace_step' cfg s t with h | ⟨e, h⟩
  · rw [h]; exact ht
  · intro x p hp
    rw [h] at hp
    rcases List.suffix_cons_iff.1 hp with hp | hp
    · subst hp
      rw [← h]
      -- `Inv.tr` of the new state: #got = #rel + #holders, and a chunk has at most one holder
      have h1 := (hi.step t).tr x
      have h2 := (hi.step t).held_le_one x
      omega
    · exact ht x p hp

/-- **Exclusive ownership**.  (1) In every reachable state a chunk is in at most one place among: the arena's cache,
    the chunks held by each thread, the chunk a thread is in the middle of allocating or releasing.
    (2) In the history, between two allocations that return the same chunk there is a release of it
    (and a chunk is never released more often than it was returned). -/
theorem C27_unique_owner (cfg : Cfg) (progs : List (List Op)) (sched : List Nat) :
    (∀ x, total (ind x) (run cfg progs sched) ≤ 1) ∧ TraceOK (run cfg progs sched).trace := by
  refine ⟨fun x => (Inv.run cfg progs sched).places_le_one x, ?_⟩
  refine (Interleave.foldl_inv (P := fun s => Inv cfg s ∧ TraceOK s.trace)
    (fun s t ⟨hi, ht⟩ => ⟨hi.step t, traceOK_step hi ht t⟩) sched ⟨Inv.init cfg progs, fun x p hp => ?_⟩).2
  have : p = [] := by simpa [Arena.init] using hp
  subst this
  simp [gots, rels]

/-- conservation: what `data_malloc` produced is, counted with any weight, exactly what is cached,
    held, in flight or given back to `data_free` -/
theorem C27_conservation (cfg : Cfg) (progs : List (List Op)) (sched : List Nat) (g : Chunk → Nat) :
    total g (run cfg progs sched) + csum g (run cfg progs sched).died = csum g (run cfg progs sched).born :=
  (Inv.run cfg progs sched).ghost g

/-- **Layout**: for a power-of-two alignment and any chunk address (no 64-bit wrap-around), the data
    pointer computed by `parsec_arena_allocate_device_private` is aligned, lies behind the chunk
    header, and `count` elements fit before the end of the `chunkSize` bytes requested from the
    allocator. -/
theorem C27_aligned_sized (L : Layout) (k : Nat) (ha : L.align = 2 ^ k) (chunk count : Nat)
    (h1 : chunk + L.hdr + (2 ^ k - 1) < 2 ^ 64)
    (h2 : L.elem * count + L.align + L.hdr + (2 ^ k - 1) < 2 ^ 64) :
    dataAddr L chunk % L.align = 0 ∧ chunk + L.hdr ≤ dataAddr L chunk ∧
    dataAddr L chunk + L.elem * count ≤ chunk + chunkSize L count := by
  unfold dataAddr chunkSize
  rw [ha] at h2 ⊢
  have s1 := alignUp_spec (chunk + L.hdr) k h1
  have s2 := alignUp_spec (L.elem * count + 2 ^ k + L.hdr) k h2
  have hpos : 0 < 2 ^ k := Nat.two_pow_pos k
  generalize L.elem * count = m at *
  generalize 2 ^ k = a at *
  refine ⟨s1.1, s1.2.1, ?_⟩
  omega

/-- every alignment accepted by `parsec_arena_construct_ex` is a power of two 2^k with k ≥ 1 (so the
    hypothesis of `C27_aligned_sized` holds for every constructed arena), the element size is not 0 and
    the two limits are the memory limits divided by the element size, capped at INT32_MAX = "no limit" -/
theorem C27_construct_pow2 (elem align maxMem maxCached mu mr : Nat)
    (h : construct elem align maxMem maxCached = some (mu, mr)) :
    (∃ k, 1 ≤ k ∧ align = 2 ^ k) ∧ 0 < elem ∧ mu = min (maxMem / elem) INF ∧ mr = min (maxCached / elem) INF := by
  unfold construct at h
  split at h
  · cases h
  · next h1 =>
    split at h
    · cases h
    · next h2 =>
      obtain ⟨rfl, rfl⟩ := Prod.mk.inj (Option.some.inj h)
      have h3 : ¬ align ≤ 1 := fun x => h1 (.inl x)
      have h4 : align &&& (align - 1) = 0 := Decidable.not_not.1 fun e => h1 (.inr e)
      obtain ⟨k, hk⟩ := pow2_of_and align (by omega) h4
      refine ⟨⟨k, ?_, hk⟩, by omega, by split <;> omega, by split <;> omega⟩
      cases k with
      | zero => rw [hk] at h3; exact absurd (Nat.le_refl 1) h3
      | succ k => omega

/-- the chunk an allocation of `req` elements returns was sized for `req` elements (a cached chunk is
    only reused for single-element requests and only single-element chunks are cached) -/
theorem C27_block_fits_request (cfg : Cfg) (progs : List (List Op)) (sched : List Nat) :
    (∀ th ∈ (run cfg progs sched).thr, ∀ req c fresh, Res.got req c fresh ∈ th.out → c.count = req) ∧
    (∀ c ∈ (run cfg progs sched).cache, c.count = 1) := by
  have h := Inv.run cfg progs sched
  refine ⟨fun th hth req c fresh hr => ?_,
    fun c hc => badReq_zero (csum_eq_zero bad _ (Nat.eq_zero_of_add_eq_zero_right h.ones) c hc)⟩
  have h1 : ob th = 0 := List.sum_eq_zero_iff_forall_eq_nat.1 h.outs _ (List.mem_map_of_mem hth)
  exact badReq_zero (List.sum_eq_zero_iff_forall_eq_nat.1 h1 _ (List.mem_map_of_mem hr))

/-- **Limit**: with `max_used = L` (a limit is set), in every reachable state the elements of all
    chunks in existence — held by threads, in flight, or cached — number at most `L`; in particular
    at most `L` elements are outstanding.  (`used` itself may exceed `L` transiently: it also counts
    the increments of allocations that are being refused.  A chunk that is being freed leaves the
    count at the decrement of `used`, i.e. just before `data_free` is called on it: the model makes
    that plain call part of the same transition.) -/
theorem C27_limit (cfg : Cfg) (progs : List (List Op)) (sched : List Nat) (hl : cfg.maxUsed ≠ INF) :
    total cnt (run cfg progs sched) ≤ cfg.maxUsed ∧
    tsum (fun th => csum cnt th.held) (run cfg progs sched).thr ≤ cfg.maxUsed ∧
    (run cfg progs sched).used = ((total cnt (run cfg progs sched) + tsum tpend (run cfg progs sched).thr : Nat) : Int) := by
  have h := Inv.run cfg progs sched
  exact ⟨h.u2 hl, Nat.le_trans (held_le_total cnt _) (h.u2 hl), by have := h.u1 hl; omega⟩

/-- **Sequential use** (operations run one after the other, by any threads): the cache never holds
    more than `max_released` chunks and `released` counts them exactly. -/
theorem C27_cache_seq (cfg : Cfg) (progs : List (List Op)) (ts : List Nat) (hl : cfg.maxRel ≠ INF) :
    (runOps cfg (init progs) ts).cache.length ≤ cfg.maxRel ∧
    (runOps cfg (init progs) ts).released = ((runOps cfg (init progs) ts).cache.length : Int) := by
  have h := (Quiet.runOps hl ts (Quiet.init cfg progs)).rel
  omega

/-- one-operation-at-a-time use (`runOps`) is `run` under some schedule, so the all-schedule theorems cover sequential use -/
theorem C27_seq_is_schedule (cfg : Cfg) (progs : List (List Op)) (ts : List Nat) :
    ∃ sched, runOps cfg (init progs) ts = run cfg progs sched :=
  runOps_sched cfg ts (init progs)

/-- the clause of the property statement, at full strength -/
def CacheBoundFull : Prop :=
  ∀ (cfg : Cfg) (progs : List (List Op)) (sched : List Nat), cfg.maxRel ≠ INF →
    (run cfg progs sched).cache.length ≤ cfg.maxRel

/-- **All schedules** (the part of the cache clause that is true under concurrency): the cache holds
    at most `max_released + (threads − 1)` chunks, and `released` is never below the cache length. -/
theorem C27_cache_conc_partial (cfg : Cfg) (progs : List (List Op)) (sched : List Nat) (hl : cfg.maxRel ≠ INF) :
    (run cfg progs sched).cache.length ≤ cfg.maxRel + (progs.length - 1) ∧
    ((run cfg progs sched).cache.length : Int) ≤ (run cfg progs sched).released := by
  have h := Inv.run cfg progs sched
  have h1 := h.i1 hl
  have h2 := h.i2 hl
  rw [length_run] at h2
  omega

def witnessCfg : Cfg := ⟨⟨8, 8, 48⟩, INF, 1, []⟩
def witnessProgs : List (List Op) := [[.alloc 1, .release 0], [.alloc 1, .release 0]]
/-- both threads allocate, both pass the test `released (0) < max_released (1)`, then both increment and push -/
def witnessSched : List Nat := [0, 1, 0, 1, 0, 0, 1, 1]

/-- **The full cache clause is false of the code**: two threads, `max_released = 1`, two chunks cached. -/
theorem C27_cache_full_false : ¬ CacheBoundFull := by
  intro h
  have := h witnessCfg witnessProgs witnessSched (by decide)
  revert this
  decide

/-- the concurrent bound is reached: 3 threads, `max_released = 1`, 3 = 1 + (3 − 1) chunks cached -/
theorem C27_cache_conc_tight :
    (run witnessCfg [[.alloc 1, .release 0], [.alloc 1, .release 0], [.alloc 1, .release 0]]
      [0, 1, 2, 0, 1, 2, 0, 0, 1, 1, 2, 2]).cache.length = 3 := by
  decide

/-- **Memory pools**, every number of pools and every sequence of allocations (by any thread from its
    own pool) and frees (by any thread): an element is in at most one place (some pool, or the hands of
    a caller); elements in pool `t` carry owner `t`; what an allocation by `t` returns is in nobody's
    hands, carries owner `t` and is then allocated; the element size is at least what was asked and at
    least a list item. -/
theorem C27_mempool (n : Nat) (ops : List Pool.POp) :
    (∀ x, Pool.places x (Pool.prun (Pool.pinit n) ops) ≤ 1) ∧
    (∀ (t : Nat) (p : List Pool.Elt), (Pool.prun (Pool.pinit n) ops).pools[t]? = some p → ∀ e ∈ p, e.owner = t) ∧
    (∀ t e fresh, (Pool.pstep (Pool.prun (Pool.pinit n) ops) (.alloc t)).2 = .got e fresh →
        Pool.lsum (Pool.eid e.id) (Pool.prun (Pool.pinit n) ops).out = 0 ∧ e.owner = t ∧
        e ∈ (Pool.pstep (Pool.prun (Pool.pinit n) ops) (.alloc t)).1.out) ∧
    (∀ asked item, asked ≤ Pool.eltSize asked item ∧ item ≤ Pool.eltSize asked item) := by
  have h := Pool.PInv.run n ops
  refine ⟨h.uniq, h.poolOwner, fun t e fresh hr => Pool.alloc_spec h t e fresh hr, fun asked item => ?_⟩
  unfold Pool.eltSize
  split <;> omega

/-- a limited arena (2 elements) with 3 threads: a reachable state with the limit reached (two chunks
    held) and one refused allocation in flight (`used` = 3 > 2) -/
example : let s := run ⟨⟨8, 8, 48⟩, 2, 1, []⟩ [[.alloc 1, .release 0], [.alloc 1], [.alloc 1]] [0, 0, 1, 1, 2, 2]
    total cnt s = 2 ∧ s.used = 3 ∧ s.trace.length = 2 := by decide

/-- chunk 0 is cached and returned a second time (`C27_unique_owner` (2)); the `alloc 3`, whose `data_malloc` fails,
    leaves no event -/
example : (run ⟨⟨8, 8, 48⟩, 4, 1, [1]⟩ [[.alloc 1, .release 0, .alloc 3, .alloc 1]] [0, 0, 0, 0, 0, 0, 0, 0, 0, 0]).trace = [.got 0 0, .rel 0 0, .got 0 0] := by decide

/-- 4104 + 48 = 4152 and 300 + 64 + 48 = 412, each rounded up to a multiple of 64 -/
example : dataAddr ⟨100, 64, 48⟩ 4104 = 4160 ∧ chunkSize ⟨100, 64, 48⟩ 3 = 448 := by decide

/-- the programs of the witness, run one operation at a time (`C27_cache_seq`) -/
example : (runOps witnessCfg (init witnessProgs) [0, 1, 0, 1]).cache.length = 1 := by decide

example : (Pool.prun (Pool.pinit 2) [.alloc 0, .alloc 1, .free 0, .alloc 0, .free 1, .free 0]).pools = [[⟨0, 0⟩], [⟨1, 1⟩]] := by decide

end ParsecVerif.C27
