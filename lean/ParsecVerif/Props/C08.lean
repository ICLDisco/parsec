import ParsecVerif.Model.Sched.All
import ParsecVerif.Proofs.Sched.Simple
import ParsecVerif.Proofs.Sched.Lifo
import ParsecVerif.Proofs.Sched.LlpConc
import ParsecVerif.Proofs.Sched.Hbb
import ParsecVerif.Proofs.Sched.Ltq
import ParsecVerif.Proofs.Sched.Vp
/-!
# C08 — schedulers never lose or duplicate a ready task

Models (`ParsecVerif.Sched`, one machine per module of parsec/mca/sched over its real containers):
`Model/Sched/Prio.lean` (ap, ip, spq), `Simple.lean` (gd, rnd, ll, llp with `lifo_merge_ring`),
`Hbb.lean` (hierarchical bounded buffers: lfq, lhq, pbq), `Ltq.lean` (ltq and the max-heaps of
maxheap.c), `Vp.lean` (`__parsec_schedule_vp`'s next_task retention on top of any module).
One step = one module call (`MOp`), issued by ANY stream of the virtual process: a history is any
interleaving of the streams' calls at module-call granularity.

The theorems are proved once for a generic bag-refining machine (`Proofs/Sched/Bag.lean`) and
instantiated with a `Module.Correct` certificate per module (`Proofs/Sched/*.lean`).
Quantification: every module, every stream count / buffer topology satisfying the stated
shape condition, every finite history, any ring contents, priorities and distances.
Task identity is `Task.id`.
-/
namespace ParsecVerif.C08
open ParsecVerif.Sched

def ModId.correct : (m : ModId) → m.module.Correct
  | .ap => apCorrect | .gd => gdCorrect | .ip => ipCorrect | .lfq => hbbCorrect | .lhq => hbbCorrect
  | .ll => llCorrect | .llp => llpCorrect | .ltq => ltqCorrect | .pbq => pbqCorrect | .rnd => rndCorrect
  | .spq => spqCorrect

/-- **Conservation.**  For every module, from any empty state satisfying the module's shape
    invariant and for every history of schedule/select calls on any streams: pending ⊎ returned =
    scheduled (as multisets of task identities) — nothing is lost, nothing is invented. -/
theorem C08_conservation (m : ModId) (s0 : m.module.St) (hinv : m.correct.Inv s0)
    (hempty : m.module.pending s0 = []) (ops : List MOp) :
    (ids (m.module.pending (m.module.runFrom s0 [] ops).1) ++ ids (m.module.runFrom s0 [] ops).2).Perm
      (ids (scheduledOf (m.module.nstreams s0) ops)) :=
  m.correct.conservation ops s0 hinv hempty

/-- **No duplicate.**  If the tasks handed in are pairwise distinct, no task is ever returned
    twice, nor returned while still pending. -/
theorem C08_no_duplicate (m : ModId) (s0 : m.module.St) (hinv : m.correct.Inv s0)
    (hempty : m.module.pending s0 = []) (ops : List MOp)
    (hnd : (ids (scheduledOf (m.module.nstreams s0) ops)).Nodup) :
    (ids (m.module.pending (m.module.runFrom s0 [] ops).1) ++ ids (m.module.runFrom s0 [] ops).2).Nodup :=
  (m.correct.conservation ops s0 hinv hempty).nodup_iff.2 hnd

/-- the invariant is kept along every history (so the two theorems below apply to every reachable state) -/
theorem C08_invariant (m : ModId) (s0 : m.module.St) (hinv : m.correct.Inv s0) (ops : List MOp) :
    m.correct.Inv (m.module.runFrom s0 [] ops).1 :=
  (m.correct.conservation_from ops s0 [] hinv).1

/-- **Progress.**  While something is pending, some stream of the virtual process selects a task. -/
theorem C08_progress (m : ModId) (s : m.module.St) (hinv : m.correct.Inv s) (hne : m.module.pending s ≠ []) :
    ∃ es, es < m.module.nstreams s ∧ (m.module.select s es).2 ≠ none :=
  m.correct.live s hinv hne

/-- **Drain.**  `k = |pending|` successive selects on suitable streams return `k` tasks and leave
    nothing pending. -/
theorem C08_drain (m : ModId) (s : m.module.St) (hinv : m.correct.Inv s) :
    ∃ ess : List Nat, ess.length = (m.module.pending s).length ∧ (∀ es ∈ ess, es < m.module.nstreams s) ∧
      m.module.pending (m.module.runFrom s [] (ess.map MOp.sel)).1 = [] ∧
      (m.module.runFrom s [] (ess.map MOp.sel)).2.length = (m.module.pending s).length :=
  m.correct.drain _ s hinv rfl

/-- conservation with `__parsec_schedule_vp` / `__parsec_get_next_task` in front of the module
    (`pending` then includes the tasks retained in `es->next_task`) -/
theorem C08_vp_conservation (m : ModId) (s0 : (vpModule m.module).St) (hinv : (vpCorrect m.correct).Inv s0)
    (hempty : (vpModule m.module).pending s0 = []) (ops : List MOp) :
    (ids ((vpModule m.module).pending ((vpModule m.module).runFrom s0 [] ops).1) ++
      ids ((vpModule m.module).runFrom s0 [] ops).2).Perm
      (ids (scheduledOf ((vpModule m.module).nstreams s0) ops)) :=
  (vpCorrect m.correct).conservation ops s0 hinv hempty

/-- drain with `__parsec_get_next_task` in front of the module: |pending| selects, the retained `next_task` included, leave
    nothing pending -/
theorem C08_vp_drain (m : ModId) (s : (vpModule m.module).St) (hinv : (vpCorrect m.correct).Inv s) :
    ∃ ess : List Nat, ess.length = ((vpModule m.module).pending s).length ∧
      (∀ es ∈ ess, es < (vpModule m.module).nstreams s) ∧
      (vpModule m.module).pending ((vpModule m.module).runFrom s [] (ess.map MOp.sel)).1 = [] ∧
      ((vpModule m.module).runFrom s [] (ess.map MOp.sel)).2.length = ((vpModule m.module).pending s).length :=
  (vpCorrect m.correct).drain _ s hinv rfl

/-! ### the initial states satisfy the hypotheses -/

theorem init_shared {σ : Type} {sched : σ → SArg → σ} {sel : σ → σ × Option (Task × Int)} {pend : σ → List Task}
    (h : SharedCorrect sched sel pend) (n : Nat) (hn : 0 < n) (st : σ) : (sharedCorrect h).Inv ⟨n, st⟩ := hn

theorem init_ap (n : Nat) (hn : 0 < n) : (ModId.correct .ap).Inv ⟨n, LSt.init⟩ ∧ (ModId.module .ap).pending ⟨n, LSt.init⟩ = [] := ⟨hn, rfl⟩
theorem init_ip (n : Nat) (hn : 0 < n) : (ModId.correct .ip).Inv ⟨n, LSt.init⟩ ∧ (ModId.module .ip).pending ⟨n, LSt.init⟩ = [] := ⟨hn, rfl⟩
theorem init_spq (n : Nat) (hn : 0 < n) : (ModId.correct .spq).Inv ⟨n, SpqSt.init⟩ ∧ (ModId.module .spq).pending ⟨n, SpqSt.init⟩ = [] := ⟨hn, rfl⟩
theorem init_gd (n : Nat) (hn : 0 < n) : (ModId.correct .gd).Inv ⟨n, []⟩ ∧ (ModId.module .gd).pending ⟨n, []⟩ = [] := ⟨hn, rfl⟩
theorem init_rnd (n : Nat) (hn : 0 < n) : (ModId.correct .rnd).Inv ⟨n, []⟩ ∧ (ModId.module .rnd).pending ⟨n, []⟩ = [] := ⟨hn, rfl⟩

theorem init_ll (n : Nat) (hn : 0 < n) : (ModId.correct .ll).Inv (LlSt.init n) ∧ (ModId.module .ll).pending (LlSt.init n) = [] :=
  ⟨⟨hn, by simp [LlSt.init]⟩, List.flatten_replicate_nil⟩
theorem init_llp (n : Nat) (hn : 0 < n) : (ModId.correct .llp).Inv (LlSt.init n) ∧ (ModId.module .llp).pending (LlSt.init n) = [] :=
  ⟨⟨hn, by simp [LlSt.init]⟩, List.flatten_replicate_nil⟩

theorem hbbPending_init {α : Type} (cfg : HbbCfg) : hbbPending (HbbSt.init cfg : HbbSt α) = [] := by
  rw [hbbPending_eq, HbbSt.init, List.append_nil, List.flatMap_eq_nil_iff]
  intro sl hsl
  obtain ⟨n, _, rfl⟩ := List.mem_map.1 hsl
  exact List.filterMap_replicate_of_none rfl

theorem init_hbb (cfg : HbbCfg) (h : cfgCovered cfg = true) : HbbInv (HbbSt.init cfg : HbbSt Task) := by
  simp only [cfgCovered, Bool.and_eq_true, decide_eq_true_eq, List.all_eq_true, List.mem_range, List.any_eq_true,
    List.contains_iff_mem] at h
  exact ⟨h.1, fun b hb => h.2 b (by simpa [HbbSt.init] using hb)⟩

theorem init_lfq (cfg : HbbCfg) (h : cfgCovered cfg = true) :
    (ModId.correct .lfq).Inv (HbbSt.init cfg) ∧ (ModId.module .lfq).pending (HbbSt.init cfg) = [] :=
  ⟨init_hbb cfg h, hbbPending_init cfg⟩
theorem init_lhq (cfg : HbbCfg) (h : cfgCovered cfg = true) :
    (ModId.correct .lhq).Inv (HbbSt.init cfg) ∧ (ModId.module .lhq).pending (HbbSt.init cfg) = [] :=
  ⟨init_hbb cfg h, hbbPending_init cfg⟩
theorem init_pbq (cfg : HbbCfg) (h : cfgCovered cfg = true) :
    (ModId.correct .pbq).Inv (HbbSt.init cfg) ∧ (ModId.module .pbq).pending (HbbSt.init cfg) = [] :=
  ⟨init_hbb cfg h, hbbPending_init cfg⟩

theorem init_ltq (cfg : HbbCfg) (h : cfgOwned cfg = true) :
    (ModId.correct .ltq).Inv (HbbSt.init cfg) ∧ (ModId.module .ltq).pending (HbbSt.init cfg) = [] := by
  simp only [cfgOwned, Bool.and_eq_true, decide_eq_true_eq, List.all_eq_true, List.mem_range, List.any_eq_true,
    beq_iff_eq] at h
  have hp : hbbPending (HbbSt.init cfg : HbbSt Heap) = [] := hbbPending_init cfg
  refine ⟨⟨h.1, fun b hb => h.2 b (by simpa [HbbSt.init] using hb), ?_⟩, ?_⟩
  · rw [hp]; nofun
  · show ltqPending _ = []
    rw [ltqPending, hp]; rfl

theorem init_vp (m : ModId) (s0 : m.module.St) (hinv : m.correct.Inv s0) (hempty : m.module.pending s0 = []) :
    (vpCorrect m.correct).Inv (VpSt.init m.module s0) ∧ (vpModule m.module).pending (VpSt.init m.module s0) = [] := by
  refine ⟨⟨hinv, by simp [VpSt.init]⟩, ?_⟩
  show m.module.pending s0 ++ (List.replicate _ none).filterMap id = []
  rw [hempty, List.filterMap_replicate_of_none rfl]; rfl

/-! ### `lifo_merge_ring` (llp) and `hbbuffer_push_all` overflow: the two mechanisms named in the property -/

/-- llp: chaining a ring into a LIFO with `lifo_chain_sorted` / `lifo_merge_ring` keeps every
    element, for every distance and every (sorted or unsorted) ring and LIFO content -/
theorem C08_llp_chain (lifo ring : List Task) (d : Int) : (llpChain lifo ring d).Perm (ring ++ lifo) :=
  llpChain_perm lifo ring d

/-- bounded buffers: `push_all` into a buffer of any fill level, with overflow to the parent
    buffers and the system queue, keeps every element -/
theorem C08_push_all (s : HbbSt Task) (b : Nat) (ring : List Task) (d : Int) :
    (hbbPending (hbbPushAll (s.cfg.sizes.length + 1) s b ring d)).Perm (ring ++ hbbPending s) :=
  hbbPushAll_perm _ s b ring d

/-- **llp, one LIFO, all interleavings at atomic-operation granularity.**  Any number of threads run
    `lifo_chain_sorted` (push-in-front CAS, or detach-all CAS + local merge + write-back, with the
    repeat loop of the multi-writer variant) and `lifo_pop` concurrently, in any interleaving `ms`.
    Under the usage hypothesis the code documents (`allowed`: on a single-writer LIFO only its owner
    chains), LIFO ⊎ tasks held in local variables ⊎ returned = handed in, at every point. -/
theorem C08_llp_concurrent (sw : Bool) (n : Nat) (ms : List LlpConc.Move) :
    ((LlpConc.run sw (LlpConc.init n) ms).lifo ++ LlpConc.hands (LlpConc.run sw (LlpConc.init n) ms) ++
      (LlpConc.run sw (LlpConc.init n) ms).ret).Perm (LlpConc.run sw (LlpConc.init n) ms).sched :=
  (LlpConc.Inv.run sw ms _ (LlpConc.Inv.init sw n)).1

/-- at quiescence (no thread inside `lifo_chain_sorted`) nothing is in hand: LIFO ⊎ returned = handed in -/
theorem C08_llp_concurrent_quiescent (sw : Bool) (n : Nat) (ms : List LlpConc.Move)
    (hq : ∀ p ∈ (LlpConc.run sw (LlpConc.init n) ms).pcs, LlpConc.hand p = []) :
    ((LlpConc.run sw (LlpConc.init n) ms).lifo ++ (LlpConc.run sw (LlpConc.init n) ms).ret).Perm
      (LlpConc.run sw (LlpConc.init n) ms).sched := by
  have h := C08_llp_concurrent sw n ms
  have he : LlpConc.hands (LlpConc.run sw (LlpConc.init n) ms) = [] :=
    List.flatten_eq_nil_iff.2 fun l hl => by
      obtain ⟨p, hp, rfl⟩ := List.mem_map.1 hl
      exact hq p hp
  rwa [he, List.append_nil] at h

def twoWriters : List LlpConc.Move :=
  [.call 0 [⟨1, 5, 0, 0⟩] 1, .call 1 [⟨2, 5, 0, 0⟩] 1, .step 0, .step 1, .step 0, .step 1]

/-- **The single-writer hypothesis is necessary**: without it (a second thread chaining into a
    single-writer LIFO, as `__parsec_reschedule` does on stream th_id+1), the plain-store write-back
    of one thread overwrites the other's: task 1 is lost although both calls have returned. -/
theorem C08_llp_two_writers_lose :
    (LlpConc.runAny true (LlpConc.init 2) twoWriters).lifo.map (·.id) = [2] ∧
    (LlpConc.runAny true (LlpConc.init 2) twoWriters).ret = [] ∧
    LlpConc.hands (LlpConc.runAny true (LlpConc.init 2) twoWriters) = [] ∧
    (LlpConc.runAny true (LlpConc.init 2) twoWriters).sched.map (·.id) = [2, 1] := by decide

/-! ### non-vacuity -/

def cfg2 : HbbCfg := ⟨[2, 2], [none, none], [[0, 1], [1, 0]]⟩

example : cfgCovered cfg2 = true ∧ cfgOwned cfg2 = true := by decide

/-- lfq-like machine, two streams, buffers of 2 slots: a ring of 5 overflows into the system queue;
    stream 1, whose own buffer is empty, steals the better task of stream 0's buffer (distance 2) -/
example :
    let s1 := hbbSchedule (HbbSt.init cfg2) ⟨0, [⟨1, 5, 0, 0⟩, ⟨2, 7, 0, 0⟩, ⟨3, 6, 0, 0⟩, ⟨4, 9, 0, 0⟩, ⟨5, 1, 0, 0⟩], 0, false, []⟩
    (ids (hbbPending s1) = [1, 2, 3, 4, 5]) ∧ s1.sysq.length = 3 ∧
    (hbbSelect s1 1).2 = some (⟨2, 7, 0, 0⟩, 2) := by decide

/-- llp: a ring merged behind higher priorities (the `mid` cursor is used) -/
example : ids (llpChain [⟨1, 4, 0, 0⟩, ⟨2, 8, 0, 0⟩, ⟨3, 1, 0, 0⟩] [⟨4, 5, 0, 0⟩, ⟨5, 4, 0, 0⟩, ⟨6, 3, 0, 0⟩] 0) = [1, 6, 5, 4, 2, 3] := by decide

/-- llp concurrency theorem on a non-trivial interleaving: thread 1 detaches [1,2] and merges its ring,
    thread 0 pushes task 4 meanwhile; thread 1's write-back finds it, takes it out as a new ring and repeats -/
example :
    (fun (s : LlpConc.St) => (ids s.lifo, ids s.ret, ids (LlpConc.hands s)))
      (LlpConc.run false (LlpConc.init 3)
        [.call 0 [⟨1, 9, 0, 0⟩, ⟨2, 3, 0, 0⟩] 0, .step 0, .call 1 [⟨3, 5, 0, 0⟩] 0, .step 1, .call 0 [⟨4, 7, 0, 0⟩] 0, .step 0,
         .step 1, .step 1, .step 1, .step 1, .pop 2])
    = ([3, 1, 2], [4], []) := by decide

end ParsecVerif.C08
