import ParsecVerif.Props.Runtime
import ParsecVerif.Props.C01
import ParsecVerif.Proofs.PtgStartup
/-!
# C16 — deferred tasks are re-run, never lost or duplicated

On the task graph `graphOf p` of EVERY well-formed program, for every AGAIN pattern, worker count and interleaving:

* `C16_again` — a body that answers AGAIN k times is started exactly k + 1 times in every complete run and completes once;
* `C16_done_is_final` — after its DONE the body is never started again and never answers AGAIN;
* `C16_released_once` — every dependency of the graph is released exactly as many times as it is declared in a complete
  run, and (`C16_release_needs_done`) a release is only ever taken when its source has ended (`enabled`): successors are
  released once, after the final DONE;  `C16_successor_after_done` — every start of a successor comes after the
  producer's completion;
* `C16_startup_chunks` — the chunked startup enumeration (cursor saved in the pseudo task, `goto restore_context`,
  `reserved` doubling up to `task_startup_iter`, AGAIN once more than `task_startup_chunk` tasks have been scheduled):
  for EVERY `iter`, `chunk` (no lower bound needed) the batches of all invocations concatenate to the startup instances
  of the space, in enumeration order, each exactly once; every invocation but the last creates more than `chunk` tasks.
-/
namespace ParsecVerif.C16
open ParsecVerif.Ptg ParsecVerif.PtgRt ParsecVerif.PtgStartup ParsecVerif.Dataflow ParsecVerif.Runtime

variable {F : Nat → List (Option Nat) → Nat}

theorem C16_again (p : Program) (cfg : Cfg) (hwf : WellFormed p = true) (again : List Nat) (ts : List Tr)
    (hq : quiescent (run (graphOf p cfg) F again ts)) (t : Instance) (ht : t ∈ allInstances p) :
    ∃ j, nodeOf p t = some j ∧
      (run (graphOf p cfg) F again ts).log.count (.start j) = (again[j]?).getD 0 + 1 ∧
      (run (graphOf p cfg) F again ts).log.count (.again j) = (again[j]?).getD 0 ∧
      (run (graphOf p cfg) F again ts).log.count (.end_ j) = 1 := by
  obtain ⟨j, hj⟩ := ixOf_of_mem ht
  exact ⟨j, hj, quiescent_counts (graphOf_WF p cfg hwf) again ts hq j (ixOf_some hj).1⟩

theorem C16_done_is_final (p : Program) (cfg : Cfg) (hwf : WellFormed p = true) (again : List Nat) (ts : List Tr)
    (L1 L2 : List Ev) (j : Nat) (hl : (run (graphOf p cfg) F again ts).log = L1 ++ Ev.end_ j :: L2) :
    Ev.start j ∉ L2 ∧ Ev.again j ∉ L2 :=
  have h := done_is_final (graphOf_WF p cfg hwf) again ts L1 L2 j hl
  ⟨fun hm => h _ hm rfl, fun hm => h _ hm rfl⟩

theorem C16_released_once (p : Program) (cfg : Cfg) (hwf : WellFormed p = true) (again : List Nat) (ts : List Tr)
    (hq : quiescent (run (graphOf p cfg) F again ts)) (e : Nat × Nat) :
    relCount (graphOf p cfg) F e (init (graphOf p cfg) again) ts = (graphOf p cfg).E.count e := by
  have _ := hwf
  have h := relCount_spec (graphOf p cfg) F e ts (init (graphOf p cfg) again)
  rw [show (ts.foldl (step (graphOf p cfg) F) (init (graphOf p cfg) again)).pending = [] from hq.1] at h
  simpa [init] using h

theorem C16_release_needs_done (s : St) (a b : Nat) (h : enabled s (.release a b) = true) :
    s.status[a]? = some .ended :=
  (enabled_iff.1 h).1

theorem C16_successor_after_done (p : Program) (cfg : Cfg) (hwf : WellFormed p = true) (again : List Nat) (ts : List Tr)
    (e : Nat × Nat) (he : e ∈ (graphOf p cfg).E) (L1 L2 : List Ev)
    (hl : (run (graphOf p cfg) F again ts).log = L1 ++ Ev.start e.2 :: L2) : Ev.end_ e.1 ∈ L1 :=
  deps_respected (graphOf_WF p cfg hwf) again ts L1 L2 e.2 hl e he rfl

theorem C16_startup_chunks (p : Program) (c : Nat) (cl : TaskClass) (hc : p.classes[c]? = some cl)
    (hpos : StepsPositive (cl.sems p.globals) []) (iter chunk : Nat) :
    ∃ invs, startupChunks p c iter chunk = some invs ∧
      invs.flatten.flatten = (space p c).filter (isStartup p.globals cl) ∧
      startupEnum p c = some invs.flatten.flatten ∧
      invs.flatten.flatten.Nodup ∧ invs ≠ [] ∧ ∀ inv ∈ invs.dropLast, chunk < inv.flatten.length := by
  obtain ⟨invs, h1, h2, h3, h4⟩ := startupRun_spec iter chunk (isStartup p.globals cl) (cl.sems p.globals) hpos
  rw [← space_eq hc] at h2
  refine ⟨invs, by simp [startupChunks, hc, h1], h2, ?_, ?_, h3, h4⟩
  · rw [h2]; exact C01.C01_startup_partial p c cl hc hpos
  · rw [h2]; exact (C01.C01_space_nodup p c).sublist List.filter_sublist

/-- `P(i)`, i = 0, 2, reads and updates tile i and sends it to `T(i)`; `T(2)` answers AGAIN twice in the example run -/
def ex : Program :=
  { globals := [],
    classes := [{ name := "P", locals := [.range ⟨.const 0, .const 2, .const 2⟩], isParam := [true], place := .var 0, prio := none,
                  flows := [{ access := .rw, ins := [⟨none, .coll (.var 0), none⟩],
                              outs := [⟨none, .task 1 0 [.one (.var 0)], none⟩] }] },
                { name := "T", locals := [.range ⟨.const 0, .const 2, .const 2⟩], isParam := [true], place := .var 0, prio := none,
                  flows := [{ access := .rw, ins := [⟨none, .task 0 0 [.one (.var 0)], none⟩],
                              outs := [⟨none, .coll (.var 0), none⟩] }] }] }

example : WellFormed ex = true := by decide +kernel
example : (graphOf ex {}).n = 4 ∧ (graphOf ex {}).E = [(0, 2), (1, 3)] := by decide +kernel
def exSched : List Tr := [.start 1, .finish 1, .release 1 3, .start 3, .again 3, .start 0, .start 3, .again 3, .finish 0,
  .release 0 2, .start 2, .start 3, .finish 2, .finish 3]
set_option maxRecDepth 4000 in
example : (run (graphOf ex {}) (fun _ _ => 0) [0, 0, 0, 2] exSched).pending = [] ∧
    (run (graphOf ex {}) (fun _ _ => 0) [0, 0, 0, 2] exSched).status = List.replicate 4 .ended ∧
    (run (graphOf ex {}) (fun _ _ => 0) [0, 0, 0, 2] exSched).log.count (.start 3) = 3 := by decide +kernel
/-- a class with five startup instances -/
def ex5 : Program :=
  { globals := [], classes := [{ ex.classes[0]! with locals := [.range ⟨.const 0, .const 8, .const 2⟩], flows := [{ ex.classes[0]!.flows[0]! with outs := [] }] }] }
example : StepsPositive (ex5.classes[0]!.sems ex5.globals) [] := by decide +kernel
/-- chunk 1, iter 1: five startup instances in three invocations (2 + 2 + 1) -/
example : startupChunks ex5 0 1 1 = some [[[[0], [2]]], [[[4], [6]]], [[[8]]]] := by decide +kernel
example : startupChunks ex5 0 64 256 = some [[[[0], [2]], [[4], [6], [8]]]] := by decide +kernel

end ParsecVerif.C16
