import ParsecVerif.Proofs.RedistributeTop
/-!
# C21 — redistribution copies exactly the requested window

Model: `ParsecVerif.Redistribute` (mirrors `redistribute_wrapper.c`, `redistribute_internal.h`,
`redistribute.jdf`, `redistribute_reshuffle.jdf`, R = 0).

Quantification: all tile sizes `mb, nb ≥ 1` of source and target (independently), all matrix sizes, all
window sizes and displacements accepted by `parsec_redistribute_New` (`validate`), all batch sizes
`num_col ≥ 1`, both taskpools (general and reshuffle), every assignment of tiles to ranks (`remote` is an
arbitrary predicate: which (source tile, target tile) pairs live on different ranks, i.e. take the
pack / send / unpack path), every execution order of the writing tasks (`order` is any permutation of the
task space).

Assumptions recorded for the tie: `int` arithmetic does not overflow; source and target are different
matrices; tile storage (element `(a,b)` of tile `(m,n)` is global element `(mb*m+a, nb*n+b)`); the runtime
delivers to `Update`/`Receive` the bytes the sender packed (C02/C05) and runs every task of the task space
exactly once (C01/C02).

The statements speak of the copies of one task, `taskCopies`; `redistCopies_eq` says that the model's
`redistCopies` issues these, task by task in the given order.
-/
namespace ParsecVerif.C21
open ParsecVerif.Redistribute

def taskCopies (p : Params) (path : Path) (remote : Task → Bool) (k : Task) : List ECopy :=
  match path with
  | .general => updateCopies p remote k
  | .reshuffle => rectCopies p k (receiveRect p k)

theorem redistCopies_eq (p : Params) (path : Path) (remote : Task → Bool) (order : List Task) :
    redistCopies p path remote order = order.flatMap (taskCopies p path remote) := by
  cases path <;> rfl

theorem accepted (dY dT : Desc) (hY : 0 < dY.mb ∧ 0 < dY.nb) (hT : 0 < dT.mb ∧ 0 < dT.nb)
    (sr sc diY djY diT djT : Int) (p : Params) (path : Path)
    (h : validate dY dT sr sc diY djY diT djT = some (p, path)) :
    p.Valid ∧ (path = .reshuffle → p.optimized = true) := by
  obtain ⟨-, hp, hv, -⟩ := validate_spec dY dT hY hT sr sc diY djY diT djT p path h
  refine ⟨hv, fun hr => ?_⟩
  rw [hr, pathOf] at hp
  split at hp
  · assumption
  · cases hp

theorem mem_tasksOf (p : Params) (hv : p.Valid) (path : Path) (hopt : path = .reshuffle → p.optimized = true)
    {k : Task} : k ∈ tasksOf p path ↔ InGeneral p k := by
  cases path with
  | general => exact mem_generalTasks
  | reshuffle => exact mem_reshuffleTasks.trans (reshuffle_iff_general p hv (hopt rfl) k)

/-- `(generalizing := false)` keeps `hopt` and `hk`, which mention `path`, out of the `match`: the term is then the
    one in the statement of `C21_in_bounds`. -/
theorem task_block (p : Params) (hv : p.Valid) (path : Path) (hopt : path = .reshuffle → p.optimized = true)
    (remote : Task → Bool) (k : Task) (hk : k ∈ tasksOf p path) :
    ∃ a b, (match (generalizing := false) path with
        | .general => updateRect p k | .reshuffle => some (receiveRect p k)) = some (mkRect a b) ∧
      taskCopies p path remote k = rectCopies p k (mkRect a b) ∧ Covers p k a b := by
  obtain ⟨a, b, hu, hc⟩ := general_task p hv k ((mem_tasksOf p hv path hopt).mp hk)
  cases path with
  | general => exact ⟨a, b, hu, (updateCopies_eq p remote k).trans (by rw [hu]), hc⟩
  | reshuffle =>
    have e : receiveRect p k = mkRect a b :=
      Option.some.inj ((reshuffle_rect p hv (hopt rfl) (mem_reshuffleTasks.mp hk)).symm.trans hu)
    exact ⟨a, b, congrArg some e, congrArg (rectCopies p k) e, hc⟩

/-- **C21 (family of copies).**  For every request accepted by `parsec_redistribute_New`, on either path and
    for every placement of the tiles on ranks, the element copies issued by all task instances form a
    function whose domain is exactly the target window:
    (1) every copy moves source element `(disi_Y+i, disj_Y+j)` to target element `(disi_T+i, disj_T+j)` for some
        `(i,j)` of the `size_row × size_col` window — nothing outside the window is written and nothing wrong
        is written inside;
    (2) every element of the window is written by some task of the task space;
    (3) two copies with the same target element are the same copy of the same task instance (concurrent
        `Update`s of one target tile touch disjoint elements).  That no task and no copy is listed twice is not
        part of the statement. -/
theorem C21_copies (dY dT : Desc) (hY : 0 < dY.mb ∧ 0 < dY.nb) (hT : 0 < dT.mb ∧ 0 < dT.nb)
    (sr sc diY djY diT djT : Int) (p : Params) (path : Path)
    (h : validate dY dT sr sc diY djY diT djT = some (p, path)) (remote : Task → Bool) :
    (∀ k ∈ tasksOf p path, ∀ c ∈ taskCopies p path remote k, IsWindowCopy p c) ∧
    (∀ i j, i < p.sizeRow → j < p.sizeCol →
      ∃ k ∈ tasksOf p path, (⟨p.diT + i, p.djT + j, p.diY + i, p.djY + j⟩ : ECopy) ∈ taskCopies p path remote k) ∧
    (∀ k ∈ tasksOf p path, ∀ k' ∈ tasksOf p path, ∀ c ∈ taskCopies p path remote k,
      ∀ c' ∈ taskCopies p path remote k', c.ti = c'.ti → c.tj = c'.tj → k = k' ∧ c = c') := by
  obtain ⟨hv, hopt⟩ := accepted dY dT hY hT sr sc diY djY diT djT p path h
  refine ⟨?_, ?_, ?_⟩
  · intro k hk c hc
    obtain ⟨a, b, -, e, hab⟩ := task_block p hv path hopt remote k hk
    obtain ⟨i, j, ri, cj, rfl⟩ := (hab.mem_iff c).mp (e ▸ hc)
    exact ⟨i, j, ri.lt, cj.lt, rfl⟩
  · intro i j hi hj
    obtain ⟨k, hk, ri, cj⟩ := general_hit p hv hi hj
    have hk := (mem_tasksOf p hv path hopt).mpr hk
    obtain ⟨a, b, -, e, hab⟩ := task_block p hv path hopt remote k hk
    exact ⟨k, hk, e ▸ (hab.mem_iff _).mpr ⟨i, j, ri, cj, rfl⟩⟩
  · intro k hk k' hk' c hc c' hc'
    obtain ⟨a, b, -, e, hab⟩ := task_block p hv path hopt remote k hk
    obtain ⟨a', b', -, e', hab'⟩ := task_block p hv path hopt remote k' hk'
    exact hab.inj hv.numCol hab' (e ▸ hc) (e' ▸ hc')

/-- **C21 (effect).**  `parsec_redistribute` copies the requested `size_row × size_col` window of the source,
    starting at the source displacement, to the target at the target displacement, and leaves every other
    target element unchanged — for all tile sizes, displacements, batch sizes, distributions (`remote`) and
    schedules (`order`), on both code paths.  The parameters of the statement are the caller's arguments. -/
theorem C21_window {α : Type} (dY dT : Desc) (hY : 0 < dY.mb ∧ 0 < dY.nb) (hT : 0 < dT.mb ∧ 0 < dT.nb)
    (sr sc diY djY diT djT : Int) (p : Params) (path : Path)
    (h : validate dY dT sr sc diY djY diT djT = some (p, path))
    (remote : Task → Bool) (order : List Task) (hperm : order.Perm (tasksOf p path))
    (src tgt : Nat → Nat → α) :
    applyCopies src (redistCopies p path remote order) tgt = windowSpec p src tgt ∧
    ((p.sizeRow : Int) = sr ∧ (p.sizeCol : Int) = sc ∧ (p.diY : Int) = diY ∧ (p.djY : Int) = djY ∧
     (p.diT : Int) = diT ∧ (p.djT : Int) = djT) := by
  obtain ⟨hs, hc, -⟩ := C21_copies dY dT hY hT sr sc diY djY diT djT p path h remote
  refine ⟨?_, (validate_spec dY dT hY hT sr sc diY djY diT djT p path h).2.2.2.1⟩
  rw [redistCopies_eq]
  apply window_result
  · intro c hc'
    obtain ⟨k, hk, hck⟩ := List.mem_flatMap.mp hc'
    exact hs k (hperm.mem_iff.mp hk) c hck
  · intro i j hi hj
    obtain ⟨k, hk, hmem⟩ := hc i j hi hj
    exact List.mem_flatMap.mpr ⟨k, hperm.mem_iff.mpr hk, hmem⟩

/-- **Memory safety of the block copy.**  The block that the body of a task of the task space copies between its
    two tiles (`updateRect`: the `MOVE_SUBMATRIX` of the branch `rank_Y == rank_T`; `receiveRect`: the reshuffle
    `Receive`) lies inside the source tile and inside the target tile, both tiles exist in their matrices, and the
    block is not empty.  The sender's block and the packed buffer of the path `rank_Y != rank_T` are not in the
    statement. -/
theorem C21_in_bounds (dY dT : Desc) (hY : 0 < dY.mb ∧ 0 < dY.nb) (hT : 0 < dT.mb ∧ 0 < dT.nb)
    (sr sc diY djY diT djT : Int) (p : Params) (path : Path)
    (h : validate dY dT sr sc diY djY diT djT = some (p, path)) (k : Task) (hk : k ∈ tasksOf p path) :
    ∃ r, (match path with | .general => updateRect p k | .reshuffle => some (receiveRect p k)) = some r ∧
      r.dI + r.rows ≤ dT.mb ∧ r.dJ + r.cols ≤ dT.nb ∧ r.sI + r.rows ≤ dY.mb ∧ r.sJ + r.cols ≤ dY.nb ∧
      1 ≤ r.rows ∧ 1 ≤ r.cols ∧ k.mT < dT.lmt ∧ k.nT < dT.lnt ∧ k.mY < dY.lmt ∧ k.nY < dY.lnt := by
  obtain ⟨hv, hopt⟩ := accepted dY dT hY hT sr sc diY djY diT djT p path h
  obtain ⟨rfl, -, -, -, b1, b2, b3, b4⟩ := validate_spec dY dT hY hT sr sc diY djY diT djT p path h
  obtain ⟨a, b, hr, -, hab⟩ := task_block _ hv path hopt (fun _ => false) k hk
  obtain ⟨_, ra⟩ := hab.row
  obtain ⟨_, cb⟩ := hab.col
  obtain ⟨t1, t3⟩ := ra.tiles b3 b1
  obtain ⟨t2, t4⟩ := cb.tiles b4 b2
  exact ⟨_, hr, ra.inT, cb.inT, ra.inY, cb.inY, ra.pos, cb.pos, t1, t2, t3, t4⟩

/-- The pack / send / unpack path (`rank_Y != rank_T`) performs the same element copies as the in-place path. -/
theorem C21_remote_eq_local (p : Params) (hv : p.Valid) (remote : Task → Bool) (k : Task) (hk : k ∈ generalTasks p) :
    updateCopies p remote k = updateCopies p (fun _ => false) k := by
  rw [updateCopies_eq, updateCopies_eq]

/-- Requests outside the API precondition are refused (`parsec_redistribute` then returns an error and runs
    no task): empty or negative sizes, negative displacements, a window that leaves the source or target. -/
theorem C21_refused (dY dT : Desc) (sr sc diY djY diT djT : Int)
    (h : sr < 1 ∨ sc < 1 ∨ diY < 0 ∨ djY < 0 ∨ diT < 0 ∨ djT < 0 ∨
         diY + sr > dY.lmt * dY.mb ∨ djY + sc > dY.lnt * dY.nb ∨
         diT + sr > dT.lmt * dT.mb ∨ djT + sc > dT.lnt * dT.nb) :
    validate dY dT sr sc diY djY diT djT = none := by
  apply Option.eq_none_iff_forall_ne_some.mpr
  intro x hx
  obtain ⟨h1, h2, h3, h4, -⟩ := (validate_eq_some ..).mp hx
  omega

/-- The subtractions in the per-dimension quantities of the general path (`tEnd`, `NT`, `getsize`, `sizeT`, `yEnd`,
    `tl`, `br`) do not go negative on the branch where they are evaluated, and `m_Y_start ≤ m_Y_end`.
    `Redistribute.no_underflow` has the C expression beside each clause. -/
theorem C21_no_underflow (d : Dim) (hv : d.Valid) (t : Nat) (ht1 : d.tStart ≤ t) (ht2 : t ≤ d.tEnd) :
    1 ≤ d.size + d.dT ∧ d.tStart ≤ d.tEnd ∧ d.dT % d.bT ≤ d.bT ∧
    (d.tEnd - d.tStart) * d.bT ≤ d.size + d.dT % d.bT ∧
    (t ≠ d.tStart → d.dT % d.bT ≤ (t - d.tStart) * d.bT) ∧
    1 ≤ d.srcPos t + d.tInner t ∧ d.iStart t ≤ d.bY ∧ 1 ≤ d.iStart t + d.tInner t ∧ d.yStart t ≤ d.yEnd t :=
  no_underflow d hv t ht1 ht2

/-- The task spaces of the reshuffle taskpool fit: `Send(m_Y, n_Y, batch)` exists exactly when some
    `Receive(m_T, n_T, batch)` derives `(m_Y, n_Y)` as its source tile.  (The `m_T`, `n_T` that the `Send` derives
    to name that `Receive` are not modelled.)  With aligned displacements the ranges of source and target tiles
    are equally long (`aligned_span`), so each is the other shifted (`shift_iff`). -/
theorem C21_reshuffle_dataflow (p : Params) (hv : p.Valid) (ho : p.optimized = true) (b mY nY : Nat) :
    (b, mY, nY) ∈ reshuffleSends p ↔ ∃ k ∈ reshuffleTasks p, k.batch = b ∧ k.mY = mY ∧ k.nY = nY := by
  obtain ⟨har, hac⟩ := optimized_aligned p ho
  have ra := aligned_span p.row hv.row har
  have ca := aligned_span p.col hv.col hac
  have col : ∀ b, b * p.numCol + p.col.yStartR ≤ nY ∧ nY ≤ min ((b + 1) * p.numCol + p.col.yStartR - 1) p.col.yEndR ↔
      ∃ t, (p.batchLo b ≤ t ∧ t ≤ p.batchHi b) ∧ nY = t - p.col.tStart + p.col.yStartR := fun b =>
    shift_iff (by unfold Params.batchLo; omega)
      (by have : 0 < (b + 1) * p.numCol := Nat.mul_pos (Nat.succ_pos b) hv.numCol
          unfold Params.batchHi; omega) (Nat.le_add_left ..)
  have row := shift_iff (y := mY) (Nat.add_comm p.row.yStartR p.row.tStart) ra (Nat.le_refl _)
  rw [mem_reshuffleSends]
  constructor
  · rintro ⟨h1, hr, hc⟩
    obtain ⟨mT, hm, em⟩ := row.mp hr
    obtain ⟨nT, hn, en⟩ := (col b).mp hc
    exact ⟨⟨b, mT, nT, mY, nY⟩, mem_reshuffleTasks.mpr ⟨h1, hm, hn, em, en⟩, rfl, rfl, rfl⟩
  · rintro ⟨k, hk, rfl, rfl, rfl⟩
    obtain ⟨h1, hm, hn, em, en⟩ := mem_reshuffleTasks.mp hk
    exact ⟨h1, row.mpr ⟨_, hm, em⟩, (col _).mpr ⟨_, hn, en⟩⟩

/-- source: 2DBC, 3×4 tiles, 5×4 of them, 2 grid columns (the model keeps no grid rows); the window of the
    examples is not aligned to the tiles -/
def exY : Desc := ⟨.bc 2 1, 3, 4, 5, 4⟩
/-- target: 2DBC, 5×2 tiles, 4×7 of them, 4 grid columns with `kcols = 2` -/
def exT : Desc := ⟨.bc 4 2, 5, 2, 4, 7⟩

example : validate exY exT 7 6 2 3 4 1 = some (⟨3, 4, 5, 2, 7, 6, 2, 3, 4, 1, 8⟩, .general) := by decide
example : (generalTasks ⟨3, 4, 5, 2, 7, 6, 2, 3, 4, 1, 8⟩).length = 16 := by decide
example : (redistCopies ⟨3, 4, 5, 2, 7, 6, 2, 3, 4, 1, 8⟩ .general (fun k => k.mY % 2 == 0)
            (generalTasks ⟨3, 4, 5, 2, 7, 6, 2, 3, 4, 1, 8⟩)).length = 42 := by decide

/-- source and target (lower SBC) with the same 3×2 tiles: for aligned displacements the reshuffle taskpool is chosen;
    its 3 target tile columns go in 2 batches (`num_col = 2`) -/
def exY2 : Desc := ⟨.bc 1 1, 3, 2, 6, 6⟩
def exT2 : Desc := ⟨.sbcLower 2, 3, 2, 8, 8⟩

example : validate exY2 exT2 8 5 3 4 15 2 = some (⟨3, 2, 3, 2, 8, 5, 3, 4, 15, 2, 2⟩, .reshuffle) := by decide
example : (reshuffleTasks ⟨3, 2, 3, 2, 8, 5, 3, 4, 15, 2, 2⟩).length = 9 := by decide
example : (reshuffleTasks ⟨3, 2, 3, 2, 8, 5, 3, 4, 15, 2, 2⟩).map (·.batch) = [0, 0, 0, 0, 0, 0, 1, 1, 1] := by decide

/-- a window that touches an unstored tile of a lower SBC target, an unsupported distribution, and a window
    leaving the source are refused -/
example : validate exY2 exT2 8 5 3 4 3 6 = none := by decide
example : validate exY2 ⟨.other, 3, 2, 8, 8⟩ 8 5 3 4 15 2 = none := by decide
example : validate exY2 exT2 16 5 3 4 3 2 = none := by decide

end ParsecVerif.C21
