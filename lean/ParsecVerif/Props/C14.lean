/-
  C14 — the communication engine delivers every message exactly once and intact.

  PARTIAL: what is proved here is the bookkeeping of `parsec/parsec_mpi_funnelled.c` — the array polled by
  `MPI_Testsome`, the per-tag pools of persistent receives with their tested windows, the dynamic region with its two
  FIFOs and receive quota, and `next_tag` — for every configuration, every sequence of API calls and every behaviour of
  MPI that is compatible with the stated hypotheses.  MPI itself (bytes of a send arrive intact in exactly one
  matching receive, non-overtaking matching, `MPI_Testsome` reporting indices in increasing order) is assumed.
  `C14_delivery_partial` is about the second layer alone, one tag's pool with MPI's matching as a hypothesis
  (`GPool`); no theorem joins a run of that machine to a run of the engine (`St`).  What is *not* a theorem is listed
  in docs/notes/C14.md.
-/
import ParsecVerif.Proofs.CommEngine
import ParsecVerif.Proofs.CommTags
import ParsecVerif.Proofs.CommWindow

namespace ParsecVerif.C14
open ParsecVerif.CommEngine

/-- A move: the upper layer creates a request between two calls of `progress` (`put` / `get`), or one pass of the
    loop of `mpi_no_thread_progress` runs: `MPI_Testsome` reports a set of indices (given by location), each is
    served, and the callback of each may create requests (the internal GET/PUT handshake callbacks always do,
    user callbacks may call `put`/`get`). -/
inductive Move
  | create (x : Dyn)
  | pass (c : List (Loc × List Dyn))

/-- What the environment may do.  For a pass: `MPI_Testsome` reports distinct indices holding a request
    (`Reportable`), in increasing order (`dynOffs … Pairwise <`; for the windows the order is irrelevant), and the
    requests created are new. -/
def Move.admissible (s : St) : Move → Prop
  | .create x => x ∉ s.issued
  | .pass c => (c.map (·.1)).Nodup ∧ (∀ l, l ∈ c.map (·.1) → Reportable s l) ∧
      (dynOffs (c.map (·.1))).Pairwise (fun a b => a < b) ∧
      (c.flatMap (·.2)).Nodup ∧ ∀ x, x ∈ c.flatMap (·.2) → x ∉ s.issued

def Move.apply (s : St) : Move → St
  | .create x => s.install x
  | .pass c => s.iterL c

/-- A configuration: per registered tag (tag, posted, tested) with `1 ≤ tested ≤ posted`
    (`mpi_funnelled_normalize_params`). -/
def ValidCfg (cfg : List (Nat × Nat × Nat)) : Prop := ∀ id n t, (id, n, t) ∈ cfg → 1 ≤ t ∧ t ≤ n

/-- States reachable by admissible moves from `init`, the state `mpi_no_thread_enable` leaves. -/
inductive Reach (cap quota : Nat) (cfg : List (Nat × Nat × Nat)) : St → Prop
  | init : Reach cap quota cfg (init cap quota cfg)
  | step {s : St} {m : Move} : Reach cap quota cfg s → m.admissible s → Reach cap quota cfg (m.apply s)

/-- One pass of the progress loop. -/
theorem Inv_iterL {s : St} (h : Inv s) (c : List (Loc × List Dyn)) (hm : (Move.pass c).admissible s) :
    Inv (s.iterL c) ∧ (∃ rs, rs.length = c.length ∧ Adv s (s.iterL c) (c.flatMap (·.2)) rs) ∧
    ¬ (s.iterL c).dyn.starved := by
  obtain ⟨hnd, hrep, hasc, hfn, hf⟩ := hm
  obtain ⟨t1, t2⟩ := Mid_test (c.map (·.1)) (h.toMid _ fun j hj => hrep (.dyn j) hj) (fun l hl => hl) hnd
    fun l hl => h.liveNow (hrep l hl)
  obtain ⟨a1, rs, a2, a3⟩ := Mid_serveAll c t1 hnd hfn (t2.fresh hf hfn)
  obtain ⟨b1, b2, b3, _⟩ := Mid_finish a1 hasc
  exact ⟨b1, ⟨rs, a2, (t2.trans a3).trans_silent b2⟩, b3⟩

theorem reach_inv {cap quota : Nat} {cfg : List (Nat × Nat × Nat)} (hcfg : ValidCfg cfg) {s : St}
    (h : Reach cap quota cfg s) : Inv s ∧ Static (init cap quota cfg) s := by
  induction h with
  | init => exact ⟨Inv_init cap quota cfg hcfg, Static.refl _⟩
  | step hr hm ih =>
    rename_i s m
    cases m with
    | create x =>
      obtain ⟨a, b⟩ := Inv_install ih.1 x hm
      exact ⟨a, ih.2.trans b⟩
    | pass c =>
      obtain ⟨a, ⟨_, _, b⟩, _⟩ := Inv_iterL ih.1 c hm
      exact ⟨a, ih.2.trans b.static⟩

/-- `passOkB`, which the driver `pv_C14` evaluates on the located indices of every `test` line of a real trace, gives
    the three conjuncts of admissibility that concern `MPI_Testsome`.  That the requests created are new and distinct
    (`hfn`, `hf`; the driver rejects an `inst` line whose request was issued before) stays a hypothesis here.  The
    driver replays `St.test`, `St.serve`, `St.done`, `St.finish` on absolute indices resolved by `St.locate`; that
    such a replay is `St.iterL` on the located indices is not proved. -/
theorem C14_acceptor_sound (s : St) (c : List (Loc × List Dyn)) (h : passOkB s (c.map (·.1)) = true)
    (hfn : (c.flatMap (·.2)).Nodup) (hf : ∀ x, x ∈ c.flatMap (·.2) → x ∉ s.issued) : (Move.pass c).admissible s := by
  obtain ⟨a, b, d⟩ := passOkB_sound h
  exact ⟨a, b, d, hfn, hf⟩

/-- **Slot invariant.**  In every reachable state (between two passes of the progress loop):
    * the machine never entered its error state (`MPI_Start` on an active request, or a write through a callback
      record that does not describe its own slot);
    * the windows tile the static part of the array in tag order and the dynamic region starts right after;
    * every window has its `tested_count` slots, each holding a *distinct* persistent receive `r` of its own tag,
      with callback record = that request, `storage1` = the slot, `is_dynamic_recv` = false, `reqs_in_testsome[r]`
      set, the receive active (started); conversely a receive flagged in `reqs_in_testsome` is in the window;
    * every slot of the dynamic region below `last_active_req` holds a live request with its own callback record,
      `storage1` = the slot and `is_dynamic_recv` = "is a receive"; there are at most `dynamic_requests` of them;
      `num_recv_req_in_arr` equals the number of receive slots and does not exceed the quota; the send FIFO holds
      only sends and the receive FIFO only receives;
    * no dynamic request is referenced twice (array slots and FIFO entries together). -/
theorem C14_slots {cap quota : Nat} {cfg : List (Nat × Nat × Nat)} (hcfg : ValidCfg cfg) {s : St}
    (h : Reach cap quota cfg s) :
    s.bad = false ∧ Contig 0 s.pools s.dyn.base ∧
    (∀ (k : Nat) p, s.pools[k]? = some p →
      p.win.length = p.t ∧ (winReqs p.win).Nodup ∧
      (∀ j, j < p.t → ∃ r, r < p.n ∧ p.win[j]? = some (amSlot p.id r (p.base + j)) ∧
          p.inw.getD r false = true ∧ p.act.getD r true = true) ∧
      (∀ r, r < p.n → p.inw.getD r false = true → r ∈ winReqs p.win)) ∧
    (∀ j, j < s.dyn.slots.length → ∃ x, s.dyn.slots[j]? = some (dynSlot x (s.dyn.base + j) x.kind.isRecv)) ∧
    s.dyn.slots.length ≤ cap ∧ s.dyn.nrecv = nRecv s.dyn.slots ∧ s.dyn.nrecv ≤ quota ∧
    (∀ x, x ∈ s.dyn.sendq → x.kind.isRecv = false) ∧ (∀ x, x ∈ s.dyn.recvq → x.kind.isRecv = true) ∧
    s.dyn.refs.Nodup := by
  obtain ⟨hi, hs⟩ := reach_inv hcfg h
  have hcap : s.dyn.cap = cap := hs.cap
  have hquota : s.dyn.quota = quota := hs.quota
  refine ⟨hi.ok, ?_, ?_, ?_, by rw [← hcap]; exact hi.dyn.mid.len_le, hi.dyn.mid.nrecv_eq,
    by rw [← hquota]; exact hi.dyn.mid.nrecv_le, hi.dyn.mid.sendq_kind, hi.dyn.mid.recvq_kind, ?_⟩
  · have hc := contig_of_shapes cfg 0 s.pools hs.shapes
    rwa [Nat.zero_add, ← show s.dyn.base = nstatic cfg from hs.base] at hc
  · intro k p hk
    have hq := hi.pools k p hk
    refine ⟨hq.inv.win_len, hq.inv.core.nodup, fun j hj => ?_, fun r hr hw => (hq.inv.core.inw_iff r hr).mp hw⟩
    obtain ⟨r, hr, hw⟩ := hq.slot hj
    exact ⟨r, hr, hw, (hq.inv.core.inw_iff r hr).mpr (mem_winReqs_of_slot hw), hq.active r hr⟩
  · intro j hj
    obtain ⟨x, hx⟩ := hi.dyn.slot_eq (List.getElem?_eq_getElem hj)
    exact ⟨x, by rw [List.getElem?_eq_getElem hj, hx]⟩
  · exact (List.nodup_append.mp (hi.ledger.nodup_iff.mpr hi.nodup)).1

/-- **Ledger.**  In every reachable state every dynamic request ever created is in exactly one place: referenced by
    one array slot or one FIFO entry, or in the log of served callbacks — and there at most once: the multiset
    `refs ++ served` is a duplicate-free rearrangement of the requests created.  So no request is lost by the
    swap-with-last removal or by the FIFOs, none is served twice, none is served while still referenced.
    `bad = false`: a persistent receive is restarted (`MPI_Start`) only when MPI had reported it complete, and at
    that moment it leaves the window (`reqs_in_testsome := false`); `refill` only takes receives outside the window,
    which are active (`fill1_active`). -/
theorem C14_served_once {cap quota : Nat} {cfg : List (Nat × Nat × Nat)} (hcfg : ValidCfg cfg) {s : St}
    (h : Reach cap quota cfg s) :
    (s.dyn.refs ++ servedDyn s).Perm s.issued ∧ s.issued.Nodup ∧ (servedDyn s).Nodup ∧
    (∀ x, x ∈ servedDyn s → x ∉ s.dyn.refs) ∧ (∀ x, x ∈ s.issued → x ∈ s.dyn.refs ∨ x ∈ servedDyn s) ∧
    s.bad = false := by
  obtain ⟨hi, _⟩ := reach_inv hcfg h
  have hn : (s.dyn.refs ++ servedDyn s).Nodup := hi.ledger.nodup_iff.mpr hi.nodup
  obtain ⟨n1, n2, n3⟩ := List.nodup_append.mp hn
  refine ⟨hi.ledger, hi.nodup, n2, fun x hx hr => n3 x hr x hx rfl, ?_, hi.ok⟩
  intro x hx
  have := hi.ledger.symm.subset hx
  exact List.mem_append.mp this

/-- Within one pass the log of served callback records grows by exactly one entry per reported index, and the
    requests issued grow by exactly those the callbacks create.  Which record each new entry is, is not said:
    `Mid_serveL_win` and `Mid_serveL_dyn` know it, `Mid_serveOne` forgets it. -/
theorem C14_served_once_pass {s : St} (h : Inv s) (c : List (Loc × List Dyn)) (hm : (Move.pass c).admissible s) :
    (∃ rs, rs.length = c.length ∧ (s.iterL c).served = s.served ++ rs) ∧
    (s.iterL c).issued = s.issued ++ c.flatMap (·.2) := by
  obtain ⟨_, ⟨rs, hl, a⟩, _⟩ := Inv_iterL h c hm
  exact ⟨⟨rs, hl, a.served⟩, a.issued⟩

/-- The receive that `mpi_funnelled_refill_am_requests` moves into the window is an active (started) one.  `hlt` holds
    whenever `fill1` is called: the window is then shorter than `t ≤ n` (as in `PCore_fill1`). -/
theorem fill1_active {p : Pool} (h : PCore p) (hlt : (winReqs p.win).length < p.n) :
    p.act.getD (scan p.inw p.n p.n p.ridx) true = true := by
  obtain ⟨hq, hqf⟩ := scan_outside h hlt
  cases ha : p.act.getD (scan p.inw p.n p.n p.ridx) true with
  | true => rfl
  | false =>
    have := (h.inw_iff _ hq).mpr (h.act_in _ hq ha)
    rw [hqf] at this; cases this

/-- **Progress.**  After every pass nothing installable is left behind: it is impossible that a slot of the dynamic
    region is free while the send FIFO is non-empty, or the receive FIFO is non-empty with the receive quota not
    exhausted.  (So when a slot is free at the end of the removal loop and such an entry waits, that pass installs.)
    The statement is `¬ (s.iterL c).dyn.starved` with `DynR.starved` written out.  That entries leave the FIFOs from
    the front only is not part of it: that is `DStep.fifo`, the last conjunct of `Mid_finish`. -/
theorem C14_progress {s : St} (h : Inv s) (c : List (Loc × List Dyn)) (hm : (Move.pass c).admissible s) :
    ¬ ((s.iterL c).dyn.slots.length < (s.iterL c).dyn.cap ∧
        ((s.iterL c).dyn.sendq ≠ [] ∨ ((s.iterL c).dyn.recvq ≠ [] ∧ (s.iterL c).dyn.nrecv < (s.iterL c).dyn.quota))) := by
  exact (Inv_iterL h c hm).2.2

/-- A request created while a slot is free (and, for a receive, the quota allows) goes straight into the array. -/
theorem C14_progress_create (d : DynR) (x : Dyn) (hroom : d.slots.length < d.cap)
    (hq : x.kind.isRecv = true → d.nrecv < d.quota) :
    (d.install x).slots = d.slots ++ [dynSlot x d.last x.kind.isRecv] ∧ (d.install x).sendq = d.sendq ∧
    (d.install x).recvq = d.recvq := by
  rw [install_room hroom hq]
  exact ⟨rfl, rfl, rfl⟩

/-- **Tags.**  With `MAX_MPI_TAG = m`: `next_tag(k)` (for `k ≤ m`) returns the first tag `T` of a block
    `T … T+k-1` of `k` consecutive tags inside `[0, m]` and advances the counter to `T+k ≤ m`; and the blocks of any
    run of consecutive calls with sizes at most `K` summing to at most `m - K` are pairwise disjoint, from any value
    of the counter, roll-over included.  (The engine only calls `next_tag(1)`: any `m - 1` consecutive handshakes
    have distinct tags.) -/
theorem C14_tags (m K : Nat) (ks : List Nat) (v : Nat) (hk : ∀ k, k ∈ ks → k ≤ K) (hsum : ks.sum + K ≤ m) :
    (∀ T k, (T, k) ∈ allocs m v ks → T + k ≤ m) ∧
    (allocs m v ks).Pairwise (fun a b => a.1 + a.2 ≤ b.1 ∨ b.1 + b.2 ≤ a.1) ∧
    (∀ k, k ≤ m → (nextTag m v k).1 + k ≤ m ∧ (nextTag m v k).2 = (nextTag m v k).1 + k) :=
  have ⟨h1, h2⟩ := allocs_spec m K (by omega) ks v hk
  ⟨fun T k h => (h1 T k h).1, h2 hsum, nextTag_range m v⟩

/-- FINDING F1 (replayed on the real code, corpus/C14/020).  The per-process uniqueness above is not enough: the
    data message of a `put` a→b carries a tag drawn from a's counter, the data message of a `get` (b pulls from a)
    travels the same way a→b on the same communicator with a tag drawn from b's counter.  Both counters start at 0
    (`__VAL_NEXT_TAG = 0`), so the first put and the first get between a pair have the same MPI envelope
    (source, destination, tag): MPI may match either send with either receive.  (The Lean statement below says only
    that equal counters yield equal tags; which counter each side draws from is read off the C source.) -/
theorem C14_put_get_tags_collide (m a b : Nat) :
    let envPut : Nat × Nat × Nat := (a, b, (nextTag m 0 1).1)   -- tag chosen by the sender a
    let envGet : Nat × Nat × Nat := (a, b, (nextTag m 0 1).1)   -- tag chosen by the receiver b, same initial counter
    envPut = envGet ∧ ∀ va vb, va = vb → (nextTag m va 1).1 = (nextTag m vb 1).1 :=
  ⟨rfl, fun _ _ h => by rw [h]⟩

/-- Three sends in a dynamic region of three slots. -/
def w0 : St :=
  ((((init 3 3 []).install ⟨0, .putS⟩).install ⟨1, .putS⟩).install ⟨2, .putS⟩)

/-- ASSUMPTION MADE EXPLICIT.  If `MPI_Testsome` reported the completed indices in decreasing order (2 then 0; the
    MPI standard does not promise an order, Open MPI reports them increasing), the removal loop — which walks
    `array_of_indices` backwards and relies on "everything above the current index is live" — drops the still
    active request of slot 1: afterwards it is neither in the array, nor in a FIFO, nor served. -/
theorem C14_testsome_order_matters :
    let s' := w0.iterL [(.dyn 2, []), (.dyn 0, [])]
    (⟨1, .putS⟩ ∈ s'.issued ∧ ⟨1, .putS⟩ ∉ s'.dyn.refs ∧ ⟨1, .putS⟩ ∉ servedDyn s') ∧
    -- while in increasing order nothing is lost
    (let s'' := w0.iterL [(.dyn 0, []), (.dyn 2, [])]
     ⟨1, .putS⟩ ∈ s''.dyn.refs) := by
  decide +kernel

/-- **The oldest posted receive is tested.**  Hypothesis on MPI: a message matches the oldest posted receive that
    holds none (`GPool.arrive`), `MPI_Start` makes a receive the youngest (`GPool.restart`).  Then in every state
    reachable by arrivals and passes (any subset of the window receives that hold a message may be reported, in any
    order — slow rendezvous completions included) the receive that was started longest ago is inside the tested
    window. -/
theorem C14_window_oldest {id n t base : Nat} (h1 : 1 ≤ t) (h2 : t ≤ n) {g : GPool}
    (h : GReach id n t base g) : ∃ r, g.posted.head? = some r ∧ r ∈ winReqs g.p.win :=
  (greach_inv h1 h2 h).oldest_in_window

/-- **Delivery (partial: MPI assumed).**  For one tag, under the matching hypothesis above: every message that
    arrived is in every reachable state (after each arrival, after each whole pass) in exactly one place — delivered
    to the tag callback (once), held by one receive of the pool, or in MPI's unexpected queue; and whenever some
    receive of the pool holds a message, some receive *inside the tested window* holds one, so `MPI_Testsome` can
    report it and the next pass delivers a message (no message is stranded in the untested part of the pool). -/
theorem C14_delivery_partial {id n t base : Nat} (h1 : 1 ≤ t) (h2 : t ≤ n) {g : GPool}
    (h : GReach id n t base g) (hfresh : g.arrived.Nodup) :
    (g.delivered ++ g.held.map (·.2) ++ g.unexp).Perm g.arrived ∧ g.delivered.Nodup ∧
    (g.held ≠ [] → ∃ j r m, g.p.win[j]? = some (amSlot g.p.id r (g.p.base + j)) ∧ (r, m) ∈ g.held) := by
  have hi := greach_inv h1 h2 h
  refine ⟨hi.core.conserve, ?_, hi.no_starvation⟩
  have := hi.core.conserve.nodup_iff.mpr hfresh
  rw [List.append_assoc] at this
  exact (List.nodup_append.mp this).1

/-- CAVEAT (not part of the property statement, which asks for exactly-once and intact): the *order* of delivery
    per tag is not the order of arrival once MPI has reported two window receives out of order (possible when a large
    rendezvous message from one source completes after a later small one from another source).  Here tag 0 has 4
    posted / 2 tested receives; message 11 completes before 10; later 14 and 15 (think: same source) are both complete
    when `MPI_Testsome` is called and are reported together in increasing index order — and 15 is delivered first,
    because the rotation refilled the window in pool order (0, 1) while MPI's posted order had become (1, 0). -/
theorem C14_delivery_order_caveat :
    let g := ((((((((GPool.init 0 4 2 0).arrive 10).arrive 11).pass [1]).pass [0]).arrive 12).arrive 13).pass [0, 1])
    let g' := ((g.arrive 14).arrive 15).pass [0, 1]
    GReach 0 4 2 0 g' ∧ g'.arrived = [10, 11, 12, 13, 14, 15] ∧ g'.delivered = [11, 10, 12, 13, 15, 14] := by
  refine ⟨?_, by decide +kernel, by decide +kernel⟩
  refine GReach.pass _ (GReach.arrive _ (GReach.arrive _ (GReach.pass _ (GReach.arrive _ (GReach.arrive _
    (GReach.pass _ (GReach.pass _ (GReach.arrive _ (GReach.arrive _ GReach.init)) ?_ ?_) ?_ ?_))) ?_ ?_))) ?_ ?_
  all_goals decide +kernel

/-- Two tags: posted 3 / tested 2 and posted 1 / tested 1. -/
def cfgEx : List (Nat × Nat × Nat) := [(0, 3, 2), (1, 1, 1)]

example : ValidCfg cfgEx := by
  intro id n t h
  simp [cfgEx] at h
  rcases h with ⟨_, rfl, rfl⟩ | ⟨_, rfl, rfl⟩ <;> decide

/-- A reachable state (2 dynamic slots, quota 1) after: two gets and a put are created (the second get waits in the
    receive FIFO for the quota), then a pass in which `MPI_Testsome` reports slot 1 (an active message of tag 0 whose
    callback creates a request) and slot 3 (the first get). -/
def exRun : St :=
  (Move.pass [(.win 0 1, [⟨7, .putR⟩]), (.dyn 0, [])]).apply
    ((Move.create ⟨3, .putS⟩).apply ((Move.create ⟨2, .getR⟩).apply ((Move.create ⟨1, .getR⟩).apply (init 2 1 cfgEx))))

example : Reach 2 1 cfgEx exRun := by
  -- the pass is admitted the way the driver admits a real trace: by evaluating the acceptor
  refine Reach.step (Reach.step (Reach.step (Reach.step Reach.init ?_) ?_) ?_)
    (C14_acceptor_sound _ _ (by decide) (by decide) (by decide))
  all_goals show _ ∉ _; decide

/-- What `exRun` looks like: the window of tag 0 rotated (receive 1 was served and restarted, receive 2 entered),
    the completed get left the array, the queued get took its place under the quota, and the request created by the
    callback waits in the receive FIFO. -/
example : exRun.show =
    "L=5 R=1 t0 i=0 w=101 [a0:0 a0:2] t1 i=0 w=1 [a1:0] D[P3 G2r] sq=[] rq=[p7]" := by
  decide +kernel

example : ¬ exRun.dyn.starved := by
  unfold DynR.starved; decide

example : (allocs 7 5 [1, 1, 1, 1, 1]) = [(5, 1), (6, 1), (0, 1), (1, 1), (2, 1)] := by decide

end ParsecVerif.C14
