import ParsecVerif.Proofs.DtdSteps
/-!
# C04 — DTD never runs conflicting accesses at the same time

In every state reachable by the abstract runtime machine (every insertion sequence, every number of
workers, every interleaving, including the writer's AGAIN retry path): no two running tasks conflict
on a datum; a writer does not start while an earlier-inserted reader of the datum is pending or
running; the reader count of the shared copy equals the number of satisfied, unfinished read accesses.
Readers inserted between the same two writers may overlap (witness run).
-/
namespace ParsecVerif.C04
open ParsecVerif.Dtd

/-- the later one has begun, so the earlier one is done -/
theorem not_both_running {p : Prog} {s : St} (h : Inv p s) {t u d : Nat} (hne : t ≠ u)
    (ht : isRunning s t = true) (hu : isRunning s u = true) (hc : conflict p t u d = true) : False := by
  rcases Nat.lt_or_gt_of_ne hne with hlt | hlt
  · exact Bool.false_ne_true (not_done_of_running s t ht ▸ h.prec u t d hlt (started_of_running s u hu) hc)
  · rw [conflict_comm] at hc
    exact Bool.false_ne_true (not_done_of_running s u hu ▸ h.prec t u d hlt (started_of_running s t ht) hc)

/-- **Exclusion.**  Two distinct tasks that conflict on a datum (both use it, one writes it) are never
    running at the same time. -/
theorem C04_exclusion (p : Prog) (nw : Nat) (ms : List Move) (hv : Valid p nw ms) (t u d : Nat)
    (hne : t ≠ u) (ht : isRunning (run p init ms) t = true) (hu : isRunning (run p init ms) u = true)
    (hc : conflict p t u d = true) : False :=
  not_both_running (inv_reachable p nw ms hv) hne ht hu hc

/-- **The writer waits.**  Whenever the machine allows the body of `u` to start, every earlier-inserted
    task that uses a datum `u` writes — in particular every earlier reader of it — has completed (it is
    neither pending nor running). -/
theorem C04_writer_waits (p : Prog) (nw : Nat) (ms : List Move) (hv : Valid p nw ms) (u t d : Nat)
    (hen : enabled p nw (run p init ms) (.start u) = true) (htu : t < u)
    (hr : usesAt p t d = true) (hw : writesAt p u d = true) : isDone (run p init ms) t = true := by
  obtain ⟨hwu, hru, hbu, _⟩ := enabled_start.1 hen
  exact pred_done p _ u (inv_reachable p nw ms hv) (lt_of_status hwu) hru hbu t d htu (conflict_right hr hw)

/-- the same for a writer that has begun (running or done) -/
theorem C04_writer_after_readers (p : Prog) (nw : Nat) (ms : List Move) (hv : Valid p nw ms) (u t d : Nat)
    (hs : started (run p init ms) u = true) (htu : t < u)
    (hr : usesAt p t d = true) (hw : writesAt p u d = true) : isDone (run p init ms) t = true :=
  (inv_reachable p nw ms hv).prec u t d htu hs (conflict_right hr hw)

/-- **Reader counting.**  In every reachable state the reader count of datum `d` is the number of read
    accesses on `d` that are satisfied and whose task has not completed. -/
theorem C04_reader_count (p : Prog) (nw : Nat) (ms : List Move) (hv : Valid p nw ms) (d : Nat) :
    (run p init ms).readers d =
      (run p init ms).accs.countP (fun a => a.d == d && !a.wr && a.act && !isDone (run p init ms) a.t) :=
  (inv_reachable p nw ms hv).readers_eq d

/-- a satisfied flow has a completed parent, and conversely: activation by the completing writer's walk
    and activation by the inserting thread never miss or anticipate a flow -/
theorem C04_activation (p : Prog) (nw : Nat) (ms : List Move) (hv : Valid p nw ms) (a : Acc)
    (ha : a ∈ (run p init ms).accs) : a.act = parentDone (run p init ms) a.parent :=
  (inv_reachable p nw ms hv).act_iff a ha

/-! ## the model is not trivially serial: two readers between the same writers overlap -/

def rw0 (uid : Nat) : Task := { uid := uid, args := [(0, .rw)], rank := 0, kind := .user 1 }
def rd0 (uid : Nat) : Task := { uid := uid, args := [(0, .r)], rank := 0, kind := .user 2 }
def wrrw : Prog := [rw0 0, rd0 1, rd0 2, rw0 3]
def overlapRun : List Move := [.ins, .ins, .ins, .ins, .start 0, .finish 0, .start 1, .start 2]

/-- **Readers may overlap.**  There is a valid run (2 workers) after which the two readers inserted
    between the same two writers are both running, with reader count 2, while the second writer is
    ready but answered AGAIN. -/
theorem C04_readers_may_overlap :
    Valid wrrw 2 overlapRun ∧ isRunning (run wrrw init overlapRun) 1 = true ∧
    isRunning (run wrrw init overlapRun) 2 = true ∧ (run wrrw init overlapRun).readers 0 = 2 ∧
    enabled wrrw 2 (run wrrw init overlapRun) (.again 3) = true ∧
    enabled wrrw 2 (run wrrw init overlapRun) (.start 3) = false := by
  exact ⟨firstBad_none _ _ _ _ 0 (by decide), by decide⟩

/-! Non-vacuity of the hypotheses of the theorems above on that run. -/
example : conflict wrrw 1 3 0 = true ∧ conflict wrrw 0 1 0 = true ∧ conflict wrrw 1 2 0 = false := by decide
example : Valid wrrw 2 (overlapRun ++ [.again 3, .finish 1, .again 3, .finish 2, .start 3, .finish 3]) :=
  firstBad_none _ _ _ _ 0 (by decide)
example : enabled wrrw 2 (run wrrw init (overlapRun ++ [.finish 1, .finish 2])) (.start 3) = true := by decide

end ParsecVerif.C04
