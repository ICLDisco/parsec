import ParsecVerif.Proofs.RwLockSafe
import ParsecVerif.Proofs.RwLock32
/-!
# C33 — the runtime read-write lock excludes correctly and makes progress

Model: `Model/RwLock.lean`, the phase-fair ticket lock configured in `parsec/class/parsec_rwlock.h`
(`PARSEC_RWLOCK_IMPL_TICKET`), one transition per atomic primitive / barrier / spin re-read / plain
access to a shared field.  A configuration is a list of threads, each with its own list of lock
cycles (`rd` = rdlock … rdunlock, `wr` = wrlock … wrunlock); a schedule is any list of thread ids.
All theorems are for ANY number of threads, ANY programs, ANY schedule and any initial value
`(a, b)` of the counters.  `run 0` is the machine over the naturals, `run M32` the machine over the
32-bit fields; `C33_refine32` relates the two for fewer than 2^24 threads, and `C33_exclusion32`
is mutual exclusion for the latter.
-/
namespace ParsecVerif.C33
open ParsecVerif.RwLock

def reach (a b : Nat) (progs : List (List Kind)) (sched : List Nat) : State := run 0 (init a b progs) sched

theorem reach_inv (a b : Nat) (progs : List (List Kind)) (sched : List Nat) : Inv (reach a b progs sched) :=
  inv_run _ _ (inv_init a b progs)

/-- **Mutual exclusion.**  In every reachable state at most one thread is inside the write critical
    section, and if one is, no thread is inside the read critical section. -/
theorem C33_exclusion (a b : Nat) (progs : List (List Kind)) (sched : List Nat) :
    writersIn (reach a b progs sched) ≤ 1 ∧
    (writersIn (reach a b progs sched) = 1 → readersIn (reach a b progs sched) = 0) :=
  excl_counts _ (reach_inv a b progs sched)

/-- the same, thread by thread: a writer inside excludes every other thread, reader or writer -/
theorem C33_exclusion_threads (a b : Nat) (progs : List (List Kind)) (sched : List Nat) (i j t : Nat) (x y : Thread)
    (hij : i ≠ j) (hi : (reach a b progs sched).th[i]? = some x) (hj : (reach a b progs sched).th[j]? = some y)
    (hx : x.pc = .wIn t) : y.pc ≠ .rIn ∧ ∀ t', y.pc ≠ .wIn t' := by
  obtain ⟨h1, -, h3⟩ := alone (reach_inv a b progs sched) hij hi hj (by rw [gof, hx]; rfl)
  exact ⟨fun e => h3 (by rw [gof, e]; rfl), fun t' e => h1 (by rw [gof, e]; rfl)⟩

/-- **Writers enter in ticket order.**  Along every schedule the tickets of the writers, recorded at
    the moment each enters the write critical section, are `b, b+1, b+2, …` without gap or repetition.
    The order in which the tickets were drawn (`fetch_inc(&win)`, `wTick`) is not part of the statement. -/
theorem C33_ticket_order (a b : Nat) (progs : List (List Kind)) (sched : List Nat) :
    (runL (init a b progs) sched).2 = List.range' b (runL (init a b progs) sched).2.length :=
  (log_run a b progs sched).2.1

/-- the writer inside holds the ticket that `wout` currently shows -/
theorem C33_holder_ticket (a b : Nat) (progs : List (List Kind)) (sched : List Nat) (i t : Nat) (x : Thread)
    (hi : (reach a b progs sched).th[i]? = some x) (hx : x.pc = .wIn t) : t = (reach a b progs sched).wout := by
  have := (reach_inv a b progs sched).pt i x hi
  rw [hx] at this
  exact this

/-- **Readers may share.**  Two (three) readers are inside together in a reachable state. -/
theorem C33_readers_share :
    (∃ sched, readersIn (reach 0 0 [[.rd], [.rd]] sched) = 2) ∧
    (∃ sched, readersIn (reach 0 0 [[.rd], [.wr], [.rd], [.rd]] sched) = 3) :=
  ⟨⟨[0, 0, 0, 1, 1, 1], by decide⟩, ⟨[0, 0, 0, 2, 2, 2, 1, 1, 3, 3, 3], by decide⟩⟩

/-- **No deadlock.**  In every reachable state in which some thread has not finished its program,
    some thread can take a step that changes the state (a thread waiting in a spin loop whose
    condition is false does not count: its step leaves the state unchanged). -/
theorem C33_no_deadlock (a b : Nat) (progs : List (List Kind)) (sched : List Nat) (i0 : Nat) (x0 : Thread)
    (h0 : (reach a b progs sched).th[i0]? = some x0) (hnd : x0.pc ≠ .done) :
    ∃ (i : Nat) (x : Thread), (reach a b progs sched).th[i]? = some x ∧ canMove (reach a b progs sched) x.pc = true ∧
      step 0 (reach a b progs sched) i ≠ reach a b progs sched := by
  obtain ⟨i, x, hi, hc⟩ := exists_canMove _ (reach_inv a b progs sched) x0 i0 h0 hnd
  refine ⟨i, x, hi, hc, ?_⟩
  intro he
  have := mu_step_lt 0 _ i x hi hc
  rw [he] at this
  exact Nat.lt_irrefl _ this

def isSpin : Pc → Bool
  | .rSpin _ => true
  | .wSpin1 _ => true
  | .wSpin2 _ _ => true
  | _ => false

/-- **Progress.**  In every reachable state in which nobody is inside or in the middle of a lock or
    unlock operation (every thread is finished or waits in a spin loop) and some thread waits, the spin
    condition of some waiting thread holds: it stops waiting at its next step. -/
theorem C33_progress (a b : Nat) (progs : List (List Kind)) (sched : List Nat)
    (hall : ∀ x ∈ (reach a b progs sched).th, x.pc = .done ∨ isSpin x.pc = true)
    (i0 : Nat) (x0 : Thread) (h0 : (reach a b progs sched).th[i0]? = some x0) (hw : isSpin x0.pc = true) :
    ∃ (i : Nat) (x : Thread), (reach a b progs sched).th[i]? = some x ∧ isSpin x.pc = true ∧
      blocked (reach a b progs sched) x.pc = false := by
  have hnd : x0.pc ≠ .done := by intro h; rw [h] at hw; cases hw
  obtain ⟨i, x, hi, hc, _⟩ := C33_no_deadlock a b progs sched i0 x0 h0 hnd
  rw [canMove_eq] at hc
  simp only [Bool.and_eq_true, Bool.not_eq_true', decide_eq_true_eq] at hc
  rcases hall x (List.mem_of_getElem? hi) with hd | hs
  · exact absurd hd hc.1
  · exact ⟨i, x, hi, hs, hc.2⟩

/-- **Measure.**  Every step either leaves the state unchanged (a finished thread, or a waiting
    thread whose spin condition is false) or strictly decreases the natural number `mu`. -/
theorem C33_measure (M : Nat) (s : State) (i : Nat) : step M s i = s ∨ mu (step M s i) < mu s :=
  mu_step_cases M s i

theorem mu_init (a b : Nat) (progs : List (List Kind)) :
    mu (init a b progs) = progs.length + ((progs.map fun p => (p.map cost).sum)).sum := by
  unfold mu init
  simp only
  induction progs with
  | nil => rfl
  | cons p ps ih =>
    simp only [List.map_cons, List.sum_cons, List.length_cons, muT, rank] at ih ⊢
    omega

/-- **Liveness under fairness.**  Every schedule made of at least `mu (init …)` fair rounds — in each
    round every thread is scheduled at least once, in any order, any number of times — runs every
    thread to the end of its program: every `rdlock`/`wrlock` issued has returned (every waiting thread
    acquired the lock) and has been released.  `mu (init …) = #threads + 8·#read cycles + 13·#write cycles`
    (`mu_init`). -/
theorem C33_fair_termination (a b : Nat) (progs : List (List Kind)) (rounds : List (List Nat))
    (hfair : ∀ r ∈ rounds, ∀ i, i < progs.length → i ∈ r)
    (hlen : mu (init a b progs) ≤ rounds.length) :
    allDone (reach a b progs rounds.flatten) := by
  apply fair_rounds_terminate _ (inv_init a b progs) rounds _ hlen
  intro r hr i hi
  apply hfair r hr i
  simpa [init] using hi

/-- **Distance of a waiting writer.**  When another writer is about to complete its release (it is at
    `wStore`, the store of `wout = wout + 1`), a writer waiting with ticket `t` is `t - wout ≥ 1` write
    releases away from its turn, and that store decreases the distance by exactly one.  A holder at an
    earlier program point is not covered by the statement. -/
theorem C33_writer_distance (a b : Nat) (progs : List (List Kind)) (sched : List Nat) (i k t t' v : Nat) (x y : Thread)
    (hi : (reach a b progs sched).th[i]? = some x) (hx : x.pc = .wSpin1 t)
    (hk : (reach a b progs sched).th[k]? = some y) (hy : y.pc = .wStore t' v) :
    (step 0 (reach a b progs sched) k).wout = (reach a b progs sched).wout + 1 ∧
    (reach a b progs sched).wout < t := by
  have hinv := reach_inv a b progs sched
  have h1 := hinv.pt i x hi
  have h2 := hinv.pt k y hk
  have hpos := cnt_pos _ k y hk
  rw [hx] at h1
  rw [hy] at h2 hpos
  simp only [PT, PTv, H, n, cls] at h1 h2 hpos
  constructor
  · unfold step
    rw [hk]
    obtain ⟨pc, prog⟩ := y
    simp only at hy
    subst hy
    simp only [stepT, setT, Nat.mod_zero]
    omega
  · omega

/-- **Refinement to the 32-bit fields.**  With fewer than `2^24` threads, the machine whose counters
    and locals are 32-bit words (all additions modulo `2^32`, equality tests on the wrapped values)
    goes, under every schedule, through exactly the images of the states of the machine over the
    naturals. -/
theorem C33_refine32 (a b : Nat) (progs : List (List Kind)) (sched : List Nat) (hn : progs.length < 16777216) :
    run M32 (wrapS M32 (init a b progs)) sched = wrapS M32 (reach a b progs sched) :=
  wrapS_run (by decide) _ sched (inv_init a b progs) (by simpa [init, M32] using hn)

/-- mutual exclusion for the machine over 32-bit words (fewer than `2^24` threads) -/
theorem C33_exclusion32 (a b : Nat) (progs : List (List Kind)) (sched : List Nat) (hn : progs.length < 16777216) :
    writersIn (run M32 (wrapS M32 (init a b progs)) sched) ≤ 1 ∧
    (writersIn (run M32 (wrapS M32 (init a b progs)) sched) = 1 →
      readersIn (run M32 (wrapS M32 (init a b progs)) sched) = 0) := by
  rw [C33_refine32 a b progs sched hn, wrap_writersIn, wrap_readersIn]
  exact C33_exclusion a b progs sched

/-- A state the cooperative scheduler sees (a step = up to the next yield point) is a state of some run
    of the fine-grained machine, so what holds of every state of a run (exclusion, the holder's ticket,
    no deadlock) holds of it.  Nothing more is said of `l`: the theorems about schedules (fair
    termination, the ticket log) are not carried over by this statement. -/
theorem C33_macro (M : Nat) (s : State) (sched : List Nat) : ∃ l, macroRun M s sched = run M s l :=
  macroRun_eq_run M s sched

example : (reach 0 0 [[.wr], [.rd], [.wr]] [0, 0, 0, 0, 0, 0, 1, 1, 1, 2, 2, 2]).th.map (·.pc) =
    [.wIn 0, .rSpin 2, .wSpin1 1] := by decide

set_option maxRecDepth 8000 in
example : (runL (init 0 5 [[.wr], [.rd], [.wr, .wr]]) (List.replicate 31 [2, 0, 1]).flatten).2 = [5, 6, 7] := by decide

set_option maxRecDepth 8000 in
/-- a fair schedule of 28 rounds finishes three threads with five lock cycles (the bound is 53) -/
example : (reach 0 0 [[.wr, .rd], [.rd], [.wr, .rd]] (List.replicate 28 [0, 1, 2]).flatten).th.map (·.pc) =
    [.done, .done, .done] := by decide

example : mu (init 0 0 [[.wr, .rd], [.rd], [.wr, .rd]]) = 53 := by decide

/-- the 32-bit machine started just below the wrap-around of all four counters -/
example : run M32 (wrapS M32 (init 16777215 4294967295 [[.wr], [.rd]])) [0, 0, 0, 1, 1, 0] =
    { rin := 3, rout := 4294967040, win := 0, wout := 4294967295,
      th := [⟨.wSpin2 4294967295 0, []⟩, ⟨.rFence, []⟩] } := by decide

example : ((reach 0 0 [[.rd], [.wr], [.wr]] [0, 0, 0, 1, 1, 1, 1, 1, 2, 2, 2]).th.map (·.pc)) =
    [.rIn, .wSpin2 0 256, .wSpin1 1] := by decide

end ParsecVerif.C33
