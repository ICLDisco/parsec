import ParsecVerif.Proofs.PList
import ParsecVerif.Proofs.PListSort
import ParsecVerif.Proofs.PListLock
/-!
# C31 — lists and dequeues keep their contents and order

Model: `ParsecVerif.PList` (mirrors parsec/class/list.h and list_item.h branch by branch: the pivot
heuristic with both search directions, the moving cursor of chain_sorted, the `insize` passes of the
bottom-up merge sort, the ring search).  Priorities are unbounded integers, ties are everywhere.
-/
namespace ParsecVerif.C31
open ParsecVerif.PList

/-- `parsec_list_nolock_push_sorted` on a sorted list, whichever way the pivot heuristic sends the search: both
    search directions give the same list, the order is kept and the new item sits after every item of
    greater-or-equal priority. -/
theorem push_sorted_spec (l : List Item) (x : Item) (hs : SortedDesc l) :
    pushSorted l x = insFwd x l ∧ insBwd x l = insFwd x l ∧ SortedDesc (pushSorted l x) ∧
    ∃ a b, l = a ++ b ∧ pushSorted l x = a ++ x :: b ∧
      (∀ y ∈ a, x.prio ≤ y.prio) ∧ (∀ y ∈ b, y.prio < x.prio) := by
  obtain ⟨a, b, e, ha, hb⟩ := sorted_split_ge x l hs
  have hf : insFwd x l = a ++ x :: b := e ▸ insFwd_split x a b ha hb
  have hbw : insBwd x l = a ++ x :: b := e ▸ insBwd_split x a b ha hb
  have hp : pushSorted l x = a ++ x :: b := by
    unfold pushSorted
    split
    · exact hf
    · split
      · exact hf
      · exact hbw
  refine ⟨hp.trans hf.symm, hbw.trans hf.symm, ?_, a, b, e, hp, ha, hb⟩
  rw [hp]; exact sortedDesc_insert x a b (e ▸ hs) ha fun y hy => Int.le_of_lt (hb y hy)

/-- contents are kept whatever the state of the list (sorted or not) -/
theorem push_sorted_perm (l : List Item) (x : Item) : (pushSorted l x).Perm (x :: l) := by
  unfold pushSorted
  split
  · exact .refl _
  · split
    · exact insFwd_perm x _
    · exact insBwd_perm x _

theorem insFwd_sorted (x : Item) (l : List Item) (hs : SortedDesc l) : SortedDesc (insFwd x l) := by
  have h := push_sorted_spec l x hs
  rw [← h.1]; exact h.2.2.1

/-- on an unsorted list the two search directions really differ (so the heuristic is only sound
    because callers keep the list sorted) -/
theorem directions_differ_when_unsorted :
    ∃ l x, insFwd x l ≠ insBwd x l := ⟨[⟨1, 0⟩, ⟨3, 1⟩], ⟨2, 2⟩, by decide⟩

def insertAll (l ring : List Item) : List Item := ring.foldl (fun acc x => insFwd x acc) l

theorem chainFold_eq_insertAll (ring : List Item) (l : List Item) (i : Nat) (hs : SortedDesc l) (hi : i ≤ l.length - 1) :
    (ring.foldl chainStep (l, i)).1 = insertAll l ring := by
  induction ring generalizing l i with
  | nil => rfl
  | cons x t ih =>
    obtain ⟨j, hj, e⟩ := chainStep_eq_insFwd l i x hs hi
    rw [List.foldl_cons, e]
    exact ih _ _ (insFwd_sorted x l hs) hj

def ofPrio (k : Int) (l : List Item) : List Item := l.filter (fun y => decide (y.prio = k))

theorem insFwd_ofPrio (x : Item) (l : List Item) (hs : SortedDesc l) (k : Int) :
    ofPrio k (insFwd x l) = ofPrio k l ++ ofPrio k [x] := by
  obtain ⟨a, b, rfl, ha, hb⟩ := sorted_split_ge x l hs
  rw [insFwd_split x a b ha hb]
  unfold ofPrio
  simp only [List.filter_append, List.filter_cons, List.filter_nil]
  by_cases hk : x.prio = k
  · have : b.filter (fun y => decide (y.prio = k)) = [] :=
      List.filter_eq_nil_iff.2 fun y hy => by have := hb y hy; simp only [decide_eq_true_eq]; omega
    simp [hk, this]
  · simp [hk]

theorem insertAll_spec (ring l : List Item) (hs : SortedDesc l) :
    SortedDesc (insertAll l ring) ∧ ∀ k, ofPrio k (insertAll l ring) = ofPrio k l ++ ofPrio k ring := by
  induction ring generalizing l with
  | nil => exact ⟨hs, fun k => (List.append_nil _).symm⟩
  | cons x t ih =>
    obtain ⟨h1, h2⟩ := ih _ (insFwd_sorted x l hs)
    refine ⟨h1, fun k => ?_⟩
    rw [insertAll, List.foldl_cons, ← insertAll, h2, insFwd_ofPrio x l hs k, List.append_assoc]
    exact congrArg _ (List.filter_append [x] t).symm

/-- contents are kept whatever the state of the list -/
theorem chain_sorted_perm (l ring : List Item) : (chainSorted l ring).Perm (l ++ ring) :=
  chainSorted_eq l ring ▸ chainFold_perm ring (l, l.length - 1)

/-- `parsec_list_nolock_chain_sorted` on a sorted list: the cursor optimisation is equivalent to
    inserting the items of the ring one by one (each after the items of greater-or-equal priority);
    the result is sorted, a permutation, and a stable merge: items of equal priority keep the order
    "those of the list first, then those of the ring in ring order". -/
theorem chain_sorted_spec (l ring : List Item) (hs : SortedDesc l) :
    chainSorted l ring = insertAll l ring ∧ SortedDesc (chainSorted l ring) ∧
    (chainSorted l ring).Perm (l ++ ring) ∧
    ∀ k, ofPrio k (chainSorted l ring) = ofPrio k l ++ ofPrio k ring := by
  have h : chainSorted l ring = insertAll l ring := chainSorted_eq l ring ▸ chainFold_eq_insertAll ring l _ hs (Nat.le_refl _)
  exact ⟨h, h ▸ (insertAll_spec ring l hs).1, chain_sorted_perm l ring, h ▸ (insertAll_spec ring l hs).2⟩

/-- `parsec_list_nolock_sort`: a permutation in non-decreasing priority order, for every list -/
theorem sort_spec (l : List Item) : SortedAsc (sortList l) ∧ (sortList l).Perm l := by
  unfold sortList
  cases l with
  | nil => exact ⟨.nil, .refl _⟩
  | cons h t => exact ⟨msortLoop_sorted 1 (Nat.le_refl 1) _ (chunkSorted_one _), msortLoop_perm 1 _⟩

/-- the merge takes the `q` run first on ties (the macro is a strict `<`), so the sort is NOT
    stable, contrary to the comment "lower (or same)" in the source; C31 does not ask for it. -/
theorem sort_not_stable : ∃ l, ofPrio 1 (sortList l) ≠ ofPrio 1 l :=
  ⟨[⟨1, 0⟩, ⟨1, 1⟩], by simp [sortList, msortLoop, pass, mergeQ, ofPrio]⟩

/-- `parsec_list_item_ring_push_sorted` keeps the ring non-increasing (new item BEFORE equal ones). -/
theorem ring_push_sorted_spec (r : List Item) (x : Item) (hs : SortedDesc r) :
    SortedDesc (ringPushSorted r x) ∧ (ringPushSorted r x).Perm (x :: r) ∧
    ∃ a b, r = a ++ b ∧ ringPushSorted r x = a ++ x :: b ∧
      (∀ y ∈ a, x.prio < y.prio) ∧ (∀ y ∈ b, y.prio ≤ x.prio) := by
  obtain ⟨a, b, e, ha, hb⟩ := sorted_split (p := fun y => x.prio < y.prio) (fun _ _ h1 h2 => Int.lt_of_lt_of_le h2 h1) r hs
  have hb : ∀ y ∈ b, y.prio ≤ x.prio := fun y hy => Int.not_lt.1 (hb y hy)
  have hr : insRing x r = a ++ x :: b := e ▸ insRing_split x a b ha hb
  have hp : ringPushSorted r x = insRing x r := by cases r <;> rfl
  refine ⟨?_, hp ▸ insRing_perm x r, a, b, e, hp.trans hr, ha, hb⟩
  rw [hp, hr]; exact sortedDesc_insert x a b (e ▸ hs) (fun y hy => Int.le_of_lt (ha y hy)) hb

inductive DOp
  | pushFront (x : Item) | pushBack (x : Item) | pushSorted (x : Item)
  | chainFront (r : List Item) | chainBack (r : List Item) | chainSorted (r : List Item)
  | sort | popFront | popBack

/-- state: the list and the items popped so far (in pop order) -/
def dstep (st : List Item × List Item) : DOp → List Item × List Item
  | .pushFront x => (pushFront st.1 x, st.2)
  | .pushBack x => (pushBack st.1 x, st.2)
  | .pushSorted x => (pushSorted st.1 x, st.2)
  | .chainFront r => (chainFront st.1 r, st.2)
  | .chainBack r => (chainBack st.1 r, st.2)
  | .chainSorted r => (chainSorted st.1 r, st.2)
  | .sort => (sortList st.1, st.2)
  | .popFront => ((popFront st.1).2, st.2 ++ (popFront st.1).1.toList)
  | .popBack => ((popBack st.1).2, st.2 ++ (popBack st.1).1.toList)

def given : DOp → List Item
  | .pushFront x | .pushBack x | .pushSorted x => [x]
  | .chainFront r | .chainBack r | .chainSorted r => r
  | _ => []

theorem dstep_perm (st : List Item × List Item) (op : DOp) :
    ((dstep st op).2 ++ (dstep st op).1).Perm (st.2 ++ st.1 ++ given op) := by
  rw [List.append_assoc]
  cases op with
  | pushFront x => exact .append_left _ (List.perm_append_singleton x st.1).symm
  | pushSorted x => exact .append_left _ ((push_sorted_perm st.1 x).trans (List.perm_append_singleton x st.1).symm)
  | chainFront r => exact .append_left _ List.perm_append_comm
  | pushBack x | chainBack r => exact .refl _
  | chainSorted r => exact .append_left _ (chain_sorted_perm st.1 r)
  | sort => exact .append_left _ ((sort_spec st.1).2.trans (.of_eq (List.append_nil _).symm))
  | popFront => simpa [dstep, given] using (List.Perm.of_eq (popFront_eq st.1)).append_left st.2
  | popBack =>
    simpa [dstep, given] using (List.perm_append_comm.trans (.of_eq (popBack_eq st.1))).append_left st.2

def givenAll (ops : List DOp) : List Item := (ops.map given).flatten

theorem drun_perm (ops : List DOp) (st : List Item × List Item) :
    ((ops.foldl dstep st).2 ++ (ops.foldl dstep st).1).Perm (st.2 ++ st.1 ++ givenAll ops) := by
  induction ops generalizing st with
  | nil => simp [givenAll]
  | cons op t ih =>
    refine (ih (dstep st op)).trans (((dstep_perm st op).append_right _).trans (.of_eq ?_))
    simp [givenAll]

/-- Conservation, for EVERY sequence of push / pop / chain / sorted-insert / sort calls on a list that
    starts empty: the items popped so far together with the current contents are exactly the items
    handed in (nothing lost, nothing duplicated) — whether or not the list was kept sorted. -/
theorem deque_conservation (ops : List DOp) :
    ((ops.foldl dstep ([], [])).2 ++ (ops.foldl dstep ([], [])).1).Perm (givenAll ops) := by
  simpa using drun_perm ops ([], [])

/-- fifo.h: push = push_back, chain = chain_back, pop = pop_front -/
inductive FOp
  | push (x : Item) | chain (r : List Item) | pop

def fstep (st : List Item × List Item) : FOp → List Item × List Item
  | .push x => (pushBack st.1 x, st.2)
  | .chain r => (chainBack st.1 r, st.2)
  | .pop => ((popFront st.1).2, st.2 ++ (popFront st.1).1.toList)

def fgiven : FOp → List Item
  | .push x => [x] | .chain r => r | .pop => []

theorem frun_order (ops : List FOp) (st : List Item × List Item) :
    (ops.foldl fstep st).2 ++ (ops.foldl fstep st).1 = st.2 ++ st.1 ++ (ops.map fgiven).flatten := by
  induction ops generalizing st with
  | nil => simp
  | cons op t ih =>
    simp only [List.foldl_cons, List.map_cons, List.flatten_cons]
    rw [ih (fstep st op)]
    cases op with
    | push x => simp [fstep, fgiven, pushBack]
    | chain r => simp [fstep, fgiven, chainBack]
    | pop => simp [fstep, fgiven, List.append_assoc, popFront_eq]

/-- FIFO order, for EVERY sequence of fifo calls: the items popped so far followed by the current
    contents are the items pushed, in push order (chains keep their ring order). -/
theorem fifo_order (ops : List FOp) :
    (ops.foldl fstep ([], [])).2 ++ (ops.foldl fstep ([], [])).1 = (ops.map fgiven).flatten := by
  simpa using frun_order ops ([], [])

/-- the calls that keep a list sorted -/
inductive SOp
  | pushSorted (x : Item) | chainSorted (r : List Item) | popFront | popBack

def sstep (l : List Item) : SOp → List Item
  | .pushSorted x => pushSorted l x
  | .chainSorted r => chainSorted l r
  | .popFront => (popFront l).2
  | .popBack => (popBack l).2

theorem sstep_sorted (l : List Item) (op : SOp) (hs : SortedDesc l) : SortedDesc (sstep l op) := by
  cases op with
  | pushSorted x => exact (push_sorted_spec l x hs).2.2.1
  | chainSorted r => exact (chain_sorted_spec l r hs).2.1
  | popFront =>
    have := List.sublist_append_right (popFront l).1.toList (popFront l).2
    rw [popFront_eq] at this; exact hs.sublist this
  | popBack =>
    have := List.sublist_append_left (popBack l).2 (popBack l).1.toList
    rw [popBack_eq] at this; exact hs.sublist this

/-- Invariant, for EVERY sequence of push_sorted / chain_sorted / pop_front / pop_back calls: a list
    that starts empty (or sorted) is in non-increasing priority order after every call. -/
theorem sorted_invariant (ops : List SOp) (l : List Item) (hs : SortedDesc l) :
    SortedDesc (ops.foldl sstep l) :=
  Interleave.foldl_inv sstep_sorted ops hs

/-- consequence used by the schedulers: pop_front of a sorted list returns an item of maximal
    priority -/
theorem pop_front_max (l : List Item) (hs : SortedDesc l) (x : Item) (h : (popFront l).1 = some x) :
    ∀ y ∈ l, y.prio ≤ x.prio := by
  cases l with
  | nil => cases h
  | cons a t => cases h; exact List.forall_mem_cons.2 ⟨Int.le_refl _, (List.pairwise_cons.1 hs).1⟩

/-- Linearizability of the locked list / dequeue / fifo calls, for EVERY number of threads, EVERY
    program (sequence of locked calls) per thread, EVERY initial list and EVERY schedule of the atomic
    steps: the ghost history (calls in the order of their linearization points — the critical
    section, the unlocked emptiness test that answered "empty", or the failed trylock)
    * replayed sequentially from the initial list produces exactly the current list and exactly the
      values the calls returned,
    * contains, for each thread, exactly the calls whose linearization point it has passed, in
      program order (so it is an interleaving of the programs),
    * records for each call the sequential operation it amounts to: the call itself, or `tryFail` (no
      effect, NULL) for a try_pop call that lost the trylock — the documented spurious miss.  (`tryFail` is
      a constructor of `LOp`, so a program may also contain it as a call; it is then recorded as itself.) -/
theorem locked_linearizable (progs : List (List LOp)) (l0 : List Item) (sched : List Nat) :
    replay l0 (lrun progs (linit l0 progs.length) sched).hist = ((lrun progs (linit l0 progs.length) sched).l, true) ∧
    (∀ t pc prog, (lrun progs (linit l0 progs.length) sched).pcs[t]? = some pc → progs[t]? = some prog →
        proj t (lrun progs (linit l0 progs.length) sched).hist = prog.take (linCount pc)) ∧
    (∀ e ∈ (lrun progs (linit l0 progs.length) sched).hist, effOk e) := by
  have h := linv_run sched (linv_init progs l0)
  exact ⟨h.rep, fun t pc prog hp => h.order t pc hp prog, h.eff⟩

/-- Mutual exclusion of the CAS spin lock as used by the list, every interleaving: at most one thread
    is between its successful CAS and its unlock, and exactly then the lock word is 1.  (In the model the
    critical section is already one step, taken with the CAS; what goes on inside one is not interleaved.) -/
theorem locked_mutex (progs : List (List LOp)) (l0 : List Item) (sched : List Nat) :
    (lrun progs (linit l0 progs.length) sched).pcs.countP isFence =
      if (lrun progs (linit l0 progs.length) sched).lock then 1 else 0 :=
  (linv_run sched (linv_init progs l0)).mutex

/-- At quiescence (every thread has returned from its last call) the history is a complete
    linearization: each thread's calls appear exactly once, in program order. -/
theorem locked_complete (progs : List (List LOp)) (l0 : List Item) (sched : List Nat)
    (hq : ∀ (t : Nat) (prog : List LOp), progs[t]? = some prog → (lrun progs (linit l0 progs.length) sched).pcs[t]? = some (Pc.idle prog.length)) :
    ∀ t prog, progs[t]? = some prog → proj t (lrun progs (linit l0 progs.length) sched).hist = prog := by
  intro t prog hp
  have h := (locked_linearizable progs l0 sched).2.1 t _ prog (hq t prog hp) hp
  simpa [linCount] using h

/-- Real-time order.  Cut any execution at any moment (`sched1`), continue arbitrarily (`sched2`): the
    history at the cut is a prefix of the later history, and at the cut it contains, for each thread,
    exactly the calls whose linearization point has passed (`linCount` of its program point: all the
    calls that have returned, none of the calls not yet invoked).  These are the two facts from which
    "a call that returned before another one was invoked precedes it in the linearization" follows; that
    sentence itself is not stated: the machine has no invocation and return stamps. -/
theorem locked_realtime (progs : List (List LOp)) (l0 : List Item) (sched1 sched2 : List Nat) :
    (∃ suf, (lrun progs (linit l0 progs.length) (sched1 ++ sched2)).hist =
            (lrun progs (linit l0 progs.length) sched1).hist ++ suf) ∧
    (∀ t pc prog, (lrun progs (linit l0 progs.length) sched1).pcs[t]? = some pc → progs[t]? = some prog →
        (proj t (lrun progs (linit l0 progs.length) sched1).hist).length = min (linCount pc) prog.length) := by
  refine ⟨?_, fun t pc prog h1 h2 => ?_⟩
  · -- restart the invariant at the cut: its index `h0` becomes the history reached by `sched1`
    obtain ⟨suf, h⟩ := (linv_run sched2 { linv_run sched1 (linv_init progs l0) with pre := List.prefix_rfl }).pre
    exact ⟨suf, by rw [lrun, List.foldl_append]; exact h.symm⟩
  · rw [(locked_linearizable progs l0 sched1).2.1 t pc prog h1 h2, List.length_take]

def exL : List Item := [⟨5, 0⟩, ⟨3, 1⟩, ⟨3, 2⟩, ⟨1, 3⟩]

theorem exL_sorted : SortedDesc exL := by unfold SortedDesc exL; decide

-- forward search (3 > pivot 0): after both existing items of priority 3
example : pushSorted exL ⟨3, 9⟩ = [⟨5, 0⟩, ⟨3, 1⟩, ⟨3, 2⟩, ⟨3, 9⟩, ⟨1, 3⟩] := by decide
-- backward search (0 ≤ pivot): same rule, found from the tail
example : pushSorted exL ⟨0, 9⟩ = exL ++ [⟨0, 9⟩] := by decide
example : pushSorted [⟨-1, 0⟩, ⟨-4, 1⟩, ⟨-4, 2⟩] ⟨-4, 9⟩ = [⟨-1, 0⟩, ⟨-4, 1⟩, ⟨-4, 2⟩, ⟨-4, 9⟩] := by decide
-- the pivot expression is 1 exactly when the whole sum is 2, e.g. head 2, tail 1
example : pivot 2 1 = 1 ∧ pivot 5 1 = 0 ∧ pivot 100 50 = 0 := by decide
example : SortedDesc (pushSorted exL ⟨3, 9⟩) := (push_sorted_spec exL ⟨3, 9⟩ exL_sorted).2.2.1

-- chain_sorted: cursor restarts (4 after 3), ties go after existing ones, ring order kept among ties
example : chainSorted exL [⟨3, 7⟩, ⟨4, 8⟩, ⟨0, 9⟩, ⟨3, 10⟩] =
    [⟨5, 0⟩, ⟨4, 8⟩, ⟨3, 1⟩, ⟨3, 2⟩, ⟨3, 7⟩, ⟨3, 10⟩, ⟨1, 3⟩, ⟨0, 9⟩] := by decide
example : ofPrio 3 (chainSorted exL [⟨3, 7⟩, ⟨4, 8⟩, ⟨0, 9⟩, ⟨3, 10⟩]) = [⟨3, 1⟩, ⟨3, 2⟩, ⟨3, 7⟩, ⟨3, 10⟩] := by
  rw [(chain_sorted_spec exL _ exL_sorted).2.2.2 3]; decide
example : chainSorted [] [⟨1, 0⟩, ⟨2, 1⟩, ⟨1, 2⟩] = [⟨2, 1⟩, ⟨1, 0⟩, ⟨1, 2⟩] := by decide

example : SortedAsc (sortList [⟨3, 0⟩, ⟨1, 1⟩, ⟨2, 2⟩, ⟨1, 3⟩, ⟨3, 4⟩]) ∧
    (sortList [⟨3, 0⟩, ⟨1, 1⟩, ⟨2, 2⟩, ⟨1, 3⟩, ⟨3, 4⟩]).Perm [⟨3, 0⟩, ⟨1, 1⟩, ⟨2, 2⟩, ⟨1, 3⟩, ⟨3, 4⟩] := sort_spec _

-- ring: the new item goes BEFORE the items of equal priority; a new maximum becomes the ring head
example : ringPushSorted exL ⟨3, 9⟩ = [⟨5, 0⟩, ⟨3, 9⟩, ⟨3, 1⟩, ⟨3, 2⟩, ⟨1, 3⟩] := by decide
example : ringPushSorted exL ⟨7, 9⟩ = ⟨7, 9⟩ :: exL := by decide
example : ringPushSorted exL ⟨0, 9⟩ = exL ++ [⟨0, 9⟩] := by decide

example : (([.push ⟨1, 0⟩, .chain [⟨2, 1⟩, ⟨0, 2⟩], .pop, .push ⟨5, 3⟩, .pop] : List FOp).foldl fstep ([], [])) =
    ([⟨0, 2⟩, ⟨5, 3⟩], [⟨1, 0⟩, ⟨2, 1⟩]) := by decide
example : SortedDesc (([.pushSorted ⟨1, 0⟩, .chainSorted [⟨2, 1⟩, ⟨1, 2⟩], .popBack, .pushSorted ⟨2, 3⟩] : List SOp).foldl sstep []) :=
  sorted_invariant _ [] List.Pairwise.nil
example : (popFront exL).1 = some ⟨5, 0⟩ := by decide

-- a concurrent execution: thread 0 push_sorted then pop_front, thread 1 try_pop_back then push_back;
-- thread 1 loses the trylock (step 3) while thread 0 is between its CAS and its unlock
def exProgs : List (List LOp) := [[.pushSorted ⟨4, 10⟩, .popFront], [.tryPopBack, .pushBack ⟨0, 11⟩]]
def exSched : List Nat := [0, 1, 0, 1, 0, 1, 1, 1, 0, 0, 0]
example : (lrun exProgs (linit exL 2) exSched).pcs = [.idle 2, .idle 2] := by decide
example : (lrun exProgs (linit exL 2) exSched).l = [⟨4, 10⟩, ⟨3, 1⟩, ⟨3, 2⟩, ⟨1, 3⟩, ⟨0, 11⟩] := by decide
-- cut after 5 steps: thread 0 has returned from its first call, thread 1's second call is not yet invoked
example : (lrun exProgs (linit exL 2) (exSched.take 5)).hist.map (fun e => (e.tid, e.op)) =
    [(0, .pushSorted ⟨4, 10⟩), (1, .tryFail)] := by decide
example : (lrun exProgs (linit exL 2) exSched).hist.map (fun e => (e.tid, e.op)) =
    [(0, .pushSorted ⟨4, 10⟩), (1, .tryFail), (1, .pushBack ⟨0, 11⟩), (0, .popFront)] := by decide

end ParsecVerif.C31
