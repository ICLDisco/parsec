import ParsecVerif.Proofs.DataOwnership
/-!
# C26 — data copy ownership transfers keep one consistent newest version

Model: `ParsecVerif.DataOwnership` (parsec/data.c, `parsec_data_start_transfer_ownership_to_copy`
and `parsec_data_end_transfer_ownership_to_copy` line by line, their asserts as the precondition).
History alphabet: complete transfers `(device, READ bit, WRITE bit, bump kind)`; a transfer whose
asserts would fire is not issued.  Quantification: every state / every history, any number of devices.
Two hypotheses on a history appear: H1 (`OwnerReadOK`: the owner makes no READ-only access to its OWNED
copy beside a valid copy of another version) and H2 (`WriteNewest`: the caller gives a written copy the
newest version).  Parts (a), (b ⇒), (d) need neither, (c) needs H2, (b ⇐) needs both and is false without H1.
-/
namespace ParsecVerif.C26
open ParsecVerif.DataOwnership

structure Op where
  d : Nat
  r : Bool
  w : Bool
  b : Nat
deriving Repr, DecidableEq

def apply (s : St) (o : Op) : St :=
  match transfer s o.d o.r o.w o.b with
  | some (s', _) => s'
  | none => s

def run (s : St) (ops : List Op) : St := ops.foldl apply s

/-- every OWNED copy sits on `owner_device` -/
def OneOwner (s : St) : Prop :=
  ∀ i c, getC s.copies i = some c → c.coh = .owned → s.owner = (i : Int)

def Top (cs : List (Option Copy)) (v : Nat) : Prop :=
  ∀ j cj, getC cs j = some cj → cj.coh ≠ .invalid → cj.ver ≤ v

def UpToDate (cs : List (Option Copy)) (d : Nat) : Prop :=
  ∃ c, getC cs d = some c ∧ c.coh ≠ .invalid ∧ Top cs c.ver

theorem apply_cases {P : St → Prop} {s : St} {o : Op} (h0 : P s)
    (h : ∀ s' ret, transfer s o.d o.r o.w o.b = some (s', ret) → P s') : P (apply s o) := by
  unfold apply
  split
  · exact h _ _ ‹_›
  · exact h0

/-- **(d)** a write access makes the target the owner, from every state -/
theorem write_owns (s s' : St) (d : Nat) (r : Bool) (b : Nat) (ret : Int)
    (h : transfer s d r true b = some (s', ret)) :
    s'.owner = (d : Int) ∧ ∃ c, getC s'.copies d = some c ∧ c.coh = .owned := by
  obtain ⟨tgt, _, sp⟩ := transfer_spec h
  obtain ⟨t', h1, h2, _⟩ := sp.target
  exact ⟨sp.owner, t', h1, h2⟩

theorem oneOwner_step (s s' : St) (d : Nat) (r w : Bool) (b : Nat) (ret : Int)
    (hA : OneOwner s) (h : transfer s d r w b = some (s', ret)) : OneOwner s' := by
  obtain ⟨tgt, ht, sp⟩ := transfer_spec h
  obtain ⟨t', h1, h2, _⟩ := sp.target
  intro i c hi hc
  rw [sp.owner]
  by_cases hid : d = i
  · subst hid
    rw [h1] at hi; cases hi
    cases w
    · cases r
      · exact hA d tgt ht (h2.symm.trans hc)
      · rw [h2] at hc; cases hc
    · rfl
  · obtain ⟨c0, hc0, _, hk, _⟩ := sp.other_inv hid hi
    obtain ⟨hk0, how⟩ := cohF_owned (hk ▸ hc)
    have hoi := hA i c0 hc0 hk0
    rcases how with ho | hw
    · exact absurd (Int.ofNat_inj.1 ((of_decide_eq_true ho).symm.trans hoi)) hid
    · rw [hw]; exact hoi

theorem OneOwner.unique {s : St} (h : OneOwner s) {i j : Nat} {ci cj : Copy} (hi : getC s.copies i = some ci)
    (hj : getC s.copies j = some cj) (hoi : ci.coh = .owned) (hoj : cj.coh = .owned) : i = j :=
  Int.ofNat_inj.1 ((h i ci hi hoi).symm.trans (h j cj hj hoj))

/-- **(a)** from any state in which OWNED copies sit on `owner_device`, after any history of
    complete transfers every OWNED copy still sits on `owner_device` … -/
theorem one_owner (s : St) (hA : OneOwner s) (ops : List Op) : OneOwner (run s ops) := by
  induction ops generalizing s with
  | nil => exact hA
  | cons o t ih => exact ih _ (apply_cases hA fun s' ret => oneOwner_step s s' o.d o.r o.w o.b ret hA)

/-- … hence at most one copy is OWNED. -/
theorem at_most_one_owned (s : St) (hA : OneOwner s) (ops : List Op) (i j : Nat) (ci cj : Copy)
    (hi : getC (run s ops).copies i = some ci) (hj : getC (run s ops).copies j = some cj)
    (hoi : ci.coh = .owned) (hoj : cj.coh = .owned) : i = j :=
  (one_owner s hA ops).unique hi hj hoi hoj

/-- **(b, ⇒)** whenever a complete transfer names a source (`ret ≠ -1`), the access has the READ bit
    and the target copy was not up to date: INVALID, or older than some valid copy. -/
theorem transfer_only_if_stale (s s' : St) (d : Nat) (r w : Bool) (b : Nat) (ret : Int)
    (h : transfer s d r w b = some (s', ret)) (hr : ret ≠ -1) :
    r = true ∧ ¬ UpToDate s.copies d := by
  obtain ⟨tgt, ht, sp⟩ := transfer_spec h
  obtain ⟨_, hr1, htr⟩ := sp.ret_ne_iff.1 hr
  refine ⟨hr1, ?_⟩
  rintro ⟨c, hc, hv, htop⟩
  rw [ht] at hc; cases hc
  rcases switchTreq_iff.1 htr with hinv | ⟨_, i, ci, hi, hoi, hlt⟩
  · exact hv hinv
  · exact Nat.lt_irrefl _ (Nat.lt_of_lt_of_le hlt (htop i ci hi (by rw [hoi]; decide)))

/-- `J`: a valid copy that is not up to date is SHARED and the owner's copy is OWNED with a greater
    version (the only staleness `start` detects). -/
structure Inv (s : St) : Prop where
  A : OneOwner s
  K0 : -1 ≤ s.owner
  K : ∀ o : Nat, s.owner = (o : Int) → ∃ c, getC s.copies o = some c ∧ c.coh ≠ .invalid
  J : ∀ i c, getC s.copies i = some c → c.coh ≠ .invalid →
    Top s.copies c.ver ∨
    (c.coh = .shared ∧ ∃ (o : Nat) (co : Copy), s.owner = (o : Int) ∧ getC s.copies o = some co ∧
      co.coh = .owned ∧ c.ver < co.ver)
  X : ∀ i c, getC s.copies i = some c → c.coh = .exclusive →
    ∀ j cj, j ≠ i → getC s.copies j = some cj → cj.coh = .invalid

/-- weaker invariant, kept by EVERY history that satisfies H2 (`WriteNewest`; H1 not needed) -/
structure Inv2 (s : St) : Prop where
  A : OneOwner s
  K0 : -1 ≤ s.owner
  N : ∀ o : Nat, s.owner = (o : Int) → UpToDate s.copies o
  U : s.owner = -1 → ∀ i j ci cj, getC s.copies i = some ci → getC s.copies j = some cj →
    ci.coh ≠ .invalid → cj.coh ≠ .invalid → ci.ver = cj.ver

theorem Inv.top_of {s : St} (h : Inv s) {i : Nat} {c : Copy} (hc : getC s.copies i = some c)
    (hv : c.coh ≠ .invalid)
    (hno : ∀ (o : Nat) co, s.owner = (o : Int) → getC s.copies o = some co → ¬ c.ver < co.ver) :
    Top s.copies c.ver :=
  (h.J i c hc hv).resolve_right fun ⟨_, o, co, ho, hco, _, hlt⟩ => hno o co ho hco hlt

theorem inv2_of_inv {s : St} (h : Inv s) : Inv2 s := by
  refine ⟨h.A, h.K0, fun o ho => ?_, fun ho i j ci cj hi hj hvi hvj => ?_⟩
  · obtain ⟨co, hco, hvo⟩ := h.K o ho
    refine ⟨co, hco, hvo, h.top_of hco hvo fun o' co' ho' hco' => ?_⟩
    cases Int.ofNat_inj.1 (ho'.symm.trans ho)
    rw [hco] at hco'; cases hco'; exact Nat.lt_irrefl _
  · have hi' := h.top_of hi hvi (fun o _ ho' => by omega) j cj hj hvj
    have hj' := h.top_of hj hvj (fun o _ ho' => by omega) i ci hi hvi
    exact Nat.le_antisymm hj' hi'

/-- **(c)** the device named as transfer source holds a valid copy with the newest version; `Inv2`
    is all it needs, hence only H2 of the history -/
theorem source_newest (s s' : St) (d : Nat) (r w : Bool) (b : Nat) (ret : Int) (hI : Inv2 s)
    (h : transfer s d r w b = some (s', ret)) (hr : ret ≠ -1) :
    ∃ k : Nat, ret = (k : Int) ∧ UpToDate s.copies k := by
  obtain ⟨tgt, _, sp⟩ := transfer_spec h
  rcases sp.source hr with ho | ⟨ho, j, c, hj, hc, hv⟩
  · have h0 := hI.K0
    obtain ⟨o, ho'⟩ : ∃ o : Nat, s.owner = (o : Int) := ⟨s.owner.toNat, by omega⟩
    exact ⟨o, ho.trans ho', hI.N o ho'⟩
  · -- nobody owns: all valid copies carry the same version
    exact ⟨j, hj, c, hc, hv, fun j' cj' hj' hv' => Nat.le_of_eq (hI.U ho j' j cj' c hj' hc hv' hv)⟩

/-- **(c)** as the property states it: `source_newest` from the full invariant `Inv` -/
theorem source_newest_partial (s s' : St) (d : Nat) (r w : Bool) (b : Nat) (ret : Int) (hI : Inv s)
    (h : transfer s d r w b = some (s', ret)) (hr : ret ≠ -1) :
    ∃ k : Nat, ret = (k : Int) ∧ UpToDate s.copies k :=
  source_newest s s' d r w b ret (inv2_of_inv hI) h hr

/-- **(b)** under the invariant, a complete transfer with the READ bit names a source exactly when
    the target copy is not up to date. -/
theorem transfer_iff_stale_partial (s s' : St) (d : Nat) (w : Bool) (b : Nat) (ret : Int)
    (hI : Inv s) (h : transfer s d true w b = some (s', ret)) :
    ret ≠ -1 ↔ ¬ UpToDate s.copies d := by
  refine ⟨fun hr => (transfer_only_if_stale s s' d true w b ret h hr).2, fun hstale hret => hstale ?_⟩
  obtain ⟨tgt, ht, sp⟩ := transfer_spec h
  by_cases hod : s.owner = (d : Int)
  · exact (inv2_of_inv hI).N d hod
  · -- no source although the target is not the owner's: the `switch` saw nothing stale
    have htr : ¬ switchTreq s.copies tgt = true := fun htr => sp.ret_ne_iff.2 ⟨hod, rfl, htr⟩ hret
    rw [switchTreq_iff, not_or] at htr
    exact ⟨tgt, ht, htr.1, (hI.J d tgt ht htr.1).resolve_right
      fun ⟨hsh, o, co, _, hco, hown, hlt⟩ => htr.2 ⟨hsh, o, co, hco, hown, hlt⟩⟩

def OwnerReadOK (s : St) (o : Op) : Prop :=
  o.r = true → o.w = false → s.owner = (o.d : Int) →
    ∀ tgt, getC s.copies o.d = some tgt → tgt.coh = .owned →
      ∀ j cj, getC s.copies j = some cj → cj.coh ≠ .invalid → cj.ver = tgt.ver

def WriteNewest (s' : St) (o : Op) : Prop := o.w = true → UpToDate s'.copies o.d

section
variable {s s' : St} {d : Nat} {r : Bool} {b : Nat} {ret : Int} {tgt : Copy}

/-- without the WRITE bit a valid copy takes the newest version or keeps its own, and then a SHARED copy
    stays SHARED: what clause `J` of `Inv` asks of a copy that stays behind the newest version (`inv_step`) -/
theorem nowrite_vers_old (hI : Inv2 s) (h : transfer s d r false b = some (s', ret)) {i : Nat} {c' : Copy}
    (hi : getC s'.copies i = some c') (hv : c'.coh ≠ .invalid) :
    ∃ k ck, getC s.copies k = some ck ∧ ck.coh ≠ .invalid ∧ c'.ver = ck.ver ∧
      (Top s.copies ck.ver ∨ (k = i ∧ (ck.coh = .shared → c'.coh = .shared))) := by
  obtain ⟨tgt, ht, sp⟩ := transfer_spec h
  by_cases hid : d = i
  · subst hid
    obtain ⟨t', ht', hcoh, hver⟩ := sp.nowrite_target
    rw [ht'] at hi; cases hi
    by_cases hret : ret = -1
    · -- no source is named: the target was valid and keeps its version
      refine ⟨d, tgt, ht, fun hc => ?_, by rw [hver, hret, syncVer_neg],
        Or.inr ⟨rfl, fun hs => by rw [hcoh, hs]; split <;> rfl⟩⟩
      by_cases hod : s.owner = (d : Int)
      · obtain ⟨c, hc', hvc, _⟩ := hI.N d hod
        rw [ht] at hc'; cases hc'; exact hvc hc
      · cases r
        · exact hv (hcoh.trans hc)
        · exact sp.ret_ne_iff.2 ⟨hod, rfl, switchTreq_iff.2 (Or.inl hc)⟩ hret
    · -- it carries the version of the source, the newest
      obtain ⟨k, hk, ck, hck, hvck, hT⟩ := source_newest s s' d r false b ret hI h hret
      exact ⟨k, ck, hck, hvck, by rw [hver, hk, syncVer_src hck], Or.inl hT⟩
  · obtain ⟨c, hc, e, hk, hiff⟩ := sp.other_inv hid hi
    exact ⟨i, c, hc, mt hiff.2 hv, e, Or.inr ⟨rfl, fun hs => by rw [hk, hs, cohF_shared]⟩⟩

theorem nowrite_top (hI : Inv2 s) (h : transfer s d r false b = some (s', ret)) {v : Nat}
    (hT : Top s.copies v) : Top s'.copies v := fun j cj' hj hvj => by
  obtain ⟨k, ck, hck, hvck, e, _⟩ := nowrite_vers_old hI h hj hvj
  rw [e]; exact hT k ck hck hvck

/-- H2 from a bound on the versions before the call: the other copies keep their version -/
theorem upToDate_of_write (sp : TransferSpec s s' d r true b ret tgt) {v : Nat} (hT : Top s.copies v)
    (hv : v ≤ (bumpVer b (newest s.copies) (setVer (syncVer s tgt ret) tgt)).ver) :
    UpToDate s'.copies d := by
  obtain ⟨t', ht', (hcoh : t'.coh = .owned), (hver : t'.ver = _)⟩ := sp.target
  refine ⟨t', ht', by rw [hcoh]; decide, fun j cj' hj hvj => ?_⟩
  by_cases hjd : d = j
  · subst hjd; rw [ht'] at hj; cases hj; exact Nat.le_refl _
  · obtain ⟨cj, hcj, e, _, hiff⟩ := sp.other_inv hjd hj
    rw [e, hver]; exact Nat.le_trans (hT j cj hcj (mt hiff.2 hvj)) hv

end

theorem inv2_step (s s' : St) (d : Nat) (r w : Bool) (b : Nat) (ret : Int) (hI : Inv2 s)
    (h : transfer s d r w b = some (s', ret)) (h2 : WriteNewest s' ⟨d, r, w, b⟩) : Inv2 s' := by
  have hA' := oneOwner_step s s' d r w b ret hI.A h
  cases w with
  | true =>
    obtain ⟨tgt, _, sp⟩ := transfer_spec h
    have hown : s'.owner = (d : Int) := sp.owner
    refine ⟨hA', by rw [hown]; omega, fun o ho => ?_, fun ho => by omega⟩
    cases Int.ofNat_inj.1 (ho.symm.trans hown)
    exact h2 rfl
  | false =>
    obtain ⟨tgt, ht, sp⟩ := transfer_spec h
    have hown : s'.owner = s.owner := sp.owner
    refine ⟨hA', hown ▸ hI.K0, fun o ho => ?_, fun ho i j ci cj hi hj hvi hvj => ?_⟩
    · rw [hown] at ho
      obtain ⟨co, hco, hvo, hTo⟩ := hI.N o ho
      by_cases hod : d = o
      · subst hod
        rw [ht] at hco; cases hco
        obtain ⟨t', ht', hcoh, hver⟩ := sp.nowrite_target
        refine ⟨t', ht', by rw [hcoh]; split <;> simp [hvo], ?_⟩
        rw [hver, sp.ret_owner ho, syncVer_neg]; exact nowrite_top hI h hTo
      · exact ⟨_, sp.other_some hod hco, mt (cohF_invalid _ _ _ _).1 hvo, nowrite_top hI h hTo⟩
    · obtain ⟨k1, c1, hc1, hv1, e1, _⟩ := nowrite_vers_old hI h hi hvi
      obtain ⟨k2, c2, hc2, hv2, e2, _⟩ := nowrite_vers_old hI h hj hvj
      rw [e1, e2]
      exact hI.U (hown ▸ ho) k1 k2 c1 c2 hc1 hc2 hv1 hv2

theorem inv_step (s s' : St) (d : Nat) (r w : Bool) (b : Nat) (ret : Int) (hI : Inv s)
    (h : transfer s d r w b = some (s', ret))
    (h1 : OwnerReadOK s ⟨d, r, w, b⟩) (h2 : WriteNewest s' ⟨d, r, w, b⟩) : Inv s' := by
  -- With WRITE: by H2 the written copy is newest, and every other valid copy is SHARED.  Without: versions
  -- do not move (`nowrite_vers_old`); H1 is used once, to keep the owner's copy OWNED in clause `J`.
  -- `A` and `K0` are fields of the weaker invariant, `K` follows from its `N`.
  have hI2 := inv2_step s s' d r w b ret (inv2_of_inv hI) h h2
  have hK := fun o ho => (hI2.N o ho).imp fun c hc => And.intro hc.1 hc.2.1
  cases w with
  | true =>
    obtain ⟨tgt, _, sp⟩ := transfer_spec h
    obtain ⟨t', ht', (hcoh : t'.coh = .owned), _⟩ := sp.target
    have hown : s'.owner = (d : Int) := sp.owner
    obtain ⟨c0, hc0, _, htop⟩ := h2 rfl
    rw [show getC s'.copies d = some t' from ht'] at hc0; cases hc0
    have hsh : ∀ i c', d ≠ i → getC s'.copies i = some c' → c'.coh ≠ .invalid → c'.coh = .shared := by
      intro i c' hid hi hv
      obtain ⟨c, hc, _, hk, hiff⟩ := sp.other_inv hid hi
      rw [hk]
      by_cases hod : s.owner = (d : Int)
      · -- `d` owned the data already: no other copy was OWNED (A) or EXCLUSIVE (X, as `d`'s is valid)
        obtain ⟨co, hco, hvo⟩ := hI.K d hod
        rw [decide_eq_true hod]
        show c.coh = .shared
        cases hk : c.coh with
        | invalid => exact absurd (hiff.2 hk) hv
        | owned => exact absurd (Int.ofNat_inj.1 (hod.symm.trans (hI.A i c hc hk))) hid
        | exclusive => exact absurd (hI.X i c hc hk d co hid hco) hvo
        | shared => rfl
      · rw [decide_eq_false hod]; exact cohF_write (mt hiff.2 hv)
    refine ⟨hI2.A, hI2.K0, hK, fun i c' hi hv => ?_, fun i c' hi hex j cj' hji hj => ?_⟩
    · by_cases heq : c'.ver = t'.ver
      · exact Or.inl (heq ▸ htop)
      · have hid : d ≠ i := fun e => by subst e; rw [ht'] at hi; cases hi; exact heq rfl
        exact Or.inr ⟨hsh i c' hid hi hv, d, t', hown, ht', hcoh, Nat.lt_of_le_of_ne (htop i c' hi hv) heq⟩
    · by_cases hid : d = i
      · subst hid; rw [ht'] at hi; cases hi; rw [hcoh] at hex; cases hex
      · have := hsh i c' hid hi (by rw [hex]; decide)
        rw [hex] at this; cases this
  | false =>
    obtain ⟨tgt, ht, sp⟩ := transfer_spec h
    obtain ⟨t', ht', hcoh, hver⟩ := sp.nowrite_target
    have hown : s'.owner = s.owner := sp.owner
    refine ⟨hI2.A, hI2.K0, hK, fun i c' hi hv => ?_, fun i c' hi hex j cj' hji hj => ?_⟩
    · obtain ⟨i, c, hc, hvc, e, hT | ⟨rfl, hsh⟩⟩ := nowrite_vers_old (inv2_of_inv hI) h hi hv
      · exact Or.inl (e ▸ nowrite_top (inv2_of_inv hI) h hT)
      · rcases hI.J i c hc hvc with hT | ⟨hs, o, co, ho, hco, hoo, hlt⟩
        · exact Or.inl (e ▸ nowrite_top (inv2_of_inv hI) h hT)
        · -- the owner's OWNED copy stays OWNED with its version: by H1 the owner itself does not read
          obtain ⟨co', hco', hoo', hlt'⟩ : ∃ co', getC s'.copies o = some co' ∧ co'.coh = .owned ∧
              c.ver < co'.ver := by
            by_cases hod : d = o
            · subst hod
              rw [ht] at hco; cases hco
              cases r
              · exact ⟨t', ht', hcoh.trans hoo, by rw [hver, sp.ret_owner ho, syncVer_neg]; exact hlt⟩
              · exact absurd hlt (h1 rfl rfl ho tgt ht hoo i c hc hvc ▸ Nat.lt_irrefl _)
            · exact ⟨_, sp.other_some hod hco, by simp only [setCoh, hoo, cohF_nowrite_owned], hlt⟩
          exact Or.inr ⟨hsh hs, o, co', hown ▸ ho, hco', hoo', e ▸ hlt'⟩
    · cases r with
      | false =>
        obtain ⟨c, hc, e⟩ := sp.coh_noaccess ht hi
        obtain ⟨cj, hcj, ej⟩ := sp.coh_noaccess ht hj
        exact ej ▸ hI.X i c hc (e ▸ hex) j cj hji hcj
      | true =>
        -- a READ access leaves no EXCLUSIVE copy, unless the owner's, valid, stood beside it
        by_cases hid : d = i
        · subst hid; rw [ht'] at hi; cases hi; cases hcoh.symm.trans hex
        · obtain ⟨c, hc, _, hk, _⟩ := sp.other_inv hid hi
          obtain ⟨hkx, hod | ⟨hr, _⟩⟩ := cohF_exclusive (hk ▸ hex)
          · obtain ⟨co, hco, hvo⟩ := hI.K d (of_decide_eq_true hod)
            exact absurd (hI.X i c hc hkx d co hid hco) hvo
          · cases hr

def SafeStep (s : St) (o : Op) : Prop :=
  ∀ s' ret, transfer s o.d o.r o.w o.b = some (s', ret) → OwnerReadOK s o ∧ WriteNewest s' o

def SafeRun : St → List Op → Prop
  | _, [] => True
  | s, o :: t => SafeStep s o ∧ SafeRun (apply s o) t

theorem inv_run (s : St) (hI : Inv s) (ops : List Op) (hS : SafeRun s ops) : Inv (run s ops) := by
  induction ops generalizing s with
  | nil => exact hI
  | cons o t ih =>
    refine ih _ (apply_cases hI fun s' ret h => ?_) hS.2
    exact inv_step s s' o.d o.r o.w o.b ret hI h (hS.1 s' ret h).1 (hS.1 s' ret h).2

/-- the four parts of the property statement at one issued transfer `s --o--> s'` returning `ret` -/
structure StepOK (s : St) (o : Op) (s' : St) (ret : Int) : Prop where
  oneOwner : OneOwner s' ∧ ∀ i j ci cj, getC s'.copies i = some ci → getC s'.copies j = some cj →
    ci.coh = .owned → cj.coh = .owned → i = j
  iffStale : o.r = true → (ret ≠ -1 ↔ ¬ UpToDate s.copies o.d)
  source : ret ≠ -1 → ∃ k : Nat, ret = (k : Int) ∧ UpToDate s.copies k
  write : o.w = true → s'.owner = (o.d : Int) ∧ ∃ c, getC s'.copies o.d = some c ∧ c.coh = .owned

/-- **C26, proved part.**  From any state satisfying the invariant (e.g. `created n`, `fresh n`),
    after any history of complete transfers whose steps satisfy H1 (`OwnerReadOK`) and H2
    (`WriteNewest`), every further transfer that is issued has all four parts of the property. -/
theorem history_partial (s0 : St) (hI : Inv s0) (ops : List Op) (hS : SafeRun s0 ops) (o : Op)
    (s' : St) (ret : Int) (h : transfer (run s0 ops) o.d o.r o.w o.b = some (s', ret)) :
    StepOK (run s0 ops) o s' ret := by
  have hI := inv_run s0 hI ops hS
  have hA := oneOwner_step _ s' o.d o.r o.w o.b ret hI.A h
  exact ⟨⟨hA, fun _ _ _ _ => hA.unique⟩, fun hr => transfer_iff_stale_partial _ s' o.d o.w o.b ret hI (hr ▸ h),
    source_newest_partial _ s' o.d o.r o.w o.b ret hI h, fun hw => write_owns _ s' o.d o.r o.b ret (hw ▸ h)⟩

theorem inv_created (n : Nat) : Inv (created n) := by
  refine ⟨fun i c hi hc => ?_, by simp [created], fun o ho => ?_, fun i c hi hv => Or.inl fun j cj hj _ => ?_,
    fun i c hi hc => ?_⟩
  · rcases getC_created hi with ⟨h0, _⟩ | h1
    · subst h0; rfl
    · subst h1; cases hc
  · obtain rfl : o = 0 := by simp [created] at ho; omega
    exact ⟨⟨.owned, 0, 0, 0⟩, getC_cons_zero _ _, by decide⟩
  · rcases getC_created hj with ⟨_, rfl⟩ | rfl <;> exact Nat.zero_le _
  · rcases getC_created hi with ⟨_, rfl⟩ | rfl <;> cases hc

theorem inv_fresh (n : Nat) : Inv (fresh n) := by
  have hall : ∀ i c, getC (fresh n).copies i = some c → c.coh = .invalid :=
    fun i c h => getC_replicate h ▸ rfl
  exact ⟨fun i c hi hc => (by rw [hall i c hi] at hc; cases hc), by simp [fresh],
    fun o ho => (by simp [fresh] at ho), fun i c hi hv => absurd (hall i c hi) hv,
    fun i c hi hc => (by rw [hall i c hi] at hc; cases hc)⟩

theorem top_iff (cs : List (Option Copy)) (v : Nat) : cs.all (verLeB v) = true ↔ Top cs v := by
  simp only [all_iff_getC (verLeB v) rfl, Top, verLeB, Bool.or_eq_true, beq_iff_eq, decide_eq_true_eq,
    Decidable.or_iff_not_imp_left]

theorem upToDateB_iff (cs : List (Option Copy)) (d : Nat) : upToDateB cs d = true ↔ UpToDate cs d := by
  unfold upToDateB UpToDate
  cases hc : getC cs d with
  | none => simp
  | some c => simp only [Bool.and_eq_true, bne_iff_ne, ne_eq, top_iff, Option.some.injEq, exists_eq_left']

theorem ownerReadOKD_sound (s : St) (o : Op) (h : ownerReadOKD s o.d o.r o.w = true) :
    OwnerReadOK s o := by
  intro hr hw ho tgt ht hown j cj hj hv
  unfold ownerReadOKD at h
  simp only [hr, hw, ho, ht, hown, Bool.not_false, Bool.and_self, decide_true, Bool.not_true,
    Bool.false_or, bne_self_eq_false, all_iff_getC (verEqB tgt.ver) rfl] at h
  simpa [verEqB, hv] using h j cj hj

def safeStepB (s : St) (o : Op) : Bool := safeStepD s o.d o.r o.w o.b

theorem safeStepB_sound (s : St) (o : Op) (h : safeStepB s o = true) : SafeStep s o := by
  intro s' ret ht
  unfold safeStepB safeStepD at h
  rw [ht] at h
  simp only [Bool.and_eq_true, Bool.or_eq_true, Bool.not_eq_true'] at h
  refine ⟨ownerReadOKD_sound s o h.1, fun hw => (upToDateB_iff _ _).1 (h.2.resolve_left ?_)⟩
  rw [hw]; decide

def safeRunB : St → List Op → Bool
  | _, [] => true
  | s, o :: t => safeStepB s o && safeRunB (apply s o) t

theorem safeRunB_sound (s : St) (ops : List Op) (h : safeRunB s ops = true) : SafeRun s ops := by
  induction ops generalizing s with
  | nil => trivial
  | cons o t ih =>
    simp only [safeRunB, Bool.and_eq_true] at h
    exact ⟨safeStepB_sound s o h.1, ih _ h.2⟩

/-- a caller that gives the written copy `newest valid version + 1` (bump kind ≥ 2, the accelerator
    stage-in) always satisfies H2 -/
theorem bump2_write_newest (s s' : St) (d : Nat) (r : Bool) (b : Nat) (ret : Int) (hb : 2 ≤ b)
    (h : transfer s d r true b = some (s', ret)) : WriteNewest s' ⟨d, r, true, b⟩ := by
  intro _
  obtain ⟨tgt, _, sp⟩ := transfer_spec h
  exact upToDate_of_write sp (fun _ _ => newest_ge s.copies)
    (by rw [bumpVer_ver, if_neg (by omega), if_neg (by omega)]; exact Nat.le_succ _)

/-- `version++` (bump kind 1) after a READ-WRITE access satisfies H2 whenever the invariant holds before
    the call.  This is about `transfer`, which copies the named source's version to the target first;
    generated PTG code and DTD also number by `version++` but do not make that copy. -/
theorem rw_bump1_write_newest (s s' : St) (d : Nat) (ret : Int) (hI : Inv s)
    (h : transfer s d true true 1 = some (s', ret)) : WriteNewest s' ⟨d, true, true, 1⟩ := by
  intro _
  obtain ⟨tgt, ht, sp⟩ := transfer_spec h
  -- after the synchronisation the target holds the newest version: its own or the source's
  have hT : Top s.copies (syncVer s tgt ret) := by
    by_cases hret : ret = -1
    · obtain ⟨c, hc, _, htop⟩ := Classical.not_not.1
        (mt (transfer_iff_stale_partial s s' d true 1 ret hI h).2 (not_not_intro hret))
      rw [ht] at hc; cases hc
      rw [hret, syncVer_neg]; exact htop
    · obtain ⟨k, hk, ck, hck, _, hTk⟩ := source_newest_partial s s' d true true 1 ret hI h hret
      rw [hk, syncVer_src hck]; exact hTk
  exact upToDate_of_write sp hT (by rw [bumpVer_ver]; exact Nat.le_succ _)

def CallerStep (s : St) (o : Op) : Prop :=
  ∀ s' ret, transfer s o.d o.r o.w o.b = some (s', ret) → WriteNewest s' o

def CallerRun : St → List Op → Prop
  | _, [] => True
  | s, o :: t => CallerStep s o ∧ CallerRun (apply s o) t

theorem inv2_run (s : St) (hI : Inv2 s) (ops : List Op) (hS : CallerRun s ops) : Inv2 (run s ops) := by
  induction ops generalizing s with
  | nil => exact hI
  | cons o t ih =>
    exact ih _ (apply_cases hI fun s' ret h => inv2_step s s' o.d o.r o.w o.b ret hI h (hS.1 s' ret h)) hS.2

/-- **C26 without H1.**  After any history of complete transfers that satisfies only the caller's
    obligation H2, every further issued transfer still has: one owner (a), a source only when the
    target is stale (b ⇒), a source holding the newest version (c), the writer as owner (d).
    What is lost without H1 is exactly (b ⇐) — see `full_false`. -/
theorem history_caller (s0 : St) (hI : Inv2 s0) (ops : List Op) (hS : CallerRun s0 ops) (o : Op)
    (s' : St) (ret : Int) (h : transfer (run s0 ops) o.d o.r o.w o.b = some (s', ret)) :
    OneOwner s' ∧
    (ret ≠ -1 → o.r = true ∧ ¬ UpToDate (run s0 ops).copies o.d) ∧
    (ret ≠ -1 → ∃ k : Nat, ret = (k : Int) ∧ UpToDate (run s0 ops).copies k) ∧
    (o.w = true → s'.owner = (o.d : Int) ∧ ∃ c, getC s'.copies o.d = some c ∧ c.coh = .owned) := by
  have hI2 := inv2_run s0 hI ops hS
  exact ⟨oneOwner_step _ s' o.d o.r o.w o.b ret hI2.A h,
    transfer_only_if_stale _ s' o.d o.r o.w o.b ret h,
    source_newest _ s' o.d o.r o.w o.b ret hI2 h, fun hw => write_owns _ s' o.d o.r o.b ret (hw ▸ h)⟩

/-- C26 as stated: from a data item created on device 0 (`parsec_data_create`) with `n` further
    INVALID device copies, after ANY history of complete transfers respecting the functions' asserts
    and the caller's obligation H2, every issued transfer has the four parts of the property. -/
def Full : Prop :=
  ∀ (n : Nat) (ops : List Op) (o : Op) (s' : St) (ret : Int), CallerRun (created n) ops →
    transfer (run (created n) ops) o.d o.r o.w o.b = some (s', ret) →
    StepOK (run (created n) ops) o s' ret

/-- witness: device 1 overwrites the data (WRITE, `version++`), reads it back (READ), then device 0
    reads (READ) -/
def witnessOps : List Op := [⟨1, false, true, 1⟩, ⟨1, true, false, 0⟩]
def witnessLast : Op := ⟨0, true, false, 0⟩

theorem witness_last : transfer (run (created 1) witnessOps) 0 true false 0 =
    some (⟨1, [some ⟨.shared, 0, 1, 0⟩, some ⟨.shared, 1, 1, 0⟩]⟩, -1) := by decide

theorem witness_caller : CallerRun (created 1) witnessOps := by
  -- the first step satisfies even H1; the second does not write
  exact ⟨fun s' ret h => (safeStepB_sound (created 1) ⟨1, false, true, 1⟩ (by decide) s' ret h).2,
    fun _ _ _ hw => absurd hw (by decide), trivial⟩

/-- **Finding.**  The full statement fails: all asserts hold, versions are numbered correctly, yet
    the last transfer requests no source (`ret = -1`) although device 0 holds version 0 (SHARED)
    and device 1 holds version 1. -/
theorem full_false : ¬ Full := by
  intro hF
  have hs := hF 1 witnessOps witnessLast _ _ witness_caller witness_last
  exact (hs.iffStale rfl).2 (mt (upToDateB_iff _ _).2 (by decide)) rfl

/-! ## non-vacuity: the hypotheses of every theorem above are satisfiable on non-trivial states -/

/-- three devices; device 1 read-writes with `version++`, device 2 reads, device 0 reads again:
    a Safe history through transfers in both directions -/
def sampleOps : List Op := [⟨1, true, true, 1⟩, ⟨2, true, false, 0⟩, ⟨0, true, false, 0⟩]

theorem sample_safe : SafeRun (created 2) sampleOps := safeRunB_sound _ _ (by decide)

example : SafeRun (created 2) sampleOps := sample_safe
example : run (created 2) sampleOps =
    ⟨1, [some ⟨.shared, 1, 1, 0⟩, some ⟨.owned, 1, 1, 0⟩, some ⟨.shared, 1, 1, 0⟩]⟩ := by decide
-- write_owns / one_owner / at_most_one_owned: an issued write transfer on a state with an owner
example : transfer (created 2) 1 true true 1 =
    some (⟨1, [some ⟨.shared, 0, 0, 0⟩, some ⟨.owned, 1, 1, 0⟩, some ⟨.invalid, 0, 0, 0⟩]⟩, 0) := by decide
example : OneOwner (created 2) := (inv_created 2).A
-- transfer_only_if_stale / source_newest_partial / transfer_iff_stale_partial: a transfer is requested
example : (transfer (run (created 2) [⟨1, true, true, 1⟩]) 0 true false 0).map (·.2) = some 1 := by
  decide
-- … and one is not requested although the READ bit is set (target up to date)
example : (transfer (run (created 2) sampleOps) 2 true false 0).map (·.2) = some (-1) := by decide
-- inv_step / history_partial / rw_bump1_write_newest: invariant states other than the initial ones
example : Inv (run (created 2) sampleOps) := inv_run _ (inv_created 2) _ sample_safe
example : Inv (run (fresh 3) [⟨2, false, true, 2⟩, ⟨0, true, false, 0⟩]) :=
  inv_run _ (inv_fresh 3) _ (safeRunB_sound _ _ (by decide))
-- bump2_write_newest: write-only access to a stale INVALID copy with the accelerator-style bump
example : (transfer (run (created 2) [⟨0, true, true, 1⟩, ⟨0, true, true, 1⟩]) 2 false true 2).map
    (fun p => getC p.1.copies 2) = some (some ⟨.owned, 3, 0, 0⟩) := by decide
-- inv2_step / history_caller / source_newest: an H2 history that violates H1 (the witness) keeps Inv2
example : Inv2 (run (created 1) (witnessOps ++ [witnessLast])) :=
  inv2_run _ (inv2_of_inv (inv_created 1)) _ (by
    refine ⟨witness_caller.1, witness_caller.2.1, ?_, trivial⟩
    intro s' ret _ hw; exact absurd hw (by decide))
-- H1 is what the witness history violates; H2 it satisfies
example : safeRunB (created 1) (witnessOps ++ [witnessLast]) = false := by decide
-- a call outside the precondition is not issued: READ of a data item nobody holds
example : transfer (fresh 2) 0 true false 0 = none := by decide

end ParsecVerif.C26
