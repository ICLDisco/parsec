import ParsecVerif.Proofs.DataflowLive
/-!
Theorems about the generic dataflow machine: the unbounded statements that C01 (exactly once), C02 (dependency
order) and C16 (AGAIN re-execution) instantiate on the task graph of a PTG program; C05 applies the schedule
independence of the computed values to the projection of a distributed run.  They hold for EVERY task graph with a
topological rank, EVERY number of workers and EVERY interleaving of start / again / finish / per-dependency
release transitions.
-/
namespace ParsecVerif.Runtime
open ParsecVerif.Dataflow

variable {g : Graph} {F : Nat → List (Option Nat) → Nat} {rank : Nat → Nat}

/-- **Exactly once (safety).** -/
theorem completes_at_most_once (hwf : WF g rank) (again : List Nat) (ts : List Tr) (i : Nat) :
    (run g F again ts).log.count (.end_ i) ≤ 1 ∧
    ((run g F again ts).log.count (.end_ i) = 1 ↔ (run g F again ts).status[i]? = some .ended) := by
  rw [(inv_run (F := F) hwf again ts).cnt i]
  split <;> simp [*]

/-- an index outside the graph never completes -/
theorem only_graph_nodes_run (hwf : WF g rank) (again : List Nat) (ts : List Tr) (i : Nat) (hi : g.n ≤ i) :
    (run g F again ts).log.count (.end_ i) = 0 := by
  have h := inv_run (F := F) hwf again ts
  rw [h.cnt i, List.getElem?_eq_none (by rw [h.len]; exact hi)]; rfl

/-- **Dependencies respected.**  Whenever a node starts, every node it depends on has completed
    before (its `end_` event is strictly earlier in the trace). -/
theorem deps_respected (hwf : WF g rank) (again : List Nat) (ts : List Tr) (L1 L2 : List Ev) (j : Nat)
    (hl : (run g F again ts).log = L1 ++ Ev.start j :: L2) (e : Nat × Nat) (he : e ∈ g.E) (hj : e.2 = j) :
    Ev.end_ e.1 ∈ L1 :=
  (inv_run (F := F) hwf again ts).order L1 L2 j hl e he hj

/-- **No deadlock.**  A run that is not quiescent (a release pending or a node not ended) has an enabled transition. -/
theorem deadlock_free (hwf : WF g rank) (again : List Nat) (ts : List Tr)
    (hq : ¬ quiescent (run g F again ts)) : ∃ t, enabled (run g F again ts) t = true :=
  progress hwf (inv_run (F := F) hwf again ts) hq

/-- every enabled transition lowers `mu`: no run is infinite -/
theorem step_decreases (hwf : WF g rank) (again : List Nat) (ts : List Tr) (t : Tr)
    (hen : enabled (run g F again ts) t = true) :
    mu (step g F (run g F again ts) t) < mu (run g F again ts) :=
  step_mu_lt hwf (inv_run (F := F) hwf again ts) hen

/-- **Every node runs exactly once** in every complete run; a run that cannot be extended is quiescent
    (`maximal_run_is_quiescent`). -/
theorem quiescent_all_once (hwf : WF g rank) (again : List Nat) (ts : List Tr)
    (hq : quiescent (run g F again ts)) (i : Nat) (hi : i < g.n) :
    (run g F again ts).log.count (.end_ i) = 1 := by
  have h := inv_run (F := F) hwf again ts
  rw [h.cnt i, if_pos (quiescent_ended h hq hi)]

theorem maximal_run_is_quiescent (hwf : WF g rank) (again : List Nat) (ts : List Tr)
    (hmax : ∀ t, enabled (run g F again ts) t = false) : quiescent (run g F again ts) :=
  Classical.byContradiction fun hq => by
    obtain ⟨t, ht⟩ := deadlock_free hwf again ts hq
    rw [hmax t] at ht; cases ht

/-- **Schedule independence of the values (confluence).**  Two complete runs of the same graph
    with the same deterministic bodies — whatever the schedules, worker counts and AGAIN answers —
    end with the same value at every node. -/
theorem values_schedule_independent (hwf : WF g rank) (ag1 ag2 : List Nat) (ts1 ts2 : List Tr)
    (hq1 : quiescent (run g F ag1 ts1)) (hq2 : quiescent (run g F ag2 ts2)) :
    ∀ i, i < g.n → (run g F ag1 ts1).val[i]? = (run g F ag2 ts2).val[i]? := by
  have h1 := inv_run (F := F) hwf ag1 ts1
  have h2 := inv_run (F := F) hwf ag2 ts2
  -- the values of the second run solve the recursion that determines those of the first
  exact fun i hi => ended_vals_unique hwf.2 h1 (fun j hj => h2.vals j (quiescent_ended h2 hq2 hj)) i
    (quiescent_ended h1 hq1 hi)

theorem inv2_run (hwf : WF g rank) (again : List Nat) (ts : List Tr) : Inv2 again (run g F again ts) :=
  run_induction hwf _ again (inv2_init g again)
    (fun s t h1 h2 => inv2_step g F again s h2 (release_target_waiting hwf h1) t) ts

theorem quiescent_counts (hwf : WF g rank) (again : List Nat) (ts : List Tr)
    (hq : quiescent (run g F again ts)) (i : Nat) (hi : i < g.n) :
    (run g F again ts).log.count (.start i) = (again[i]?).getD 0 + 1 ∧
    (run g F again ts).log.count (.again i) = (again[i]?).getD 0 ∧
    (run g F again ts).log.count (.end_ i) = 1 := by
  have h2 := inv2_run (F := F) hwf again ts
  have hend := quiescent_ended (inv_run (F := F) hwf again ts) hq hi
  have hs := h2.starts i
  have hb := h2.budget i
  have hz := h2.zero i hend
  rw [hend] at hs
  simp only [active, or_true, if_true] at hs
  exact ⟨by omega, by omega, quiescent_all_once hwf again ts hq i hi⟩

/-- **AGAIN re-execution (C16).**  A node whose body answers AGAIN `k` times is started exactly
    `k + 1` times in every complete run and completes once (so its successors are released once, after
    the final DONE). -/
theorem again_reexecutes (hwf : WF g rank) (again : List Nat) (ts : List Tr)
    (hq : quiescent (run g F again ts)) (i : Nat) (hi : i < g.n) :
    (run g F again ts).log.count (.start i) = (again[i]?).getD 0 + 1 ∧
    (run g F again ts).log.count (.end_ i) = 1 :=
  have h := quiescent_counts (F := F) hwf again ts hq i hi
  ⟨h.1, h.2.2⟩

/-- in every run, complete or not, a node is started at most (its AGAIN answers + 1) times -/
theorem starts_bounded (hwf : WF g rank) (again : List Nat) (ts : List Tr) (i : Nat) :
    (run g F again ts).log.count (.start i) ≤ (again[i]?).getD 0 + 1 := by
  have h2 := inv2_run (F := F) hwf again ts
  have hs := h2.starts i
  have hb := h2.budget i
  have : active (run g F again ts).status[i]? ≤ 1 := by unfold active; split <;> omega
  omega

/-! Non-vacuity: a diamond 0 → {1,2} → 3 with a duplicated dependency 0 → 1, node 2 answering AGAIN
    once; two different complete schedules. -/
def diamond : Graph := ⟨4, [(0, 1), (0, 1), (0, 2), (1, 3), (2, 3)]⟩
def sumF : Nat → List (Option Nat) → Nat := fun i ins => i + 1 + (ins.map (·.getD 0)).sum
example : WF diamond id := by
  constructor <;> (intro e he; simp [diamond] at he; rcases he with rfl | rfl | rfl | rfl <;> simp [diamond])
def schedA : List Tr := [.start 0, .finish 0, .release 0 1, .release 0 2, .release 0 1, .start 2, .again 2, .start 1,
  .finish 1, .start 2, .release 1 3, .finish 2, .release 2 3, .start 3, .finish 3]
def schedB : List Tr := [.start 0, .finish 0, .release 0 2, .start 2, .again 2, .start 2, .finish 2, .release 2 3,
  .release 0 1, .release 0 1, .start 1, .finish 1, .release 1 3, .start 3, .finish 3]
example : (run diamond sumF [0, 0, 1, 0] schedA).pending = [] ∧
    (run diamond sumF [0, 0, 1, 0] schedA).status = [.ended, .ended, .ended, .ended] ∧
    (run diamond sumF [0, 0, 1, 0] schedA).val = (run diamond sumF [0, 0, 1, 0] schedB).val := by decide +kernel

end ParsecVerif.Runtime
