import ParsecVerif.Proofs.DtdSteps
import ParsecVerif.Base.Interleave
/-!
# C03 — DTD results equal sequential execution in insertion order

For EVERY insertion sequence `p` (any data, any access modes, a datum may occur several times in one
task), EVERY number of workers `nw` and EVERY run of the abstract runtime machine (any interleaving of
insertions — by the main thread, by the sliding window, by running tasks — with selections, AGAIN
retries, body starts and completions): each task observes the inputs, and the data finally hold the
values, of the execution of the tasks one at a time in insertion order (`seqExec`).

Proof shape: `Inv` (Proofs/DtdInv.lean) is an inductive invariant of the machine.  Its clause `acc_sound`
says that the parent recorded in a chain node at insertion is the previous writer of the datum
(`chain_iff_conflict`), its clause `prec` that every run is a linear extension of the conflict order,
its clauses `obs_eq`/`mem_eq` that a run which respects the conflict order computes the sequential values.
-/
namespace ParsecVerif.C03
open ParsecVerif.Dtd

/-! ## `seqExec` (left-to-right run) and the indexed form used in the invariant coincide -/

theorem seqRun_eq (p : Prog) (k n : Nat) (h : k + n = p.length) :
    seqRun (p.drop k) (seqStore p k) = ((List.range' k n).map (seqObs p), seqStore p p.length) := by
  induction n generalizing k with
  | zero => rw [List.drop_of_length_le (by omega), ← h]; rfl
  | succ n ih =>
    have hk : k < p.length := by omega
    have hs : exec p[k] (readsOf p[k] (seqStore p k)) (seqStore p k) = seqStore p (k + 1) := by
      simp only [seqStore, List.getElem?_eq_getElem hk]
    rw [List.drop_eq_getElem_cons hk]
    simp only [seqRun, hs, ih (k + 1) (by omega), List.range'_succ, List.map_cons, seqObs, List.getElem?_eq_getElem hk]

theorem seqExec_obs (p : Prog) : (seqExec p).obs = (List.range p.length).map (seqObs p) :=
  List.range_eq_range' ▸ congrArg Prod.fst (seqRun_eq p 0 p.length (Nat.zero_add _))

theorem seqExec_final (p : Prog) : (seqExec p).final = seqStore p p.length :=
  congrArg Prod.snd (seqRun_eq p 0 p.length (Nat.zero_add _))

theorem chain_iff_conflict (p : Prog) (nw : Nat) (ms : List Move) (hv : Valid p nw ms) (a : Acc)
    (ha : a ∈ (run p init ms).accs) :
    a.parent = prevWriter p a.t a.d ∧ usesAt p a.t a.d = true ∧ a.wr = writesAt p a.t a.d :=
  let h := (inv_reachable p nw ms hv).acc_sound a ha
  ⟨h.2.2.2, h.2.1, h.2.2.1⟩

/-- every run is a linear extension of the conflict order -/
theorem C03_linear_extension (p : Prog) (nw : Nat) (ms : List Move) (hv : Valid p nw ms) (t u d : Nat)
    (hut : u < t) (hs : started (run p init ms) t = true) (hc : conflict p u t d = true) :
    isDone (run p init ms) u = true :=
  (inv_reachable p nw ms hv).prec t u d hut hs hc

/-- in every reachable state (complete run or not) a task that has begun has read exactly the values
    the sequential execution gives it -/
theorem C03_observed (p : Prog) (nw : Nat) (ms : List Move) (hv : Valid p nw ms) (t : Nat)
    (hs : started (run p init ms) t = true) : (run p init ms).obs[t]? = some (seqObs p t) :=
  (inv_reachable p nw ms hv).obs_eq t hs

theorem sequential_of_complete {p : Prog} {s : St} (h : Dtd.Inv p s) (hc : Complete p s) :
    s.obs = (seqExec p).obs ∧ ∀ d, s.mem d = (seqExec p).final d := by
  obtain ⟨hlen, hdone⟩ := hc
  constructor
  · rw [seqExec_obs]
    refine List.ext_getElem (by simp [h.len_obs, hlen]) fun i hi _ => Option.some.inj ?_
    rw [← List.getElem?_eq_getElem hi, h.obs_eq i (isDone_started _ i (hdone i (hlen ▸ h.len_obs ▸ hi)))]
    simp
  · intro d
    rw [seqExec_final]
    apply h.mem_eq d p.length (by omega)
    · intro u hu _; exact hdone u hu
    · intro u hu _; exact not_done_ge _ u (by omega)

/-- **C03.**  Every complete run gives every task the observed inputs of `seqExec` and leaves the data with
    its final values. -/
theorem C03_sequential (p : Prog) (nw : Nat) (ms : List Move) (hv : Valid p nw ms)
    (hc : Complete p (run p init ms)) :
    (run p init ms).obs = (seqExec p).obs ∧ ∀ d, (run p init ms).mem d = (seqExec p).final d :=
  sequential_of_complete (inv_reachable p nw ms hv) hc

/-! ## the statement is not vacuous: complete runs exist for every program, and the machine cannot
    get stuck -/

theorem first_false (f : Nat → Bool) (n : Nat) :
    (∀ t, t < n → f t = true) ∨ ∃ t, t < n ∧ f t = false ∧ ∀ u, u < t → f u = true := by
  induction n with
  | zero => exact Or.inl fun _ h => absurd h (Nat.not_lt_zero _)
  | succ n ih =>
    rcases ih with h | ⟨t, ht, h⟩
    · cases hn : f n with
      | true => exact Or.inl fun t ht => (Nat.lt_succ_iff_lt_or_eq.1 ht).elim (h t) (· ▸ hn)
      | false => exact Or.inr ⟨n, Nat.lt_succ_self n, hn, h⟩
    · exact Or.inr ⟨t, Nat.lt_succ_of_lt ht, h⟩

theorem enabled_of_not_complete {p : Prog} {nw : Nat} {s : St} (h : Dtd.Inv p s) (hnw : 1 ≤ nw)
    (hnc : ¬ Complete p s) : ∃ m, (∀ t, m ≠ .again t) ∧ enabled p nw s m = true := by
  by_cases hlen : s.status.length < p.length
  · exact ⟨.ins, nofun, decide_eq_true hlen⟩
  have hlen' : s.status.length = p.length := Nat.le_antisymm h.len_le (Nat.le_of_not_lt hlen)
  by_cases hrun : Status.running ∈ s.status
  · obtain ⟨u, hu, hget⟩ := List.getElem_of_mem hrun
    exact ⟨.finish u, nofun, by simp [enabled, isRunning, hu, hget]⟩
  -- the oldest task that is not done
  rcases first_false (isDone s) p.length with hall | ⟨t, htlt, htnd, hbefore⟩
  · exact absurd ⟨hlen', hall⟩ hnc
  have hfree : runningCount s = 0 := List.count_eq_zero.2 hrun
  have htl : t < s.status.length := hlen' ▸ htlt
  obtain ⟨hr, hb⟩ := (start_iff h htl htnd).2 fun u _ hu _ => hbefore u hu
  exact ⟨.start t, nofun, enabled_start.2 ⟨isWaiting_of_lt s t htl hrun htnd, hr, hb, hfree ▸ hnw⟩⟩

/-- **No deadlock.**  In every reachable state that is not complete some move other than an AGAIN
    retry is enabled (with at least one worker): the next insertion, the completion of a running
    task, or the start of the oldest unfinished task. -/
theorem C03_no_deadlock (p : Prog) (nw : Nat) (hnw : 1 ≤ nw) (ms : List Move) (hv : Valid p nw ms)
    (hnc : ¬ Complete p (run p init ms)) :
    ∃ m, (∀ t, m ≠ .again t) ∧ enabled p nw (run p init ms) m = true :=
  enabled_of_not_complete (inv_reachable p nw ms hv) hnw hnc

def weight : Status → Nat
  | .waiting => 1 | .running => 2 | .done => 3

def progress (s : St) : Nat := (s.status.map weight).sum

theorem progress_le (s : St) : progress s ≤ 3 * s.status.length := by
  have := ParsecVerif.Interleave.sum_map_le weight (fun _ => 3) (fun a => by cases a <;> decide) s.status
  simpa [progress, List.map_const', List.sum_replicate_nat, Nat.mul_comm] using this

theorem progress_step (p : Prog) (nw : Nat) (s : St) (m : Move) (hinv : Dtd.Inv p s) (hna : ∀ t, m ≠ .again t)
    (he : enabled p nw s m = true) : progress (step p s m) = progress s + 1 := by
  have hget : ∀ t x, s.status[t]? = some x → ∃ tk, p[t]? = some tk := fun t x hx =>
    ⟨_, List.getElem?_eq_getElem (Nat.lt_of_lt_of_le (List.getElem?_eq_some_iff.1 hx).1 hinv.len_le)⟩
  cases m with
  | ins =>
    simp only [step, List.getElem?_eq_getElem (of_decide_eq_true he)]
    simp [progress, stepIns, weight]
  | start t =>
    have hw : s.status[t]? = some .waiting := beq_iff_eq.1 (enabled_start.1 he).1
    obtain ⟨tk, hp⟩ := hget t _ hw
    have := ParsecVerif.Interleave.sum_map_set weight s.status t _ .running hw
    simp only [step, hp, weight] at this ⊢
    exact Nat.add_right_cancel this
  | again t => exact absurd rfl (hna t)
  | finish t =>
    have hw : s.status[t]? = some .running := beq_iff_eq.1 he
    obtain ⟨tk, hp⟩ := hget t _ hw
    have := ParsecVerif.Interleave.sum_map_set weight s.status t _ .done hw
    simp only [step, hp, weight] at this ⊢
    exact Nat.add_right_cancel this

theorem complete_from {p : Prog} {nw : Nat} (hnw : 1 ≤ nw) {s : St} (h : Dtd.Inv p s) :
    ∃ ms, ValidFrom p nw s ms ∧ Complete p (run p s ms) := by
  obtain ⟨k, hk⟩ : ∃ k, 3 * p.length < progress s + k := ⟨3 * p.length + 1, by omega⟩
  induction k generalizing s with
  | zero =>
    have := progress_le s
    have := h.len_le
    omega
  | succ k ih =>
    by_cases hc : Complete p s
    · exact ⟨[], trivial, hc⟩
    · obtain ⟨m, hna, hen⟩ := enabled_of_not_complete h hnw hc
      obtain ⟨ms, h1, h2⟩ := ih (inv_step p nw s m h hen) (by rw [progress_step p nw s m h hna hen]; omega)
      exact ⟨m :: ms, ⟨hen, h1⟩, h2⟩

/-- **Every run can be completed.**  From every reachable state, with at least one worker, there is a
    continuation (without AGAIN retries) that inserts and completes every task: the hypotheses of
    `C03_sequential` are satisfiable for every insertion sequence, and no schedule can paint the
    machine into a corner. -/
theorem C03_extends_to_complete (p : Prog) (nw : Nat) (hnw : 1 ≤ nw) (ms : List Move) (hv : Valid p nw ms) :
    ∃ ms', Valid p nw (ms ++ ms') ∧ Complete p (run p init (ms ++ ms')) := by
  obtain ⟨ms', h1, h2⟩ := complete_from hnw (inv_reachable p nw ms hv)
  exact ⟨ms', (validFrom_append p nw init ms ms').2 ⟨hv, h1⟩, run_append p init ms ms' ▸ h2⟩

theorem C03_complete_run_exists (p : Prog) (nw : Nat) (hnw : 1 ≤ nw) :
    ∃ ms, Valid p nw ms ∧ Complete p (run p init ms) :=
  complete_from hnw (inv_init p)

/-! ## non-vacuity on a concrete program: multiplicity, a task inserted while others run, overlap of
    independent tasks (3 workers), AGAIN retries -/

def exProg : Prog :=
  [ { uid := 0, args := [(0, .rw), (1, .r)], rank := 0, kind := .user 1 },
    { uid := 1, args := [(0, .r), (0, .r), (2, .w)], rank := 1, kind := .user 2 },
    { uid := 2, args := [(0, .r)], rank := 0, kind := .user 0 },
    { uid := 3, args := [(0, .w), (0, .rw), (1, .rw)], rank := 2, kind := .user 3 },
    { uid := 4, args := [(2, .r), (1, .r)], rank := 0, kind := .user 5 } ]
def exRun : List Move :=
  [.ins, .start 0, .ins, .ins, .finish 0, .start 2, .ins, .start 1, .again 3, .finish 2, .again 3, .ins,
   .finish 1, .start 3, .finish 3, .start 4, .finish 4]

theorem exRun_valid : Valid exProg 3 exRun := firstBad_none _ _ _ _ 0 (by decide)
theorem exRun_complete : Complete exProg (run exProg init exRun) := ⟨by decide, by decide⟩

example : Valid exProg 3 exRun := exRun_valid
example : Complete exProg (run exProg init exRun) := exRun_complete
example : (run exProg init exRun).again = 2 ∧ conflict exProg 1 3 0 = true ∧ conflict exProg 1 2 0 = false := by decide
example : (run exProg init exRun).obs = (seqExec exProg).obs :=
  (C03_sequential exProg 3 exRun exRun_valid exRun_complete).1

end ParsecVerif.C03
