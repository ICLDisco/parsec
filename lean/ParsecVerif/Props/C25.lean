import ParsecVerif.Proofs.DataRepo
/-!
# C25 — data repository entries are reclaimed exactly when unused

Machine: `ParsecVerif.DataRepo` (one transition per critical section of `parsec/datarepo.c`).
Threads: any number of creators (`lookup_entry_and_create` then `addto_usage_limit n`) and users
(`used_once`) on any keys; a schedule is any list of thread ids.  The usage protocol is the guard
`useOk` of the machine (hypothesis of the property): a use is issued only while the entry exists and
while the uses issued are fewer than the limits announced or promised by creators that obtained it.

Specification-level quantities (functions of the threads' program points only — they do not read the
entry): `holders s k` = creators between their create and their announcement, `announced s k` = sum
of the limits announced so far, `uses s k` = uses done so far — all three over the WHOLE history
of key `k`.  Because every finished incarnation is balanced, "since its last insertion" and "over
the whole history" coincide: `announced − uses` is what is outstanding on the current incarnation.
-/
namespace ParsecVerif.C25
open ParsecVerif.DataRepo

/-- **C25, presence.**  For every set of creators and users, every key and EVERY interleaving of
    their critical sections: the entry of key `k` is in the table if and only if a creator still
    holds it or the uses done differ from the limits announced. -/
theorem C25_present (descr : List (Bool × Nat × Nat)) (sched : List Nat) (k : Nat) :
    present (run (init descr) sched) k = true ↔
      (0 < holders (run (init descr) sched) k ∨ announced (run (init descr) sched) k ≠ uses (run (init descr) sched) k) :=
  present_iff_of_inv _ (inv_run _ sched (inv_init descr)) k

/-- **C25, reclaimed exactly once.**  In every reachable state every incarnation (insertion) of the
    entry of key `k` except a present one has been reclaimed exactly once and none twice
    (`rc + [present] = ins`); and the next section of any thread `t` reclaims (by exactly one)
    if and only if the entry was present and after that section no creator holds it and all
    announced uses have been done. -/
theorem C25_reclaim_once (descr : List (Bool × Nat × Nat)) (sched : List Nat) (k t : Nat) :
    ((run (init descr) sched).cell k).rc + (if present (run (init descr) sched) k = true then 1 else 0)
        = ((run (init descr) sched).cell k).ins ∧
    ((step (run (init descr) sched) t).cell k).rc ≤ ((run (init descr) sched).cell k).rc + 1 ∧
    ((run (init descr) sched).cell k).rc ≤ ((step (run (init descr) sched) t).cell k).rc ∧
    (((step (run (init descr) sched) t).cell k).rc = ((run (init descr) sched).cell k).rc + 1 ↔
      (present (run (init descr) sched) k = true ∧ holders (step (run (init descr) sched) t) k = 0 ∧
        announced (step (run (init descr) sched) t) k = uses (step (run (init descr) sched) t) k)) := by
  have h := inv_run _ sched (inv_init descr)
  generalize run (init descr) sched = s at h
  have ab : present (step s t) k = false ↔ holders (step s t) k = 0 ∧ announced (step s t) k = uses (step s t) k := by
    rw [← Bool.not_eq_true, present_iff_of_inv _ (inv_step s t h) k]; omega
  rw [(step_counters s t k).2, ← ab]
  refine ⟨count_of_inv s h k, by split <;> omega, by omega, fun e => ?_, fun c => by rw [if_pos c]⟩
  split at e
  · assumption
  · omega

/-- **C25, never early.**  While, after a section of any thread, a creator still holds the entry of
    key `k` or announced uses are outstanding, that section did not reclaim it: the same incarnation
    is still in the table. -/
theorem C25_no_early (descr : List (Bool × Nat × Nat)) (sched : List Nat) (k t : Nat)
    (hp : present (run (init descr) sched) k = true)
    (hout : 0 < holders (step (run (init descr) sched) t) k ∨
            announced (step (run (init descr) sched) t) k ≠ uses (step (run (init descr) sched) t) k) :
    present (step (run (init descr) sched) t) k = true ∧
    ((step (run (init descr) sched) t).cell k).rc = ((run (init descr) sched).cell k).rc ∧
    ((step (run (init descr) sched) t).cell k).ins = ((run (init descr) sched).cell k).ins := by
  have h := inv_run _ sched (inv_init descr)
  generalize run (init descr) sched = s at h hp hout
  have p' := (present_iff_of_inv _ (inv_step s t h) k).2 hout
  have c := step_counters s t k
  rw [hp, p'] at c
  exact ⟨p', c.2, c.1⟩

/-- **C25, the protocol keeps every call on an existing entry.**  No call ever runs on a missing
    entry (`assert(NULL != e)`); a creator about to announce finds its entry with `retained > 0`
    (`assert(e->retained > 0)`); and the budget clause of the protocol alone already implies that
    the entry exists. -/
theorem C25_no_fault (descr : List (Bool × Nat × Nat)) (sched : List Nat) (k : Nat) :
    ((run (init descr) sched).cell k).fault = false ∧
    (∀ (t : Nat) (th : Thr), (run (init descr) sched).thr[t]? = some th → th.pc = Pc.hold → th.key = k →
        ∃ e, ((run (init descr) sched).cell k).ent = some e ∧ 0 < e.ret) ∧
    (uses (run (init descr) sched) k < announced (run (init descr) sched) k + promised (run (init descr) sched) k →
        present (run (init descr) sched) k = true) := by
  have h := inv_run _ sched (inv_init descr)
  generalize run (init descr) sched = s at h
  refine ⟨(h k).nofault, fun t th hth hpc hkey => ?_, fun hb => (present_iff_of_inv s h k).2 ?_⟩
  · have hle : _ ≤ holders s _ := le_meas_of_mem wHold (List.mem_of_getElem? hth)
    rw [hkey, wHold, if_pos hpc] at hle
    cases he : (s.cell k).ent with
    | none => have := ((h k).absent he).1; omega
    | some e => have := ((h k).there e he).1; exact ⟨e, rfl, by omega⟩
  · have : holders s k = 0 → promised s k = 0 := pend_zero_of_hold_zero k s.thr
    omega

/-- **C25, nothing leaks.**  Once every thread has returned: the entry of key `k` is present iff
    uses are missing, and if all announced uses were done it is absent, every incarnation was
    reclaimed exactly once and every mempool allocation made for the key was freed exactly once
    (`al = di + rc`). -/
theorem C25_final (descr : List (Bool × Nat × Nat)) (sched : List Nat) (k : Nat)
    (hf : finished (run (init descr) sched)) :
    (present (run (init descr) sched) k = true ↔ announced (run (init descr) sched) k ≠ uses (run (init descr) sched) k) ∧
    (announced (run (init descr) sched) k = uses (run (init descr) sched) k →
      ((run (init descr) sched).cell k).rc = ((run (init descr) sched).cell k).ins ∧
      ((run (init descr) sched).cell k).al = ((run (init descr) sched).cell k).di + ((run (init descr) sched).cell k).rc) := by
  have h := inv_run _ sched (inv_init descr)
  generalize run (init descr) sched = s at h hf
  have hH : holders s k = 0 := meas_zero_of_pcs wHold k hf (fun _ _ => rfl) (fun _ _ => rfl)
  have hM : inflight s k = 0 := meas_zero_of_pcs wMid k hf (fun _ _ => rfl) (fun _ _ => rfl)
  have a := inv_cases s h k
  have hpool := (h k).pool
  rw [present_iff_of_inv s h k]
  omega

/-- number of user threads on key `k` -/
def nUsers (descr : List (Bool × Nat × Nat)) (k : Nat) : Nat :=
  (descr.map fun d => if d.1 = true ∧ d.2.1 = k then 1 else 0).sum
/-- sum of the limits of the creator threads on key `k` -/
def budget (descr : List (Bool × Nat × Nat)) (k : Nat) : Nat :=
  (descr.map fun d => if d.1 = false ∧ d.2.1 = k then d.2.2 else 0).sum

def rank : Pc → Nat
  | .c0 => 3 | .c1 => 2 | .hold => 1 | .done => 0 | .u0 => 1 | .udone => 0

def rankSum (s : State) : Nat := (s.thr.map fun t => rank t.pc).sum

/-- the `match` is what `enabled` tests, `ok` being the answer of `useOk` -/
theorem stepCell_rank (ok : Bool) (c : Cell) (th : Thr) :
    rank (stepCell ok c th).2 ≤ rank th.pc ∧
    ((match th.pc with | .done => false | .udone => false | .u0 => ok | _ => true) = true →
      rank (stepCell ok c th).2 < rank th.pc) := by
  obtain ⟨key, pc, n⟩ := th
  cases pc <;> simp only [stepCell, cs1, cs2]
  · cases c.ent <;> dsimp only <;> decide
  · cases c.ent <;> dsimp only <;> decide
  · decide
  · decide
  · cases ok <;> simp only [Bool.false_eq_true, reduceIte] <;> decide
  · decide

theorem enabled_moves (s : State) (t : Nat) (h : enabled s t = true) :
    ∃ th, s.thr[t]? = some th ∧ ((step s t).thr[t]?.map fun x => x.pc) ≠ some th.pc := by
  unfold enabled at h
  split at h
  · cases h
  · rename_i th hth
    obtain ⟨hi, -⟩ := getElem_of_getElem? hth
    unfold step stepG
    simp only [hth, List.getElem?_set_self hi, Option.map_some, ne_eq, Option.some.injEq]
    exact ⟨th, rfl, fun e => Nat.lt_irrefl _ (e ▸ (stepCell_rank _ (s.cell th.key) th).2 h)⟩

/-- **C25, progress.**  If on every key the number of users equals the sum of the creators' limits
    (the matching uses), then in every reachable state in which some call has not returned, some
    thread is enabled: the protocol never blocks the system.  (That a fair run therefore ends with
    all calls returned, where `C25_final` applies, is not stated as a theorem.) -/
theorem C25_progress (descr : List (Bool × Nat × Nat)) (sched : List Nat)
    (hb : ∀ k, nUsers descr k = budget descr k)
    (hnf : ¬ finished (run (init descr) sched)) :
    ∃ t, enabled (run (init descr) sched) t = true := by
  refine progress_of_inv _ (inv_run _ sched (inv_init descr)) (fun k => ?_) hnf
  -- `wUsr` and `wBud` unfold to `fun t => g (isCre t.pc) t.n` for the two `g` below, so `meas_run_class`
  -- takes each measure back to `init descr`, where `meas_init` computes it on the descriptions
  have e (g : Bool → Nat → Nat) f hf := (meas_run_class g (init descr) sched k).trans (meas_init _ k f hf descr)
  exact (e (fun b _ => if b = true then 0 else 1) _ fun ⟨b, key, n⟩ => by cases b <;> simp [contrib, mkThr, isCre]).trans <|
    (hb k).trans (e (fun b n => if b = true then n else 0) _ fun ⟨b, key, n⟩ => by cases b <;> simp [contrib, mkThr, isCre]).symm

/-- **C25, termination.**  In any state, no step increases the number of sections still to run
    (`rankSum`: 3 for a creator that has not started, 1 for a user) and every enabled step decreases
    it.  The bound `3·creators + users` on the enabled steps of a run from `init`, and its
    composition with `C25_progress`, are not stated as theorems. -/
theorem C25_terminates (s : State) (t : Nat) :
    rankSum (step s t) ≤ rankSum s ∧ (enabled s t = true → rankSum (step s t) < rankSum s) := by
  unfold step stepG enabled
  cases hth : s.thr[t]? with
  | none => exact ⟨Nat.le_refl _, nofun⟩
  | some th =>
    have h := Interleave.sum_map_set (fun t => rank t.pc) s.thr t th { th with pc := (stepThr true s th).2 } hth
    have r := stepCell_rank (!true || useOk s th.key) (s.cell th.key) th
    dsimp only [rankSum, stepThr] at h ⊢
    exact ⟨by omega, fun he => by have := r.2 he; omega⟩

example : ∀ k, nUsers [(false, 7, 2), (false, 7, 1), (true, 7, 0), (true, 7, 0), (true, 7, 0), (false, 4, 0)] k =
               budget [(false, 7, 2), (false, 7, 1), (true, 7, 0), (true, 7, 0), (true, 7, 0), (false, 4, 0)] k := by
  intro k
  by_cases h7 : 7 = k <;> by_cases h4 : 4 = k <;> simp [nUsers, budget, h7, h4]

/-- Without the guard (a use issued although the announced limit is exhausted), `used_once` runs on
    an entry that was already reclaimed; with the guard the same schedule leaves that user waiting. -/
theorem protocol_needed :
    ((runRaw (init [(false, 0, 1), (true, 0, 0), (true, 0, 0)]) [0, 0, 0, 1, 2]).cell 0).fault = true ∧
    ((run (init [(false, 0, 1), (true, 0, 0), (true, 0, 0)]) [0, 0, 0, 1, 2]).cell 0).fault = false ∧
    (run (init [(false, 0, 1), (true, 0, 0), (true, 0, 0)]) [0, 0, 0, 1, 2]).thr[2]? = some ⟨0, .u0, 0⟩ := by
  decide +kernel

/-- two creators both miss in their first section (the re-check of the second one finds the first
    one's entry and frees its private copy), uses overtake the announcements, and the last
    announcement reclaims: one incarnation, reclaimed once, allocations balanced. -/
example :
    (run (init [(false, 7, 2), (false, 7, 1), (true, 7, 0), (true, 7, 0), (true, 7, 0)]) [0, 1, 0, 1, 2, 3, 4, 0, 1]).cell 7
      = ⟨none, 2, 1, 1, 1, false⟩ ∧
    finished (run (init [(false, 7, 2), (false, 7, 1), (true, 7, 0), (true, 7, 0), (true, 7, 0)]) [0, 1, 0, 1, 2, 3, 4, 0, 1]) := by
  unfold finished; decide +kernel

/-- an intermediate state with the entry present, retained twice and one use ahead of the limits -/
example :
    ((run (init [(false, 7, 2), (false, 7, 1), (true, 7, 0)]) [0, 1, 0, 1, 2]).cell 7).ent = some ⟨1, 0, 2⟩ ∧
    holders (run (init [(false, 7, 2), (false, 7, 1), (true, 7, 0)]) [0, 1, 0, 1, 2]) 7 = 2 ∧
    uses (run (init [(false, 7, 2), (false, 7, 1), (true, 7, 0)]) [0, 1, 0, 1, 2]) 7 = 1 := by
  decide +kernel

/-- two incarnations of the same key -/
example :
    (run (init [(false, 3, 1), (true, 3, 0), (false, 3, 0)]) [0, 0, 0, 1, 2, 2, 2]).cell 3 = ⟨none, 2, 0, 2, 2, false⟩ := by
  decide +kernel

end ParsecVerif.C25
