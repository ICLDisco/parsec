import ParsecVerif.Proofs.Object
/-!
# C34 — objects are destroyed exactly once when their last reference goes

* `arrays`: what `parsec_class_initialize` builds, for EVERY class hierarchy (any depth, any subset of
  levels with a constructor / destructor); the walks call nothing else and never read outside the block.
* `shape` / `once` / `quiescent`: for ANY number of threads, ANY programs of retains / releases /
  hand-offs and ANY interleaving of their atomic steps — provided every operation is made by a thread
  that holds a reference at that moment (the usage protocol, ghost flag `viol = false`).
* `locally_safe_all_schedules` and the two witnesses after it: the hypothesis is not vacuous, for any
  thread count, and cannot be dropped.
-/
namespace ParsecVerif.C34
open ParsecVerif.Object

/-- **C34, arrays.**  Initialising a not yet initialised class descriptor over any parent chain:
    the constructor walk is the base-to-derived list of present constructors, the destructor walk
    the derived-to-base list of present destructors; depth = chain length; a second call changes
    nothing. -/
theorem arrays (ch : List Level) (c : Cls) (h : c.initialized = false) :
    (classInitialize ch c).initialized = true ∧ (classInitialize ch c).depth = ch.length ∧
    runCtors (classInitialize ch c) = some (ctorOrder ch) ∧
    runDtors (classInitialize ch c) = some (dtorOrder ch) ∧
    classInitialize ch (classInitialize ch c) = classInitialize ch c := by
  rw [classInitialize_eq ch c h]
  refine ⟨rfl, rfl, ?_, ?_, rfl⟩
  · exact readArr_append [] _ _ rfl (by simp; omega)
  · rw [runDtors, List.append_cons]
    exact readArr_append _ _ [] (by simp [length_ctorOrder]) (by simp; omega)

/-- sequential reading: a new object of any class runs its constructors base → derived, the release of
    its only reference runs its destructors derived → base and sets the caller's pointer to NULL, and a
    release after a retain runs nothing -/
theorem create_release (k : Kind) (ch : List Level) (c : Cls) (h : c.initialized = false) :
    (objCreate k ch c).2 = some (ctorOrder ch) ∧ (objCreate k ch c).1.cnt = 1 ∧
    (objRelease (objCreate k ch c).1).2.1 = some (dtorOrder ch) ∧
    (objRelease (objCreate k ch c).1).2.2 = true ∧
    (objRelease (objRetain (objCreate k ch c).1)).2 = (some [], false) := by
  obtain ⟨_, _, h3, h4, _⟩ := arrays ch c h
  refine ⟨h3, rfl, ?_, ?_, ?_⟩
  · simp [objRelease, objCreate, h4]
  · simp [objRelease, objCreate]
  · simp [objRelease, objRetain, objCreate]

/-- The root descriptor `parsec_object_t_class` is statically marked initialised with NULL arrays:
    `parsec_class_initialize` leaves it alone and the constructor / destructor walks dereference
    NULL.  (Observation recorded in docs/notes/C34.md; the root class is outside C34's statement.) -/
theorem root_class_walk_undefined (ch : List Level) :
    classInitialize ch Cls.root = Cls.root ∧ runCtors Cls.root = none ∧ runDtors Cls.root = none := by
  refine ⟨rfl, rfl, rfl⟩

def isZero : Ev → Bool
  | .release _ v => v == 0
  | _ => false
def isOp : Ev → Bool
  | .retain _ _ => true
  | .release _ _ => true
  | _ => false
def dtorId : Ev → Option Nat
  | .dtor _ id => some id
  | _ => none
def isFree : Ev → Bool
  | .free _ => true
  | _ => false

def zeros (tr : List Ev) : Nat := tr.countP isZero
def dtorLog (tr : List Ev) : List Nat := tr.filterMap dtorId
def frees (tr : List Ev) : Nat := tr.countP isFree
def afterFirstZero : List Ev → List Ev
  | [] => []
  | e :: r => if isZero e then r else afterFirstZero r

def allDone (s : State) : Prop := ∀ (u : Nat) (th : Thread), s.thr[u]? = some th → th.pc = .done

/-- **C34, structure of every protocol-respecting execution** (any thread count, programs,
    schedule): it is `live`, `dying` or `dead` in the sense of `Object.Shape`. -/
theorem shape (cfg : Cfg) (c0 : Int) (spec : List (Nat × List Op)) (sched : List Nat)
    (h1 : 1 ≤ c0) (h2 : (((spec.map (·.1)).sum : Nat) : Int) ≤ c0)
    (hv : (run cfg (init c0 spec) sched).viol = false) :
    Shape cfg (run cfg (init c0 spec) sched) :=
  shape_run cfg sched (init c0 spec) (shape_init cfg c0 spec h1 h2) hv

theorem liveEv_classes {e : Ev} (h : liveEv e) : isZero e = false ∧ dtorId e = none ∧ isFree e = false := by
  cases e with
  | retain t v => exact ⟨rfl, rfl, rfl⟩
  | release t v =>
    refine ⟨?_, rfl, rfl⟩
    simp only [liveEv] at h
    simp only [isZero, beq_eq_false_iff_ne]; omega
  | dtor t id => exact h.elim
  | free t => exact h.elim

theorem live_counts {pre : List Ev} (h : ∀ e ∈ pre, liveEv e) :
    zeros pre = 0 ∧ dtorLog pre = [] ∧ frees pre = 0 :=
  ⟨List.countP_eq_zero.2 fun e he => by simp [(liveEv_classes (h e he)).1],
   List.filterMap_eq_nil_iff.2 fun e he => (liveEv_classes (h e he)).2.1,
   List.countP_eq_zero.2 fun e he => by simp [(liveEv_classes (h e he)).2.2]⟩

theorem afterFirstZero_live {pre : List Ev} (h : ∀ e ∈ pre, liveEv e) (tl : List Ev) :
    afterFirstZero (pre ++ tl) = afterFirstZero tl := by
  induction pre with
  | nil => rfl
  | cons e r ih =>
    simp only [List.cons_append, afterFirstZero, (liveEv_classes (h e List.mem_cons_self)).1,
      Bool.false_eq_true, if_false]
    exact ih fun x hx => h x (List.mem_cons_of_mem _ hx)

theorem freeEv_facts (cfg : Cfg) (t : Nat) :
    zeros (freeEv cfg t) = 0 ∧ dtorLog (freeEv cfg t) = [] ∧ (∀ x ∈ freeEv cfg t, isOp x = false) ∧
    frees (freeEv cfg t) = if cfg.kind = .dyn then 1 else 0 := by
  unfold freeEv
  cases cfg.kind
  · exact ⟨rfl, rfl, fun x hx => List.mem_singleton.1 hx ▸ rfl, rfl⟩
  · exact ⟨rfl, rfl, fun x hx => (nomatch hx), rfl⟩

/-- `fr` is what follows the destructors: nothing, or the `free` -/
theorem gone_facts {pre : List Ev} (hl : ∀ e ∈ pre, liveEv e) (t : Nat) (done : List Nat) {fr : List Ev}
    (zfr : zeros fr = 0) (dfr : dtorLog fr = []) (hfr : ∀ x ∈ fr, isOp x = false) {tr : List Ev}
    (ht : tr = pre ++ Ev.release t 0 :: (done.map (Ev.dtor t) ++ fr)) :
    zeros tr = 1 ∧ dtorLog tr = done ∧ frees tr = frees fr ∧ ∀ x ∈ afterFirstZero tr, isOp x = false := by
  subst ht
  obtain ⟨z, d, f⟩ := live_counts hl
  unfold zeros dtorLog frees at *
  refine ⟨?_, ?_, ?_, ?_⟩
  · simp [List.countP_map, z, zfr, isZero, Function.comp_def]
  · simp [List.filterMap_cons, List.filterMap_append, List.filterMap_map, d, dfr, dtorId, Function.comp_def]
  · simp [List.countP_map, f, isFree, Function.comp_def]
  · rw [afterFirstZero_live hl]
    simp only [afterFirstZero, isZero, beq_self_eq_true, if_true, List.mem_append, List.mem_map]
    rintro x (⟨d, _, rfl⟩ | hx)
    · rfl
    · exact hfr x hx

/-- **C34, exactly once.**  For every configuration, thread count, programs and schedule in which
    every retain / release / hand-off is made by a thread holding a reference:
    (a) at most one release observes zero; (b) exactly one iff the count is 0;
    (c) no retain or release follows it — it is the last operation on the object;
    (d) the destructor calls made so far are a prefix of `cfg.dtors`, the calls
        `parsec_obj_run_destructors` makes for the class (`dtorOrder ch`, derived → base, by `arrays`);
    (e) while the count is not 0 no destructor has run and nothing was freed;
    (f) at most one `free`, only for a dynamic object and only after all destructors. -/
theorem once (cfg : Cfg) (c0 : Int) (spec : List (Nat × List Op)) (sched : List Nat)
    (h1 : 1 ≤ c0) (h2 : (((spec.map (·.1)).sum : Nat) : Int) ≤ c0)
    (hv : (run cfg (init c0 spec) sched).viol = false) :
    zeros (run cfg (init c0 spec) sched).trace ≤ 1 ∧
    (zeros (run cfg (init c0 spec) sched).trace = 1 ↔ (run cfg (init c0 spec) sched).cnt = 0) ∧
    (∀ x ∈ afterFirstZero (run cfg (init c0 spec) sched).trace, isOp x = false) ∧
    dtorLog (run cfg (init c0 spec) sched).trace <+: cfg.dtors ∧
    ((run cfg (init c0 spec) sched).cnt ≠ 0 →
      dtorLog (run cfg (init c0 spec) sched).trace = [] ∧ frees (run cfg (init c0 spec) sched).trace = 0) ∧
    frees (run cfg (init c0 spec) sched).trace ≤ 1 ∧
    (frees (run cfg (init c0 spec) sched).trace = 1 →
      cfg.kind = .dyn ∧ dtorLog (run cfg (init c0 spec) sched).trace = cfg.dtors) := by
  have hs := shape cfg c0 spec sched h1 h2 hv
  generalize run cfg (init c0 spec) sched = s at hs
  cases hs with
  | live hl hc _ _ =>
    obtain ⟨z, d, f⟩ := live_counts hl
    have a : afterFirstZero s.trace = [] := by simpa [afterFirstZero] using afterFirstZero_live hl []
    exact ⟨z ▸ Nat.zero_le 1, ⟨fun h => absurd (z.symm.trans h) (by decide), fun h => absurd (h ▸ hc) (by decide)⟩,
      by simp [a], d ▸ List.nil_prefix, fun _ => ⟨d, f⟩, f ▸ Nat.zero_le 1,
      fun h => absurd (f.symm.trans h) (by decide)⟩
  | dying t pre done rest ht hl hc _ hd _ _ =>
    obtain ⟨z, d, f, a⟩ := gone_facts hl t done (fr := []) rfl rfl (by simp) (ht.trans (by rw [List.append_nil]))
    exact ⟨Nat.le_of_eq z, ⟨fun _ => hc, fun _ => z⟩, a, d ▸ hd ▸ List.prefix_append _ _, fun h => absurd hc h,
      f ▸ Nat.zero_le 1, fun h => absurd (f.symm.trans h) (by decide)⟩
  | dead t pre ht hl hc _ _ =>
    obtain ⟨zfr, dfr, hfr, ff⟩ := freeEv_facts cfg t
    obtain ⟨z, d, f, a⟩ := gone_facts hl t cfg.dtors zfr dfr hfr ht
    rw [ff] at f
    refine ⟨Nat.le_of_eq z, ⟨fun _ => hc, fun _ => z⟩, a, d ▸ List.prefix_refl _, fun h => absurd hc h,
      by rw [f]; split <;> decide, fun h => ⟨?_, d⟩⟩
    rw [f] at h
    exact Classical.byContradiction fun hk => by simp [hk] at h

/-- **C34, completion.**  When every thread has finished and the count is 0, all destructors of
    the class have run, in order, exactly once, and a dynamic object was freed exactly once. -/
theorem quiescent (cfg : Cfg) (c0 : Int) (spec : List (Nat × List Op)) (sched : List Nat)
    (h1 : 1 ≤ c0) (h2 : (((spec.map (·.1)).sum : Nat) : Int) ≤ c0)
    (hv : (run cfg (init c0 spec) sched).viol = false)
    (hq : allDone (run cfg (init c0 spec) sched)) (h0 : (run cfg (init c0 spec) sched).cnt = 0) :
    dtorLog (run cfg (init c0 spec) sched).trace = cfg.dtors ∧
    frees (run cfg (init c0 spec) sched).trace = (if cfg.kind = .dyn then 1 else 0) := by
  have hs := shape cfg c0 spec sched h1 h2 hv
  generalize run cfg (init c0 spec) sched = s at hs hq h0
  cases hs with
  | live _ hc _ _ => omega
  | dying t pre done rest _ _ _ _ _ _ ho =>
    obtain ⟨th, h1, h2⟩ := ho.1
    cases h2.symm.trans (hq t th h1)
  | dead t pre ht hl hc _ _ =>
    obtain ⟨zfr, dfr, hfr, ff⟩ := freeEv_facts cfg t
    obtain ⟨_, d, f, _⟩ := gone_facts hl t cfg.dtors zfr dfr hfr ht
    exact ⟨d, f.trans ff⟩

/-- **The protocol hypothesis is satisfiable under every schedule**: if each thread's program,
    checked alone against the references it starts with, never operates empty-handed, then no
    schedule produces a protocol violation — hence `once` and `quiescent` apply to ALL schedules
    of such programs. -/
theorem locally_safe_all_schedules (cfg : Cfg) (c0 : Int) (spec : List (Nat × List Op)) (sched : List Nat)
    (hs : locallySafe (init c0 spec).thr = true) : (run cfg (init c0 spec) sched).viol = false :=
  safe_run cfg sched (init c0 spec) rfl (allSafe_of_locallySafe _ hs)

/-! ## The hypothesis cannot be dropped (witnesses; replayed on the real code, corpus/C34/003) -/

/-- one thread owning the only reference of a static object releases it, then retains and
    releases again: two releases observe zero and destructor 7 runs twice -/
theorem unprotected_retain_destroys_twice :
    zeros (run ⟨.sta, [7]⟩ (init 1 [(1, [.release, .retain, .release])]) [0, 0, 0, 0, 0, 0]).trace = 2 ∧
    dtorLog (run ⟨.sta, [7]⟩ (init 1 [(1, [.release, .retain, .release])]) [0, 0, 0, 0, 0, 0]).trace = [7, 7] ∧
    (run ⟨.sta, [7]⟩ (init 1 [(1, [.release, .retain, .release])]) [0, 0, 0, 0, 0, 0]).viol = true := by
  decide

/-- a thread that holds nothing releases: the object is destroyed while thread 0 still holds its
    reference, and thread 0's own later release drives the count to −1 -/
theorem unowned_release_destroys_early :
    (run ⟨.sta, [7]⟩ (init 1 [(1, [.release]), (0, [.release])]) [0, 1, 1, 1, 0]).trace =
      [.release 1 0, .dtor 1 7, .release 0 (-1)] ∧
    (run ⟨.sta, [7]⟩ (init 1 [(1, [.release]), (0, [.release])]) [0, 1, 1, 1, 0]).viol = true := by
  decide

/-- `arrays` on a hierarchy of four levels above the root (`cls_depth` 5) with mixed levels (class k4231 of the harness family) -/
example : runCtors (classInitialize (chainOf [4, 2, 3, 1]) Cls.fresh) = some [4, 42] ∧
    runDtors (classInitialize (chainOf [4, 2, 3, 1]) Cls.fresh) = some [423, 4] ∧
    (classInitialize (chainOf [4, 2, 3, 1]) Cls.fresh).depth = 5 := by decide

/-- `once`: three threads, a hand-off, the zero-observing release is made by thread 1; thread 2 (empty
    program, done since its first step) is scheduled between the two destructors and idles -/
example : (run ⟨.dyn, [43, 4]⟩ (init 2 [(1, [.retain, .give 1, .release]), (1, [.release, .release]), (0, [])])
      [0, 1, 2, 0, 1, 0, 0, 1, 1, 2, 1]).trace =
      [.retain 0 3, .release 1 2, .release 0 1, .release 1 0, .dtor 1 43, .dtor 1 4, .free 1] ∧
    (run ⟨.dyn, [43, 4]⟩ (init 2 [(1, [.retain, .give 1, .release]), (1, [.release, .release]), (0, [])])
      [0, 1, 2, 0, 1, 0, 0, 1, 1, 2, 1]).viol = false := by decide

/-- `locally_safe_all_schedules`: its hypothesis holds for programs that do destroy the object -/
example : locallySafe (init 3 [(2, [.release, .retain, .release, .release]), (1, [.retain, .release, .release])]).thr = true := by
  decide

end ParsecVerif.C34
