import ParsecVerif.Proofs.ContextStamps
/-!
# C06 — wait and completion calls return exactly when the work is done

Theorems about EVERY run of the context machine `Model/Context.lean` (any number of workers, any
number of taskpools — plain, DTD-like, or added without a termination detector —, any number of
epochs, any interleaving of the transitions, taskpools added by the master, by task bodies and by
completion callbacks).  Stamps are the values of the machine's global clock at the steps.
-/
namespace ParsecVerif.C06
open ParsecVerif.Context

/-- **parsec_context_wait is sound.**  Whenever a wait returned (stamp `r`), every taskpool whose
    increment (`parsec_context_add_taskpool`) happened before that return is completely
    done before `r`: all its tasks ended, then its completion callback ran (once), then
    `active_taskpools` was decremented, then the wait returned. -/
theorem C06_wait_sound (k : Nat) (tps : List Tp) (hf : ∀ tp ∈ tps, tp.fresh) (trs : List Tr)
    (r : Nat) (hr : r ∈ (run k tps trs).waitRets) (tp : Tp) (hm : tp ∈ (run k tps trs).tps)
    (ha : tp.addAt ≠ 0) (hlt : tp.addAt < r) :
    tp.st = .done ∧ tp.ended = tp.total ∧ tp.started = tp.total ∧ tp.cbs = 1 ∧
    tp.lastEnd < tp.cbAt ∧ tp.cbAt < tp.decAt ∧ tp.decAt < r :=
  (inv_sinv_run k tps hf trs).2.wait_sound hr hm ha hlt

/-- **The completion callback runs exactly once, after the last task.**  At every moment of every
    run: at most one execution; exactly one as soon as the taskpool is done; and once it has run, all
    tasks of the taskpool have started and ended and the last end is earlier than the callback. -/
theorem C06_cb_once (k : Nat) (tps : List Tp) (hf : ∀ tp ∈ tps, tp.fresh) (trs : List Tr)
    (tp : Tp) (hm : tp ∈ (run k tps trs).tps) :
    tp.cbs ≤ 1 ∧ (tp.st = .done → tp.cbs = 1) ∧
    (tp.cbs = 1 → tp.ended = tp.total ∧ tp.started = tp.total ∧ tp.cbAt ≠ 0 ∧ tp.lastEnd < tp.cbAt ∧ tp.firstBegin < tp.cbAt) ∧
    (tp.decAt ≠ 0 → tp.cbs = 1 ∧ tp.cbAt < tp.decAt) := by
  obtain ⟨_, hs⟩ := inv_sinv_run k tps hf trs
  obtain ⟨h1, h2, h3, h4⟩ := tpOK_cb (hs.tpok tp hm)
  exact ⟨h1, fun e => (h2 e).1, h3, fun e => ⟨(h4 e).1, (h4 e).2.1⟩⟩

/-- **parsec_taskpool_wait(p) is sound**: every recorded return is later than p's decrement, hence
    later than p's completion callback and than the end of every task of p. -/
theorem C06_taskpool_wait (k : Nat) (tps : List Tp) (hf : ∀ tp ∈ tps, tp.fresh) (trs : List Tr)
    (p r : Nat) (hr : (p, r) ∈ (run k tps trs).tpWaitRets) :
    ∃ tp : Tp, (run k tps trs).tps[p]? = some tp ∧ tp.st = .done ∧ tp.ended = tp.total ∧ tp.cbs = 1 ∧
      tp.lastEnd < tp.cbAt ∧ tp.cbAt < tp.decAt ∧ tp.decAt < r := by
  obtain ⟨_, hs⟩ := inv_sinv_run k tps hf trs
  obtain ⟨_, tp, htp, hst, hd⟩ := hs.tw (p, r) hr
  obtain ⟨_, hdone, hcb, _⟩ := tpOK_cb (hs.tpok tp (List.mem_of_getElem? htp))
  obtain ⟨h1, h2⟩ := hdone hst
  obtain ⟨e1, _, _, e4, _⟩ := hcb h1
  exact ⟨tp, htp, hst, e1, h1, e4, h2, hd⟩

/-- number of taskpools counted in `active_taskpools`: added (or in their callback) and not yet
    decremented, minus those decremented before being incremented (taskpools added without detector) -/
def pendingCount (l : List Tp) : Int :=
  (l.countP (fun tp => tp.st == .added || tp.st == .inCb || tp.st == .inCbN) : Int) - (l.countP (fun tp => tp.st == .earlyDec) : Int)

theorem csum_eq_pendingCount (l : List Tp) : csum l = pendingCount l := by
  induction l with
  | nil => rfl
  | cons a t ih =>
    have e : csum (a :: t) = contrib a.st + csum t := by simp [csum]
    rw [e, ih]
    unfold pendingCount
    simp only [List.countP_cons]
    cases a.st <;> simp [contrib] <;> omega

/-- **The counter invariant, re-established at every start and in every epoch.**  In every
    reachable state `active_taskpools = token + |added ∖ decremented|`; the token is held exactly
    between `parsec_context_start` and `parsec_context_wait` (or during `parsec_taskpool_wait`);
    outside an epoch the master is outside the API, no token is held and every worker is parked at
    the barrier with nothing in hand. -/
theorem C06_epochs (k : Nat) (tps : List Tp) (hf : ∀ tp ∈ tps, tp.fresh) (trs : List Tr) :
    let s := run k tps trs
    s.active = (if s.token = true then 1 else 0) + pendingCount s.tps ∧
    (s.token = true ↔ (s.started = true ∧ (s.mm = .out ∨ isTpWait s.mm = true))) ∧
    (s.started = false → s.token = false ∧ s.mm = .out ∧ (∀ m ∈ s.wm, m = .parked) ∧
      ∀ w, w < s.wm.length → s.bases[w + 1]? = some .idle ∧ s.subs[w + 1]? = some .none) := by
  intro s
  obtain ⟨hi, _⟩ := inv_sinv_run k tps hf trs
  refine ⟨by rw [← csum_eq_pendingCount]; exact hi.cnt, hi.tokM, ?_⟩
  intro hst
  obtain ⟨h1, h2⟩ := hi.notSt hst
  refine ⟨hi.no_token fun e => Bool.false_ne_true (hst.symm.trans e.1), h1, h2, ?_⟩
  intro w hw
  have hget : s.wm[w]? = some s.wm[w] := List.getElem?_eq_getElem hw
  exact hi.wIdle w _ hget (by rw [h2 _ (List.getElem_mem hw)]; simp)

/-- the step of `parsec_context_start` that takes the token re-establishes `active = 1 + pending` -/
theorem C06_start_token (k : Nat) (tps : List Tp) (hf : ∀ tp ∈ tps, tp.fresh) (trs : List Tr) (s' : St)
    (hs : step? (run k tps trs) .startToken = some s') :
    s'.token = true ∧ s'.active = 1 + pendingCount s'.tps ∧ s'.mm = .out ∧ s'.started = true := by
  have hi' := inv_step (inv_sinv_run k tps hf trs).1 hs
  cases Step.of_step? hs with
  | thread _ hw => cases hw
  | startToken =>
    refine ⟨rfl, ?_, rfl, (hi'.tokM.1 rfl).1⟩
    rw [← csum_eq_pendingCount]
    simpa [tick] using hi'.cnt

theorem active_zero_of_done {s : St} (hi : Inv s) (ht : s.token = false)
    (hd : ∀ tp ∈ s.tps, tp.st = .notAdded ∨ tp.st = .done) : s.active = 0 := by
  have hz := csum_eq_zero s.tps fun tp hm => by rcases hd tp hm with e | e <;> rw [e] <;> rfl
  have hc := hi.cnt
  rw [ht, hz] at hc
  simpa using hc

/-- **Epoch end.**  When the master is past the end-of-epoch barrier (about to return from the wait)
    every worker has left the loop and is parked, every thread is idle, and every taskpool is either
    never added or completely done: the return cannot overtake anything. -/
theorem C06_epoch_end (k : Nat) (tps : List Tp) (hf : ∀ tp ∈ tps, tp.fresh) (trs : List Tr)
    (hm : (run k tps trs).mm = .leaving) :
    (∀ m ∈ (run k tps trs).wm, m = .parked) ∧
    (∀ tp ∈ (run k tps trs).tps, tp.st = .notAdded ∨ tp.st = .done) ∧
    (run k tps trs).active = 0 ∧
    ∀ t, t < (run k tps trs).bases.length → (run k tps trs).bases[t]? = some .idle ∧ (run k tps trs).subs[t]? = some .none := by
  obtain ⟨hi, _⟩ := inv_sinv_run k tps hf trs
  obtain ⟨h1, h2⟩ := hi.leaving hm
  exact ⟨h1, h2, active_zero_of_done hi (hi.no_token (by simp [hm, isTpWait])) h2, all_idle hi (Or.inl hm)⟩

/-- **The loop can be left when the work is done**: with the token released and every taskpool
    either not added or done, the counter is 0 (so `sawZero` / `leave` are enabled for idle threads). -/
theorem C06_zero_when_done (k : Nat) (tps : List Tp) (hf : ∀ tp ∈ tps, tp.fresh) (trs : List Tr)
    (ht : (run k tps trs).token = false)
    (hd : ∀ tp ∈ (run k tps trs).tps, tp.st = .notAdded ∨ tp.st = .done) : (run k tps trs).active = 0 :=
  active_zero_of_done (inv_sinv_run k tps hf trs).1 ht hd

/-! Non-vacuity: one worker, three taskpools — 0 (two tasks) added by the master before the start, 1 added
    by a task body of 0 while the master waits, 2 (no detector: fires at once) added by the completion
    callback of 0 — one full epoch, without `parsec_taskpool_wait`. -/
def exTps : List Tp := [mkTp 2 false false, mkTp 1 false false, mkTp 0 true false]
def exRun : List Tr :=
  [.addCall 0 0, .addInc 0, .addReturn 0, .startBarrier, .startToken, .waitBegin,
   .taskBegin 1 0, .addCall 1 1, .addInc 1, .addReturn 1, .taskEnd 1, .taskBegin 0 0, .taskEnd 0,
   .detect 0 0, .addCall 0 2, .earlyCb 0, .earlyDec 0, .addInc 0, .addReturn 0, .dec 0,
   .taskBegin 1 1, .taskEnd 1, .detect 1 1, .dec 1, .sawZero, .leave 0, .barrier, .waitReturn]

theorem exTps_fresh : ∀ tp ∈ exTps, tp.fresh := by
  intro tp h
  simp only [exTps, List.mem_cons, List.not_mem_nil, or_false] at h
  rcases h with rfl | rfl | rfl <;> exact mkTp_fresh _ _ _
example : (run 1 exTps exRun).waitRets = [28] ∧ (run 1 exTps exRun).active = 0 ∧
    (run 1 exTps exRun).tps.map (·.st) = [.done, .done, .done] ∧
    (run 1 exTps exRun).tps.map (·.addAt) = [2, 9, 18] ∧
    (run 1 exTps exRun).tps.map (·.decAt) = [20, 24, 17] ∧
    (run 1 exTps exRun).tps.map (·.cbs) = [1, 1, 1] ∧ (run 1 exTps exRun).started = false := by decide
example : (run 1 exTps (exRun.take 5)).token = true ∧ (run 1 exTps (exRun.take 5)).active = 2 := by decide

end ParsecVerif.C06
