import ParsecVerif.Proofs.Sched.Prio
/-!
# C09 — priority schedulers honour task priorities

Models: `ParsecVerif.Sched` (`Model/Sched/Basic.lean`: `chain_sorted` of parsec/class/list.h with its
`pos` cursor; `Model/Sched/Prio.lean`: the ap, ip and spq modules, one step = one module call).
Quantification: EVERY finite history of `schedule(ring, distance)` / `select` calls (`List Op`, replayed from
the empty module by `apRun`, `ipRun`, `spqRun`; these are defined in `Proofs/Sched/Prio.lean`),
any ring contents and order, any priorities (`Int`), any distances (`Int`), no concurrent activity.

`Task.seq` is the ghost arrival stamp.  `stamp_seq` (the i-th task of a ring stamped from `n` carries
`seq = n + i`) and `*_next` (the counter a call stamps from is the number of tasks scheduled before it) are the
two halves of: the k-th task ever handed to `schedule` (ring order inside one call) carries `seq = k`.
"Earliest scheduled among equals" is "smallest `seq`".
-/
namespace ParsecVerif.C09
open ParsecVerif.Sched

def schedCount : List Op → Nat
  | [] => 0
  | .sched r _ :: ops => r.length + schedCount ops
  | .sel :: ops => schedCount ops

theorem stamp_seq : ∀ (ring : List Task) (n i : Nat) (t : Task), (stamp n ring)[i]? = some t →
    t.seq = n + i ∧ ∃ t0, ring[i]? = some t0 ∧ t.id = t0.id ∧ t.prio = t0.prio
  | ring, n, i, t, h => by
    rw [stamp_eq, List.getElem?_map, List.getElem?_zipIdx, Option.map_map] at h
    obtain ⟨t0, h0, rfl⟩ := Option.map_eq_some_iff.1 h
    exact ⟨rfl, t0, h0, rfl, rfl⟩

theorem next_foldl {σ : Type} {step : σ → Op → σ} {next : σ → Nat}
    (hs : ∀ s r d, next (step s (.sched r d)) = next s + r.length) (hsel : ∀ s, next (step s .sel) = next s) :
    ∀ (ops : List Op) (s : σ), next (ops.foldl step s) = next s + schedCount ops
  | [], _ => rfl
  | .sched r d :: ops, s => by rw [List.foldl_cons, next_foldl hs hsel ops, hs, schedCount, Nat.add_assoc]
  | .sel :: ops, s => by rw [List.foldl_cons, next_foldl hs hsel ops, hsel, schedCount]

theorem ap_next (ops : List Op) : (apRun ops).next = schedCount ops :=
  (next_foldl (step := apStep) (next := LSt.next) (fun _ _ _ => rfl)
    (fun s => by show (apSelect s).1.next = _; unfold apSelect; split <;> rfl) ops LSt.init).trans (Nat.zero_add _)

theorem ip_next (ops : List Op) : (ipRun ops).next = schedCount ops :=
  (next_foldl (step := ipStep) (next := LSt.next) (fun s r d => by show (ipSchedule s r d).next = _; unfold ipSchedule; split <;> rfl)
    (fun s => by show (ipSelect s).1.next = _; unfold ipSelect; split <;> rfl) ops LSt.init).trans (Nat.zero_add _)

theorem spq_next (ops : List Op) : (spqRun ops).next = schedCount ops :=
  (next_foldl (step := spqStep) (next := SpqSt.next) (fun _ _ _ => rfl) (fun _ => rfl) ops SpqSt.init).trans
    (Nat.zero_add _)

/-- ap `schedule` adds exactly the ring, stamped from `next`, to the pending list -/
theorem ap_schedule_pending (s : LSt) (ring : List Task) (d : Int) :
    (apSchedule s ring d).list.Perm (stamp s.next ring ++ s.list) :=
  chainSorted_perm _ _

/-- **ap returns a maximum-priority pending task, the earliest scheduled among equals.** -/
theorem C09_ap (ops : List Op) (t : Task) (d : Int) (h : (apSelect (apRun ops)).2 = some (t, d)) :
    d = 0 ∧ (apRun ops).list = t :: (apSelect (apRun ops)).1.list ∧
    ∀ u ∈ (apSelect (apRun ops)).1.list, u.prio < t.prio ∨ (u.prio = t.prio ∧ t.seq < u.seq) := by
  obtain ⟨hd, hl⟩ := apSelect_some h
  refine ⟨hd, hl, fun u hu => ?_⟩
  have := (List.pairwise_cons.1 (hl ▸ (apRun_inv ops).1)).1 u hu
  unfold Before at this; omega

/-- ap `select` returns NULL exactly when nothing is pending -/
theorem C09_ap_none (s : LSt) : (apSelect s).2 = none ↔ s.list = [] := apSelect_eq_none

/-- spq `schedule` adds exactly the stamped ring, at distance `d`, to the pending tasks -/
theorem spq_schedule_pending (s : SpqSt) (ring : List Task) (d : Int) :
    (pendD (spqSchedule s ring d).pls).Perm ((stamp s.next ring).map (fun t => (t, d)) ++ pendD s.pls) :=
  pendD_spqInsert d _ _

/-- **spq returns from the smallest pending distance, maximum priority within it, earliest among
    equals.**  `pendD` lists the pending tasks with the distance they were scheduled at. -/
theorem C09_spq (ops : List Op) (t : Task) (d : Int) (h : (spqSelect (spqRun ops)).2 = some (t, d)) :
    pendD (spqRun ops).pls = (t, d) :: pendD (spqSelect (spqRun ops)).1.pls ∧
    ∀ u du, (u, du) ∈ pendD (spqSelect (spqRun ops)).1.pls →
      d < du ∨ (d = du ∧ (u.prio < t.prio ∨ (u.prio = t.prio ∧ t.seq < u.seq))) := by
  refine ⟨pendD_spqPop h, fun u du hu => ?_⟩
  rcases (List.pairwise_cons.1 (pendD_spqPop h ▸ (spqRun_inv ops).sorted)).1 _ hu with h1 | ⟨h1, (h2 : Before t u)⟩
  · exact Or.inl h1
  · unfold Before at h2; exact Or.inr ⟨h1, by omega⟩

/-- spq `select` returns NULL only when nothing is pending -/
theorem C09_spq_none (s : SpqSt) (h : (spqSelect s).2 = none) : pendD s.pls = [] :=
  List.head?_eq_none_iff.1 (spqPopRes_eq s.pls ▸ h)

/-- ip `schedule` adds exactly the stamped ring to the pending list, whatever the distance -/
theorem ip_schedule_pending (s : LSt) (ring : List Task) (d : Int) :
    (ipSchedule s ring d).list.Perm (stamp s.next ring ++ s.list) :=
  ipSchedule_perm s ring d

/-- **ip, restricted to histories whose `schedule` calls all used distance 0, returns a
    minimum-priority pending task** (the latest scheduled among equals). -/
theorem C09_ip_partial (ops : List Op) (h0 : AllD0 ops) (t : Task) (d : Int)
    (h : (ipSelect (ipRun ops)).2 = some (t, d)) :
    d = 0 ∧ (ipRun ops).list = (ipSelect (ipRun ops)).1.list ++ [t] ∧
    ∀ u ∈ (ipSelect (ipRun ops)).1.list, t.prio < u.prio ∨ (t.prio = u.prio ∧ u.seq < t.seq) := by
  obtain ⟨hd, hl⟩ := ipSelect_some h
  refine ⟨hd, hl, fun u hu => ?_⟩
  have := (List.pairwise_append.1 (hl ▸ (ipRun_inv ops h0).1 : Sorted _)).2.2 u hu t (List.mem_singleton.2 rfl)
  unfold Before at this; omega

/-- The unrestricted statement for ip: whatever distances were used, `select` returns a
    minimum-priority pending task. -/
def C09_ip_full : Prop :=
  ∀ (ops : List Op) (t : Task) (d : Int), (ipSelect (ipRun ops)).2 = some (t, d) →
    ∀ u ∈ (ipRun ops).list, t.prio ≤ u.prio

/-- the witness of DESIGN 5.4: schedule(5, d=0); schedule(7, d=0); schedule(9, d=1) -/
def ipWitness : List Op :=
  [.sched [⟨1, 5, 0, 0⟩] 0, .sched [⟨2, 7, 0, 0⟩] 0, .sched [⟨3, 9, 0, 0⟩] 1]

/-- **The unrestricted ip statement is false of the code as modelled**: after the witness, `select`
    returns the priority-9 task while the priority-5 task is pending (`chain_back` for distance ≠ 0
    puts the ring at the end `pop_back` takes from).  Replayed on the real module by
    corpus/C09/001-ip-distance.case. -/
theorem C09_ip_full_false : ¬ C09_ip_full := by
  intro hfull
  have h := hfull ipWitness ⟨3, 9, 2, 0⟩ 0 (by decide) ⟨1, 5, 0, 0⟩ (by decide)
  exact absurd h (by decide)

/-- on the witness the three selects return 9, 5, 7 -/
example :
    let s0 := ipRun ipWitness
    let r1 := ipSelect s0
    let r2 := ipSelect r1.1
    let r3 := ipSelect r2.1
    (r1.2, r2.2, r3.2) = (some (⟨3, 9, 2, 0⟩, 0), some (⟨1, 5, 0, 0⟩, 0), some (⟨2, 7, 1, 0⟩, 0)) := by decide

/-! ### non-vacuity: the hypotheses are satisfiable on non-trivial states -/

def demo : List Op :=
  [.sched [⟨1, 5, 0, 0⟩, ⟨2, 7, 0, 0⟩, ⟨3, 5, 0, 0⟩] 1, .sched [⟨4, 7, 0, 0⟩, ⟨5, 9, 0, 0⟩] 0, .sel, .sched [⟨6, 7, 0, 0⟩] 2]

/-- ap: after `demo` the head is task 2 (priority 7, arrival 1), ahead of tasks 4 and 6 (priority 7,
    later arrivals) and of the priority-5 tasks -/
example : (apSelect (apRun demo)).2 = some (⟨2, 7, 1, 0⟩, 0) ∧
    (apRun demo).list.map (·.id) = [2, 4, 6, 1, 3] := by decide

/-- spq: after `demo` distance 0 holds task 4 only (5 was selected); it wins although distance 1 holds
    an equal priority that arrived earlier -/
example : (spqSelect (spqRun demo)).2 = some (⟨4, 7, 3, 0⟩, 0) ∧
    (pendD (spqRun demo).pls).map (fun p => (p.1.id, p.2)) = [(4, 0), (2, 1), (1, 1), (3, 1), (6, 2)] := by decide

def demo0 : List Op :=
  [.sched [⟨1, 5, 0, 0⟩, ⟨2, 7, 0, 0⟩, ⟨3, 5, 0, 0⟩] 0, .sched [⟨4, 7, 0, 0⟩, ⟨5, 3, 0, 0⟩] 0, .sel, .sched [⟨6, 5, 0, 0⟩] 0]

/-- ip with distance 0 only: lowest priority, latest arrival among equals -/
example : AllD0 demo0 ∧ (ipSelect (ipRun demo0)).2 = some (⟨6, 5, 5, 0⟩, 0) ∧
    (ipRun demo0).list.map (·.id) = [2, 4, 1, 3, 6] := by
  refine ⟨?_, by decide, by decide⟩
  intro op hop
  simp only [demo0, List.mem_cons, List.not_mem_nil, or_false] at hop
  rcases hop with rfl | rfl | rfl | rfl <;> simp

/-- `chain_sorted` on a list that is NOT sorted (ip after a distance ≠ 0 call): the `pos` cursor
    matters — the ring [6,4] is inserted after the trailing 9, not before the 5 -/
example : (chainSorted [⟨1, 7, 0, 0⟩, ⟨2, 5, 0, 0⟩, ⟨3, 9, 0, 0⟩] [⟨4, 6, 0, 0⟩, ⟨5, 4, 0, 0⟩]).map (·.id) = [1, 2, 3, 4, 5] := by decide

end ParsecVerif.C09
