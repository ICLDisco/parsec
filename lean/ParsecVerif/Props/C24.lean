import ParsecVerif.Proofs.JdfLimits
/-!
# C24 — the PTG compiler accepts only programs it can compile  (the limit decision logic)

Model: `ParsecVerif.JdfLimits` (mirrors `jdf_assign_ldef_index`, `jdf_flatten_function`,
`jdf_sanity_check_flows_and_deps_number`, `main`, and the limit tests / `#error` blocks of `jdf2c.c`).
Quantification: every build configuration `L`, every command line `c` (`--Werror` or not), every
program shape `p` (any number of task classes, flows, dependencies, local definitions).

Only this decision logic is a theorem.  That accepted programs compile, that two runs agree, and
that rejections carry a diagnostic are explored on the real compiler by `checks/C24.py`.

The statement of the property — "programs exceeding the runtime limits on flows, dependencies or
locals are always rejected" — is `limits_full` below.  It is **false** of the code: see
`not_limits_full` and the five witnesses (over-limit programs that ptgpp does not refuse; the first
two state the excess as ptgpp counts it, which `counted_le_runtime` turns into the runtime's; a sixth
program, `accepted_not_compilable`, is within every limit and its C does not compile).  What holds
is `limits_never_clean` (counted limits: ptgpp or the C compiler refuses the program),
`limits_rejected_werror_partial`, `locals_always_rejected`, `runtime_limits_partial`, and the exact
characterisation `clean_iff`.
-/
namespace ParsecVerif.C24
open ParsecVerif.JdfLimits

/-- The full statement: whatever the command line, a program that exceeds a limit of the runtime
    structures is refused by ptgpp itself. -/
def limits_full : Prop :=
  ∀ (L : Limits) (c : Cfg) (p : Prog), exceedsRuntime L p → (decision L c p).rejected = true

theorem decision_eq (L : Limits) (c : Cfg) (p : Prog) :
    (decision L c p).rejected =
      ((parseReject 0 p.funcs).isSome || (c.werror && !(sanityDiags L p).isEmpty) || (genReject L p).isSome) ∧
    (decision L c p).notClean = ((decision L c p).rejected || !(emitErrors L p).isEmpty) := by
  unfold decision genStage emitStage
  cases parseReject 0 p.funcs <;> cases c.werror && !(sanityDiags L p).isEmpty <;> cases genReject L p <;>
    cases (emitErrors L p).isEmpty <;> exact ⟨rfl, rfl⟩

/-- **When is a program accepted with C that compiles?**  Exactly when every task class passes the
    index test of `jdf_flatten_function`, `--Werror` (if given) finds no warning, every task class has
    at most `MAX_LOCAL_COUNT` counted locals, and no `#error` block (nor the missing `ldef` member)
    fires. -/
theorem clean_iff (L : Limits) (c : Cfg) (p : Prog) :
    (decision L c p).notClean = false ↔
      (∀ f ∈ p.funcs, f.flattenOk = true) ∧ (c.werror = true → ∀ f ∈ p.funcs, f.sane L) ∧
      (∀ f ∈ p.funcs, f.nbLocals ≤ L.maxLocal) ∧ (∀ f ∈ p.funcs, f.cleanC L) := by
  rw [(decision_eq L c p).2, (decision_eq L c p).1]
  simp only [Bool.or_eq_false_iff, Bool.and_eq_false_imp, Bool.not_eq_false', Option.isSome_eq_false_iff,
    Option.isNone_iff_eq_none, and_assoc, List.isEmpty_iff, genReject, sanityDiags, emitErrors, parseReject_none,
    genRejectGo_none, progDiags_nil, progErrs_nil]

/-- **When does ptgpp itself refuse?**  Exactly when a task class fails the index test, or `--Werror`
    is given and the limit check printed a warning, or a task class has more than `MAX_LOCAL_COUNT`
    counted locals. -/
theorem rejected_iff (L : Limits) (c : Cfg) (p : Prog) :
    (decision L c p).rejected = true ↔
      (¬ ∀ f ∈ p.funcs, f.flattenOk = true) ∨ (c.werror = true ∧ ¬ ∀ f ∈ p.funcs, f.sane L) ∨
      ¬ ∀ f ∈ p.funcs, f.nbLocals ≤ L.maxLocal := by
  rw [(decision_eq L c p).1]
  simp only [Bool.or_eq_true, Bool.and_eq_true, Bool.not_eq_true', ← Bool.not_eq_true, Option.isSome_iff_ne_none,
    ne_eq, or_assoc, List.isEmpty_iff, genReject, sanityDiags, parseReject_none, genRejectGo_none, progDiags_nil]

/-- **Counted limits are never accepted cleanly.**  If some task class exceeds a limit *as ptgpp
    counts it* (locals + `nb_max_local_def`, flows, READ flows, WRITE flows, input or output
    dependencies of a flow), then either ptgpp exits non-zero or the C it emits is refused by the C
    compiler (a firing `#error`). -/
theorem limits_never_clean (L : Limits) (c : Cfg) (p : Prog) (h : exceedsCounted L p) :
    (decision L c p).notClean = true := by
  obtain ⟨f, hf, hx⟩ := h
  exact eq_true_of_ne_false <| mt (clean_iff L c p).1 fun ⟨_, _, h3, h4⟩ =>
    Func.exceedsCounted_not_clean L f hx ⟨h3 f hf, h4 f hf⟩

/-- **Under `--Werror` ptgpp itself refuses** every program in which a task class exceeds a checked
    limit (partial: the total number of flows is not among them, see `total_flows_not_rejected`). -/
theorem limits_rejected_werror_partial (L : Limits) (p : Prog)
    (h : ∃ f ∈ p.funcs, f.exceedsChecked L) : (decision L ⟨true⟩ p).rejected = true := by
  obtain ⟨f, hf, hx⟩ := h
  refine (rejected_iff L ⟨true⟩ p).2 ?_
  rcases hx with hx | hx | hx | ⟨fl, hfl, hx⟩
  · exact .inr (.inr fun a => absurd (a f hf) (Nat.not_le_of_lt hx))
  · exact .inr (.inl ⟨rfl, fun a => by have := (a f hf).2.1; omega⟩)
  · exact .inr (.inl ⟨rfl, fun a => by have := (a f hf).2.2; omega⟩)
  · exact .inr (.inl ⟨rfl, fun a => by have ⟨_, _⟩ := (a f hf).1 fl hfl; omega⟩)

/-- whatever the command line, ptgpp itself refuses a program in which a task class has more than `MAX_LOCAL_COUNT` counted locals -/
theorem locals_always_rejected (L : Limits) (c : Cfg) (p : Prog)
    (h : ∃ f ∈ p.funcs, L.maxLocal < f.nbLocals) : (decision L c p).rejected = true :=
  (rejected_iff L c p).2 (.inr (.inr fun a => let ⟨f, hf, hx⟩ := h; absurd (a f hf) (Nat.not_le_of_lt hx)))

/-- A limit exceeded as ptgpp counts it is exceeded for the runtime too (no spurious refusal on
    these grounds): ptgpp counts at most what the runtime structures need. -/
theorem counted_le_runtime (L : Limits) (p : Prog) (h : exceedsCounted L p) : exceedsRuntime L p :=
  let ⟨f, hf, hx⟩ := h
  ⟨f, hf, f.counted_le_runtime hx⟩

/-- **The runtime limits, for programs without ternary dependencies and with fewer than 32 input and
    32 output dependencies per task class** (partial: the two hypotheses are exactly the two ways in
    which ptgpp under-counts, see `ternary_deps_accepted`, `ternary_ldef_accepted`,
    `index_wrap_accepted`): such a program is never accepted cleanly. -/
theorem runtime_limits_partial (L : Limits) (c : Cfg) (p : Prog) (hnt : p.noTernary)
    (hsmall : ∀ f ∈ p.funcs, f.totalIn < 32 ∧ f.totalOut < 32)
    (h : exceedsRuntime L p) : (decision L c p).notClean = true := by
  obtain ⟨f, hf, hx⟩ := h
  rcases f.runtime_le_counted (hnt f hf) hx with hc | hw
  · exact limits_never_clean L c p ⟨f, hf, hc⟩
  · -- 29 ≤ inputs < 32 or 24 ≤ outputs < 32: the index test fires at the latest after the last flow
    exact eq_true_of_ne_false <| mt (clean_iff L c p).1 fun h =>
      Bool.false_ne_true (f.flattenOk_false_of_window (hsmall f hf) hw ▸ h.1 f hf)

/-- The index test as written in C, `(1U << n) > 0x1FFFFFFF` / `(1U << n) > 0x00FFFFFF`, for shift
    counts the C standard defines (`n < 32`): the comparisons on the right are the ones `maskReject`
    is written with, on the count modulo 32.  No lemma states `maskReject` in the shifted form. -/
theorem shl_form : ∀ n : Fin 32, (decide (2 ^ n.val > 0x1FFFFFFF) = decide (29 ≤ n.val)) ∧
    (decide (2 ^ n.val > 0x00FFFFFF) = decide (24 ≤ n.val)) := by decide

/-! ## the witnesses (replayed on the real ptgpp) -/

private def din (g : Guard := .binary) : Dep := ⟨false, g, 0, 0, 0⟩
private def dout (g : Guard := .binary) : Dep := ⟨true, g, 0, 0, 0⟩

/-- `tests/dsl/ptg/ptgpp/too_many_in_deps.jdf` in shape: one READ flow with 11 inputs. -/
def wTooManyIn : Prog := ⟨[⟨1, 0, [⟨.read, List.replicate 10 din ++ [din .uncond, dout]⟩]⟩]⟩

/-- **Finding (default command line).**  Without `--Werror` the answer of `jdf_sanity_checks` is
    ignored: the over-limit program is not refused by ptgpp (exit 0, `#error` left to the C compiler). -/
theorem default_flags_not_rejected :
    exceedsCounted Limits.std wTooManyIn ∧
    decision Limits.std ⟨false⟩ wTooManyIn = .emitBad [.depsIn 0 0 11] [.depsIn 0 0 11] ∧
    decision Limits.std ⟨true⟩ wTooManyIn = .rejectSanity [.depsIn 0 0 11] := by decide +kernel

/-- 11 READ flows and 10 WRITE flows: 21 flows, but neither count of the sanity check is over. -/
def wMixedFlows : Prog :=
  ⟨[⟨1, 0, List.replicate 11 ⟨.read, [din .uncond]⟩ ++ List.replicate 10 ⟨.write, [dout]⟩⟩]⟩

/-- **Finding (`--Werror`).**  The total number of flows is only guarded by an `#error` block. -/
theorem total_flows_not_rejected :
    exceedsCounted Limits.std wMixedFlows ∧
    decision Limits.std ⟨true⟩ wMixedFlows = .emitBad [] [.flows 0 21, .unused 0 21] := by decide +kernel

/-- One RW flow with six ternary outputs: 12 entries for `dep_out[10]`. -/
def wTernaryOut : Prog := ⟨[⟨1, 0, [⟨.rw, din .uncond :: List.replicate 6 (dout .ternary)⟩]⟩]⟩

/-- **Finding.**  Ternary dependencies are counted once but fill two slots: accepted, no `#error`. -/
theorem ternary_deps_accepted :
    exceedsRuntime Limits.std wTernaryOut ∧ ¬ exceedsCounted Limits.std wTernaryOut ∧
    decision Limits.std ⟨true⟩ wTernaryOut = .emitOk [] := by decide +kernel

/-- 19 locals, one local definition on a dependency, two on the true branch of a ternary. -/
def wTernaryLdef : Prog :=
  ⟨[⟨19, 0, [⟨.rw, [din .uncond, ⟨true, .binary, 1, 0, 0⟩, ⟨true, .ternary, 0, 2, 0⟩]⟩]⟩]⟩

/-- **Finding.**  `jdf_assign_ldef_index` forgets the local definitions of `calltrue` of a ternary:
    21 slots needed, 20 counted, accepted. -/
theorem ternary_ldef_accepted :
    exceedsRuntime Limits.std wTernaryLdef ∧ ¬ exceedsCounted Limits.std wTernaryLdef ∧
    decision Limits.std ⟨true⟩ wTernaryLdef = .emitOk [] := by decide +kernel

/-- Same cause, within all limits: no `ldef` member is declared but the code uses it. -/
def wNoLdef : Prog := ⟨[⟨1, 0, [⟨.rw, [din .uncond, ⟨true, .ternary, 0, 2, 0⟩]⟩]⟩]⟩

/-- **Finding.**  A program within every limit is accepted and its C does not compile. -/
theorem accepted_not_compilable :
    ¬ exceedsRuntime Limits.std wNoLdef ∧
    decision Limits.std ⟨true⟩ wNoLdef = .emitBad [] [.noLdef 0] := by decide +kernel

/-- Four RW flows with 8, 8, 7 and 10 outputs: indexes 23 then 33; `1U << 33` is not `> 0xFFFFFF`. -/
def wIndexWrap : Prog :=
  ⟨[⟨1, 0, [8, 8, 7, 10].map (fun n => ⟨.rw, din .uncond :: List.replicate n dout⟩)⟩]⟩

/-- **Finding.**  33 output dependencies in one task class (24 bits available): accepted. -/
theorem index_wrap_accepted :
    exceedsRuntime Limits.std wIndexWrap ∧ ¬ exceedsCounted Limits.std wIndexWrap ∧
    decision Limits.std ⟨true⟩ wIndexWrap = .emitOk [] := by decide +kernel

/-- **The full statement is false**, even under `--Werror`. -/
theorem not_limits_full : ¬ limits_full := fun h =>
  nomatch ternary_deps_accepted.2.2 ▸ h Limits.std ⟨true⟩ wTernaryOut ternary_deps_accepted.1

/-- 21 locals. -/
def wLocals : Prog := ⟨[⟨21, 0, [⟨.rw, [din .uncond, dout]⟩]⟩, ⟨2, 1, [⟨.ctl, [din, dout]⟩]⟩]⟩

set_option maxRecDepth 16384 in
example : exceedsCounted Limits.std wLocals ∧ decision Limits.std ⟨false⟩ wLocals = .rejectGen 0 [] := by
  decide +kernel
example : (∃ f ∈ wLocals.funcs, Limits.std.maxLocal < f.nbLocals) := by decide
example : (∃ f ∈ wTooManyIn.funcs, f.exceedsChecked Limits.std) :=
  ⟨_, List.mem_cons_self, Or.inr (Or.inr (Or.inr ⟨_, List.mem_cons_self, Or.inl (by decide)⟩))⟩

/-- a program within all limits: accepted cleanly in both modes (`clean_iff` is not vacuous). -/
def wFine : Prog :=
  ⟨[⟨3, 1, [⟨.rw, [din, din .uncond, ⟨true, .binary, 1, 1, 0⟩, ⟨true, .ternary, 0, 1, 2⟩]⟩, ⟨.ctl, [din, dout]⟩]⟩,
    ⟨20, 0, [⟨.write, [din .uncond, dout]⟩]⟩]⟩

set_option maxRecDepth 16384 in
example : decision Limits.std ⟨true⟩ wFine = .emitOk [] ∧ decision Limits.std ⟨false⟩ wFine = .emitOk [] ∧
    ¬ exceedsRuntime Limits.std wFine := by decide +kernel

/-- 24 outputs over three flows, no ternary, fewer than 32: refused by the parser stage. -/
def wIndex24 : Prog := ⟨[⟨1, 0, [8, 8, 8].map (fun n => ⟨.rw, din .uncond :: List.replicate n dout⟩)⟩]⟩

set_option maxRecDepth 16384 in
example : wIndex24.noTernary ∧ (∀ f ∈ wIndex24.funcs, f.totalIn < 32 ∧ f.totalOut < 32) ∧
    exceedsRuntime Limits.std wIndex24 ∧ ¬ exceedsCounted Limits.std wIndex24 ∧
    decision Limits.std ⟨false⟩ wIndex24 = .rejectParse 0 := by
  refine ⟨?_, by decide +kernel⟩
  unfold Prog.noTernary Dep.noTernary
  decide +kernel

end ParsecVerif.C24
