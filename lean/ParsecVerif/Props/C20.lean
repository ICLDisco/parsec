import ParsecVerif.Proofs.Dist
/-!
# C20 — block-cyclic data distributions are consistent

Model: `ParsecVerif.Dist` (mirrors parsec/data_dist/matrix/*.c).  Quantification: every tile size,
matrix size, submatrix window, process grid `P × Q`, k-cyclicity `kp, kq`, grid offset `ip, jq`,
every rank's view.

* 2D block-cyclic (plain and k-cyclic accessors, selected as the code does): owner, locality, slots (in range,
  injective, onto), storage, keys; `vp_grid`, `vpid_in_range` are the only statements about virtual processes.
* The statement "the key stored in the data returned by data_of is the tile's key", `DataKeyFaithful`, is
  FALSE of the k-cyclic accessor: `kcyclic_datakey_collision` (witness); `datakey_partial` is the part that holds.
* band (composition of two 2D collections): owner range, slot range and injectivity.
* tabular: the three slot theorems, stated on the table as a list (`tabPos`, `tabNbLocal`), not on `Tab`.
* vector: owner range, diag slot injectivity; witnesses of two defects (`vec_diag_init_hangs`,
  `vec_row_slot_collision`); the loop of the DIAG init is not run (`vec_init_terminates_iff`).
* kview: the view maps the window one-to-one into itself.
* symmetric (one triangle stored): owner range, locality, and slot range and injectivity
  for LOWER and UPPER, read off the closed forms `sym_lower_position`, `sym_upper_position`, `sym_lower_nbLocal`,
  `sym_upper_nbLocal`: position and tile count as sums over the local columns (`isum`, with the column weights
  `lowW`, `upW`; the three are defined in `Proofs/Dist.lean`).
-/
namespace ParsecVerif.C20
open ParsecVerif.Dist

/-- what the theorems assume of the arguments of `parsec_grid_2Dcyclic_init` (the C code checks none of it) -/
structure GridWF (g : Grid) : Prop where
  P : 0 < g.P
  Q : 0 < g.Q
  kp : 0 < g.kp
  kq : 0 < g.kq
  ip : g.ip < g.P
  jq : g.jq < g.Q

structure BCWF (b : BC) : Prop where
  t : b.t.WF
  g : GridWF b.g

/-- **Owner in range**: `rank_of` returns a rank of the `P × Q` grid. -/
theorem owner_in_range (b : BC) (hg : GridWF b.g) (m n : Nat) : b.rankOf m n < b.g.P * b.g.Q := by
  unfold BC.rankOf
  rw [b.rowOwner_eq, b.colOwner_eq]
  exact pair_lt _ _ _ _ (own1_lt hg.P) (own1_lt hg.Q)

/-- **Every tile is local to exactly its owner**: in the view of rank `rank`, the locality assertions
    of `data_of` / `vpid_of` (`m % rows == rrank` resp. `(m % (krows*rows)) / krows == rrank`, and the
    same for columns) hold iff `rank_of(m,n) == rank`. -/
theorem local_iff_owner (b : BC) (hg : GridWF b.g) (rank m n : Nat) (hr : rank < b.g.P * b.g.Q) :
    b.isLocal rank m n ↔ b.rankOf m n = rank := by
  rw [b.isLocal_iff]
  unfold BC.rankOf
  rw [b.rowOwner_eq, b.colOwner_eq, rank_split (own1_lt hg.Q)]
  unfold Grid.rrank Grid.crank
  rw [← own1_eq_iff hg.ip (rank_div_lt hr),
      ← own1_eq_iff hg.jq (Nat.mod_lt _ hg.Q)]
  exact and_congr eq_comm eq_comm

/-- a rank with a local tile in the window has local columns, so the init has not zeroed its row count -/
theorem local_bounds (b : BC) (h : BCWF b) (rank m n : Nat) (hm : m < b.t.mt) (hn : n < b.t.nt)
    (hl : b.isLocal rank m n) :
    b.localM m < b.nbR0 rank ∧ b.localN n < b.nbC0 rank ∧ b.nbR rank = b.nbR0 rank := by
  rw [b.isLocal_iff] at hl
  have h2 : b.localN n < b.nbC0 rank := by
    rw [b.localN_eq]; exact loc1_lt_nbElem h.g.kq h.g.Q hl.2 (b.t.gn_lt h.t n hn)
  refine ⟨?_, h2, b.nbR_eq rank (Nat.zero_lt_of_lt h2)⟩
  rw [b.localM_eq]; exact loc1_lt_nbElem h.g.kp h.g.P hl.1 (b.t.gm_lt h.t m hm)

/-- **Slots in range**: the `data_map` position of a local tile is below `nb_local_tiles`. -/
theorem slot_in_range (b : BC) (h : BCWF b) (rank m n : Nat) (hm : m < b.t.mt) (hn : n < b.t.nt)
    (hl : b.isLocal rank m n) : b.position rank m n < b.nbLocal rank := by
  have hb := local_bounds b h rank m n hm hn hl
  rw [BC.position, b.nbLocal_eq, hb.2.2]
  exact pos_lt _ _ _ _ hb.1 hb.2.1

/-- **Slots are injective**: two tiles of the submatrix that are local to the same rank and have the
    same `data_map` position are the same tile. -/
theorem slot_injective (b : BC) (h : BCWF b) (rank m n m' n' : Nat)
    (hm : m < b.t.mt) (hn : n < b.t.nt) (hm' : m' < b.t.mt) (hn' : n' < b.t.nt)
    (hl : b.isLocal rank m n) (hl' : b.isLocal rank m' n')
    (hp : b.position rank m n = b.position rank m' n') : m = m' ∧ n = n' := by
  have hb := local_bounds b h rank m n hm hn hl
  have hb' := local_bounds b h rank m' n' hm' hn' hl'
  unfold BC.position at hp
  rw [hb.2.2] at hp
  have := pos_inj _ _ _ _ _ hb.1 hb'.1 hp
  rw [b.isLocal_iff] at hl hl'
  simp only [b.localM_eq, b.localN_eq] at this
  exact ⟨Nat.add_right_cancel (loc1_inj h.g.kp hl.1 hl'.1 this.1),
    Nat.add_right_cancel (loc1_inj h.g.kq hl.2 hl'.2 this.2)⟩

/-- **Slots are onto** (no slot is wasted): for a window that starts at the origin of the matrix (`i = j = 0`),
    every position below `nb_local_tiles` of a rank is the position of a tile of the whole matrix (`m < lmt`,
    `n < lnt`: the init counts those, not the window's) that is local to that rank.  When the window is the whole
    matrix (`mt = lmt`, `nt = lnt`), this with `slot_injective` and `local_iff_owner` makes `nb_local_tiles` the
    number of owned tiles. -/
theorem slot_surjective (b : BC) (hg : GridWF b.g) (hi : b.t.i = 0) (hj : b.t.j = 0) (rank s : Nat)
    (hs : s < b.nbLocal rank) :
    ∃ m n, m < b.t.lmt ∧ n < b.t.lnt ∧ b.isLocal rank m n ∧ b.position rank m n = s := by
  rw [b.nbLocal_eq] at hs
  obtain ⟨m, hm, hmm, hml⟩ := loc1_onto hg.kp (Nat.mod_lt _ hg.P) (Nat.mod_lt s (Nat.pos_of_lt_mul_right hs))
  obtain ⟨n, hn, hnm, hnl⟩ := loc1_onto hg.kq (Nat.mod_lt _ hg.Q) (Nat.div_lt_of_lt_mul hs)
  have gm0 : b.gm m = m := by unfold BC.gm TM.oi; rw [hi, Nat.zero_div]; rfl
  have gn0 : b.gn n = n := by unfold BC.gn TM.oj; rw [hj, Nat.zero_div]; rfl
  refine ⟨m, n, hm, hn, ?_, ?_⟩
  · rw [b.isLocal_iff, gm0, gn0]
    exact ⟨hmm, hnm⟩
  · unfold BC.position
    rw [b.localM_eq, b.localN_eq, gm0, gn0, hml, hnl, b.nbR_eq rank (Nat.pos_of_lt_mul_left hs)]
    exact Nat.div_add_mod s _

/-- **No overlapping storage** (tile storage): the blocks `[offset, offset + bsiz)` of two different
    local tiles are disjoint and inside the `nb_local_tiles * bsiz` elements of `mat`. -/
theorem memory_disjoint (b : BC) (h : BCWF b) (hst : b.lapack = false) (rank m n m' n' : Nat)
    (hm : m < b.t.mt) (hn : n < b.t.nt) (hm' : m' < b.t.mt) (hn' : n' < b.t.nt)
    (hl : b.isLocal rank m n) (hl' : b.isLocal rank m' n') (hne : ¬ (m = m' ∧ n = n')) :
    (b.offset rank m n + b.t.bsiz ≤ b.offset rank m' n' ∨ b.offset rank m' n' + b.t.bsiz ≤ b.offset rank m n)
    ∧ b.offset rank m n + b.t.bsiz ≤ b.nbLocal rank * b.t.bsiz := by
  have hp : b.position rank m n ≠ b.position rank m' n' :=
    fun e => hne (slot_injective b h rank m n m' n' hm hn hm' hn' hl hl' e)
  have hr := slot_in_range b h rank m n hm hn hl
  simp only [BC.offset, hst, Bool.false_eq_true, if_false]
  have key : ∀ x y : Nat, x < y → x * b.t.bsiz + b.t.bsiz ≤ y * b.t.bsiz :=
    fun x y hxy => Nat.succ_mul x _ ▸ Nat.mul_le_mul_right _ hxy
  exact ⟨(Nat.lt_or_gt_of_ne hp).imp (key _ _) (key _ _), key _ _ hr⟩

/-- **Key round trip**: `key2coords (data_key (m, n)) = (m, n)`, and the key is below `lmt * lnt`. -/
theorem key_roundtrip (t : TM) (h : t.WF) (m n : Nat) (hm : m < t.mt) (hn : n < t.nt) :
    t.keyM (t.key m n) = m ∧ t.keyN (t.key m n) = n ∧ t.key m n < t.lmt * t.lnt := by
  have hg := t.gm_lt h m hm
  have hgn := t.gn_lt h n hn
  unfold TM.keyM TM.keyN
  rw [(t.key_div m n hg).2, (t.key_div m n hg).1]
  refine ⟨by omega, by omega, ?_⟩
  rw [Nat.mul_comm]
  exact pair_lt _ _ _ _ hgn hg

theorem key_injective (t : TM) (h : t.WF) (m n m' n' : Nat) (hm : m < t.mt) (hn : n < t.nt)
    (hm' : m' < t.mt) (hn' : n' < t.nt) (hk : t.key m n = t.key m' n') : m = m' ∧ n = n' := by
  have h1 := key_roundtrip t h m n hm hn
  have h2 := key_roundtrip t h m' n' hm' hn'
  rw [hk] at h1
  omega

/-- **VP grid**: `default_vp_data_dist` terminates with `vp_p * vp_q = nb_vp`. -/
theorem vp_grid (nbvp : Nat) (h : 1 ≤ nbvp) : vpP nbvp * vpQ nbvp = nbvp := (vpP_mul_vpQ nbvp h).1

/-- **Virtual process in range** (all tiles, plain and k-cyclic accessors). -/
theorem vpid_in_range (b : BC) (nbvp m n : Nat) (h : 1 ≤ nbvp) : b.vpid nbvp m n < nbvp :=
  vpidOf_lt nbvp _ _ h

/-- Full statement: the key that `data_of(m,n)` stores in the `parsec_data_t` is `data_key(m,n)`. -/
def DataKeyFaithful : Prop :=
  ∀ b : BC, BCWF b → ∀ m n, m < b.t.mt → n < b.t.nt → b.dataKey m n = b.t.key m n

/-- the proved part: plain accessors always; k-cyclic accessors only inside the first `kp*P × kq*Q` block -/
theorem datakey_partial (b : BC) (m n : Nat)
    (h : b.plain ∨ (b.gm m < b.g.kp * b.g.P ∧ b.gn n < b.g.kq * b.g.Q)) :
    b.dataKey m n = b.t.key m n := by
  unfold BC.dataKey TM.key
  split
  · rfl
  · rename_i hnp
    rcases h with h | h
    · exact absurd h hnp
    · unfold BC.gm BC.gn at h ⊢
      rw [Nat.mod_eq_of_lt h.1, Nat.mod_eq_of_lt h.2]

def kcWitness : BC :=
  { t := { mb := 1, nb := 1, lm := 3, ln := 1, i := 0, j := 0, m := 3, n := 1 },
    g := { P := 1, Q := 1, kp := 2, kq := 1, ip := 0, jq := 0 }, lapack := false }

theorem kcWitness_wf : BCWF kcWitness :=
  ⟨⟨by decide, by decide, by decide, by decide, by decide, by decide⟩,
   ⟨by decide, by decide, by decide, by decide, by decide, by decide⟩⟩

/-- **Finding F1**: with the k-cyclic accessors two different local tiles of one rank get the same
    data key (`twoDBC_kcyclic_data_of` computes the key after reducing `m`, `n` modulo `k*P`, `k*Q`). -/
theorem kcyclic_datakey_collision :
    ¬ DataKeyFaithful ∧
    (2 < kcWitness.t.mt ∧ kcWitness.rankOf 0 0 = kcWitness.rankOf 2 0 ∧
     kcWitness.t.key 0 0 ≠ kcWitness.t.key 2 0 ∧ kcWitness.dataKey 0 0 = kcWitness.dataKey 2 0) := by
  refine ⟨?_, by decide⟩
  intro hf
  have := hf kcWitness kcWitness_wf 2 0 (by decide) (by decide)
  revert this
  decide

def bandLocal (b : Band) (rank m n : Nat) : Prop :=
  if b.inBand m n then b.band.isLocal rank (b.bm m n) n else b.off.isLocal rank m n
instance (b : Band) (rank m n : Nat) : Decidable (bandLocal b rank m n) := by
  unfold bandLocal; exact inferInstance

structure BandWF (b : Band) : Prop where
  off : BCWF b.off
  band : BCWF b.band
  /-- both collections are spread over the same processes: `twoDBC_band_rank_of` returns the rank either computes -/
  nodes : b.off.g.P * b.off.g.Q = b.band.g.P * b.band.g.Q
  /-- the band collection has `2*band_size - 1` tile rows and as many tile columns as the matrix -/
  rows : 2 * b.bs - 1 ≤ b.band.t.mt
  cols : b.off.t.nt ≤ b.band.t.nt

theorem band_owner_in_range (b : Band) (h : BandWF b) (m n : Nat) :
    b.rankOf m n < b.off.g.P * b.off.g.Q := by
  unfold Band.rankOf
  split
  · rw [h.nodes]; exact owner_in_range _ h.band.g _ _
  · exact owner_in_range _ h.off.g _ _

theorem bm_lt (b : Band) (h : BandWF b) (m n : Nat) (hb : b.inBand m n) : b.bm m n < b.band.t.mt := by
  have := (b.inBand_iff m n).mp hb
  have := h.rows
  unfold Band.bm
  omega

theorem band_slot_in_range (b : Band) (h : BandWF b) (rank m n : Nat) (hm : m < b.off.t.mt) (hn : n < b.off.t.nt)
    (hl : bandLocal b rank m n) :
    (b.slot rank m n).2 < (if (b.slot rank m n).1 = 1 then b.band.nbLocal rank else b.off.nbLocal rank) := by
  unfold bandLocal at hl
  unfold Band.slot
  by_cases hb : b.inBand m n
  · rw [if_pos hb] at hl ⊢
    exact slot_in_range _ h.band rank _ _ (bm_lt b h m n hb) (Nat.lt_of_lt_of_le hn h.cols) hl
  · rw [if_neg hb] at hl ⊢
    exact slot_in_range _ h.off rank _ _ hm hn hl

theorem band_slot_injective (b : Band) (h : BandWF b) (rank m n m' n' : Nat)
    (hm : m < b.off.t.mt) (hn : n < b.off.t.nt) (hm' : m' < b.off.t.mt) (hn' : n' < b.off.t.nt)
    (hl : bandLocal b rank m n) (hl' : bandLocal b rank m' n')
    (hs : b.slot rank m n = b.slot rank m' n') : m = m' ∧ n = n' := by
  unfold bandLocal at hl hl'
  unfold Band.slot at hs
  by_cases hb : b.inBand m n <;> by_cases hb' : b.inBand m' n'
  · rw [if_pos hb] at hl hs
    rw [if_pos hb'] at hl' hs
    have e := slot_injective _ h.band rank _ _ _ _ (bm_lt b h m n hb) (Nat.lt_of_lt_of_le hn h.cols)
      (bm_lt b h m' n' hb') (Nat.lt_of_lt_of_le hn' h.cols) hl hl' (Prod.mk.inj hs).2
    have := (b.inBand_iff m n).mp hb
    have := (b.inBand_iff m' n').mp hb'
    unfold Band.bm at e
    omega
  · rw [if_pos hb, if_neg hb'] at hs; cases (Prod.mk.inj hs).1
  · rw [if_neg hb, if_pos hb'] at hs; cases (Prod.mk.inj hs).1
  · rw [if_neg hb] at hl hs
    rw [if_neg hb'] at hl' hs
    exact slot_injective _ h.off rank _ _ _ _ hm hn hm' hn' hl hl' (Prod.mk.inj hs).2

theorem tab_slot_in_range (ranks : List Nat) (me : Nat) :
    ∀ k, ranks[k]? = some me → tabPos ranks me k < tabNbLocal ranks me := by
  intro k h
  obtain ⟨hk, he⟩ := List.getElem?_eq_some_iff.mp h
  have e := congrArg (List.count me) (List.take_append_drop k ranks)
  rw [List.count_append, List.drop_eq_getElem_cons hk, he, List.count_cons_self] at e
  unfold tabPos tabNbLocal
  omega

/-- `tab_slot_in_range` for the table cut at `k'` -/
theorem tabPos_mono (ranks : List Nat) (me : Nat) :
    ∀ k k', k < k' → ranks[k]? = some me → tabPos ranks me k < tabPos ranks me k' := by
  intro k k' hk h
  have := tab_slot_in_range (ranks.take k') me k (by rw [List.getElem?_take, if_pos hk]; exact h)
  unfold tabPos tabNbLocal at this
  rw [List.take_take, Nat.min_eq_left (Nat.le_of_lt hk)] at this
  exact this

theorem tab_slot_injective (ranks : List Nat) (me k k' : Nat)
    (h : ranks[k]? = some me) (h' : ranks[k']? = some me)
    (hp : tabPos ranks me k = tabPos ranks me k') : k = k' := by
  rcases Nat.lt_trichotomy k k' with hlt | heq | hgt
  · have := tabPos_mono ranks me k k' hlt h; omega
  · exact heq
  · have := tabPos_mono ranks me k' k hgt h'; omega

theorem tab_slot_surjective (ranks : List Nat) (me : Nat) :
    ∀ s, s < tabNbLocal ranks me → ∃ k, ranks[k]? = some me ∧ tabPos ranks me k = s := by
  unfold tabNbLocal tabPos
  induction ranks with
  | nil => intro s h; cases h
  | cons a l ih =>
    intro s hs
    by_cases ha : a = me
    · subst ha
      cases s with
      | zero => exact ⟨0, rfl, rfl⟩
      | succ s =>
        rw [List.count_cons_self] at hs
        obtain ⟨k, hk, hp⟩ := ih s (Nat.lt_of_succ_lt_succ hs)
        exact ⟨k + 1, hk, by rw [List.take_succ_cons, List.count_cons_self, hp]⟩
    · rw [List.count_cons_of_ne ha] at hs
      obtain ⟨k, hk, hp⟩ := ih s hs
      exact ⟨k + 1, hk, by rw [List.take_succ_cons, List.count_cons_of_ne ha, hp]⟩

theorem vec_owner_in_range (v : Vec) (hP : 0 < v.P) (hQ : 0 < v.Q) (m : Nat) : v.rankOf m < v.P * v.Q := by
  unfold Vec.rankOf
  apply pair_lt
  · split
    · exact hP
    · exact Nat.mod_lt _ hP
  · split
    · exact hQ
    · exact Nat.mod_lt _ hQ

/-- DIAG distribution: two segments with the same owner and the same local position are the same
    segment (`local_m = m / lcm(P,Q)` is injective on the segments of one rank). -/
theorem vec_diag_slot_injective (v : Vec) (hd : v.d = .diag) (hP : 0 < v.P) (hQ : 0 < v.Q) (m m' : Nat)
    (ho : v.rankOf m = v.rankOf m') (hp : v.position m = v.position m') : m = m' := by
  simp only [Vec.rankOf, hd, reduceCtorEq, if_false] at ho
  rw [Nat.mul_comm (v.gm m % v.P), Nat.mul_comm (v.gm m' % v.P)] at ho
  have hs := pos_inj _ _ _ _ _ (Nat.mod_lt _ hQ) (Nat.mod_lt _ hQ) ho
  simp only [Vec.position, Vec.lcm, hd, Vec.lcmPQ_eq] at hp
  have hgm : v.gm m = v.gm m' := eq_of_dvd_sub
    (Nat.lcm_dvd (dvd_sub_of_mod_eq hs.2) (dvd_sub_of_mod_eq hs.1))
    (Nat.lcm_dvd (dvd_sub_of_mod_eq hs.2.symm) (dvd_sub_of_mod_eq hs.1.symm)) hp
  unfold Vec.gm at hgm
  omega

/-- `Vec.nbLocal` is `none` exactly under `diagHangs`, the condition under which the loop
    `while (drank % Q != 0) drank += Q;` of the DIAG init does not end.  The model does not run that loop: the
    condition is written into `Vec.nbLocal`, and this theorem reads it back. -/
theorem vec_init_terminates_iff (v : Vec) (rank : Nat) :
    (v.nbLocal rank).isSome ↔ ¬ (v.d = .diag ∧ v.diagHangs rank) := by
  unfold Vec.nbLocal Vec.diagHangs
  cases v.d <;> simp
  · split <;> rfl
  · split <;> rfl
  · split
    · split <;> simp [*]
    · simp [*]

def vecHangWitness : Vec := { mb := 1, lm := 4, i := 0, m := 4, P := 1, Q := 2, d := .diag }

/-- **Finding F2**: on a valid `1 × 2` grid the DIAG init of rank 1 never terminates (in the model: `nbLocal` is
    `none`, see `vec_init_terminates_iff`), although rank 1 owns segments (1 and 3). -/
theorem vec_diag_init_hangs :
    1 < vecHangWitness.P * vecHangWitness.Q ∧ vecHangWitness.nbLocal 1 = none ∧
    vecHangWitness.rankOf 1 = 1 ∧ vecHangWitness.rankOf 3 = 1 := by decide

def vecRowWitness : Vec := { mb := 1, lm := 4, i := 0, m := 4, P := 1, Q := 2, d := .row }

/-- **Finding F3**: ROW distribution on a `1 × 2` grid: segments 0 and 1 have the same owner and the
    same local position (the init treats ROW as "spread over Q columns", rank_of as "spread over P rows"). -/
theorem vec_row_slot_collision :
    vecRowWitness.rankOf 0 = vecRowWitness.rankOf 1 ∧ vecRowWitness.position 0 = vecRowWitness.position 1 ∧
    (0 : Nat) < vecRowWitness.t.mt ∧ 1 < vecRowWitness.t.mt := by decide

/-- `vp`, `vq` are the view's `krows`, `kcols`.  That the origin has `kp = kq = 1`, which
    `parsec_matrix_block_cyclic_kview` asserts, is not asked: no theorem below needs it. -/
structure KVWF (v : KV) : Prop where
  o : BCWF v.o
  vp : 0 < v.vp
  vq : 0 < v.vq

/-- **The view stays in the window**: `kview_compute_m/n` terminate (`sm`, `sn` run the loop with fuel `p*ps + 1`,
    which is enough by `orbit_returns`) with an index of the window, so the origin's accessors are called on a tile of the window and every
    theorem on `BC` above (`owner_in_range` … `memory_disjoint`) applies to `(sm, sn)`. -/
theorem kview_in_window (v : KV) (h : KVWF v) (m n : Nat) (hm : m < v.o.t.mt) (hn : n < v.o.t.nt) :
    ∃ sm sn, v.sm m = some sm ∧ v.sn n = some sn ∧ sm < v.o.t.mt ∧ sn < v.o.t.nt := by
  obtain ⟨sm, h1, h2⟩ := kviewCompute_total v.o.g.P v.vp v.o.t.mt m h.o.g.P h.vp hm
  obtain ⟨sn, h3, h4⟩ := kviewCompute_total v.o.g.Q v.vq v.o.t.nt n h.o.g.Q h.vq hn
  exact ⟨sm, sn, h1, h3, h2, h4⟩

/-- **The view is one-to-one**: two tiles of the view that are mapped to the same origin tile are the
    same tile (with `kview_in_window` and finiteness the view permutes the tiles of the window; that is not stated). -/
theorem kview_injective (v : KV) (h : KVWF v) (m n m' n' sm sn : Nat)
    (hm : m < v.o.t.mt) (hn : n < v.o.t.nt) (hm' : m' < v.o.t.mt) (hn' : n' < v.o.t.nt)
    (e1 : v.sm m = some sm) (e2 : v.sn n = some sn) (e1' : v.sm m' = some sm) (e2' : v.sn n' = some sn) :
    m = m' ∧ n = n' :=
  ⟨kviewCompute_inj h.o.g.P h.vp hm hm' e1 e1',
   kviewCompute_inj h.o.g.Q h.vq hn hn' e2 e2'⟩

/-- two tiles of the view whose origin tiles are local to the same rank and have the same `data_map` position are the same tile -/
theorem kview_slot_injective (v : KV) (h : KVWF v) (rank m n m' n' sm sn sm' sn' : Nat)
    (hm : m < v.o.t.mt) (hn : n < v.o.t.nt) (hm' : m' < v.o.t.mt) (hn' : n' < v.o.t.nt)
    (e1 : v.sm m = some sm) (e2 : v.sn n = some sn) (e1' : v.sm m' = some sm') (e2' : v.sn n' = some sn')
    (hl : v.o.isLocal rank sm sn) (hl' : v.o.isLocal rank sm' sn')
    (hp : v.o.position rank sm sn = v.o.position rank sm' sn') : m = m' ∧ n = n' := by
  have := slot_injective v.o h.o rank _ _ _ _ (kviewCompute_lt e1) (kviewCompute_lt e2) (kviewCompute_lt e1')
    (kviewCompute_lt e2') hl hl' hp
  rw [this.1] at e1; rw [this.2] at e2
  exact kview_injective v h m n m' n' _ _ hm hn hm' hn' e1 e2 e1' e2'

structure SymWF (s : Sym) : Prop where
  t : s.t.WF
  P : 0 < s.P
  Q : 0 < s.Q
  /-- symmetric matrices are square in tiles -/
  sq : s.t.lmt = s.t.lnt

/-- the locality assertions of `sym_twoDBC_vpid_of` in the view of `rank` -/
def symLocal (s : Sym) (rank m n : Nat) : Prop :=
  s.gm m % s.P = s.rrank rank ∧ s.gn n % s.Q = s.crank rank
instance (s : Sym) (rank m n : Nat) : Decidable (symLocal s rank m n) := by unfold symLocal; exact inferInstance

theorem sym_owner_in_range (s : Sym) (h : SymWF s) (m n : Nat) (hst : s.stored m n) : s.rankOf m n < s.P * s.Q := by
  unfold Sym.rankOf
  rw [if_pos hst]
  exact pair_lt _ _ _ _ (Nat.mod_lt _ h.P) (Nat.mod_lt _ h.Q)

theorem sym_local_iff_owner (s : Sym) (h : SymWF s) (rank m n : Nat) (hr : rank < s.P * s.Q) (hst : s.stored m n) :
    symLocal s rank m n ↔ s.rankOf m n = rank := by
  unfold symLocal Sym.rankOf
  rw [if_pos hst, s.rrank_eq rank hr, s.crank_eq, rank_split (Nat.mod_lt _ h.Q)]
  exact and_congr eq_comm eq_comm

/-- the LOWER position of a local stored tile, in closed form: the local columns before its column, plus
    its offset in the column -/
theorem sym_lower_position (s : Sym) (h : SymWF s) (hl : s.upper = false) (rank m n : Nat)
    (hm : m < s.t.mt) (hst : s.stored m n) (hloc : symLocal s rank m n) :
    s.gn n ≤ s.gm m ∧
    s.position rank m n = some (((isum s.Q (s.crank rank) (lowW s.P (s.rrank rank) s.t.lmt) (s.gn n)
      + (s.gm m - s.gn n) / s.P : Nat)) : Int) ∧
    (s.gm m - s.gn n) / s.P < lowW s.P (s.rrank rank) s.t.lmt (s.gn n) := by
  have hgm : s.gm m < s.t.lmt := s.t.gm_lt h.t m hm
  simp only [Sym.stored, hl, Bool.false_eq_true, if_false] at hst
  have hrr : s.rrank rank < s.P := Nat.mod_lt _ h.P
  refine ⟨hst, ?_, low_off_lt _ _ _ _ _ hrr hloc.1 hst hgm⟩
  simp only [Sym.position, Sym.coord2pos, hl, Bool.false_eq_true, if_false]
  have hcr : s.crank rank < s.Q := Nat.mod_lt _ h.Q
  have hp := lowPrefix_eq s.P s.Q _ _ s.t.lmt hrr h.Q (s.gn n + 1) (s.gn n / s.Q) _ (Nat.mod_eq_of_lt hcr)
    (Nat.lt_succ_of_le (Nat.div_le_self ..))
  rw [col_of s.Q (s.gn n) _ hloc.2, isum_zero _ _ _ hcr _ (Nat.le_refl _)] at hp
  rw [hp (by omega)]
  rfl

theorem sym_lower_nbLocal (s : Sym) (h : SymWF s) (hl : s.upper = false) (rank : Nat) :
    s.nbLocal rank = ((isum s.Q (s.crank rank) (lowW s.P (s.rrank rank) s.t.lmt) s.t.lmt : Nat) : Int) := by
  have hcr : s.crank rank < s.Q := Nat.mod_lt _ h.Q
  simp only [Sym.nbLocal, hl, Bool.false_eq_true, if_false]
  rw [← h.sq, lowTotal_eq s.P s.Q (s.rrank rank) _ s.t.lmt (Nat.mod_lt _ h.P) h.Q _ _ (Nat.mod_eq_of_lt hcr)
    (by omega), isum_zero _ _ _ hcr _ (Nat.le_refl _)]
  rfl

theorem sym_lower_slot_in_range (s : Sym) (h : SymWF s) (hl : s.upper = false) (rank m n : Nat)
    (hm : m < s.t.mt) (hst : s.stored m n) (hloc : symLocal s rank m n) :
    ∃ p : Nat, s.position rank m n = some (p : Int) ∧ (p : Int) < s.nbLocal rank := by
  obtain ⟨hle, e, o⟩ := sym_lower_position s h hl rank m n hm hst hloc
  rw [sym_lower_nbLocal s h hl]
  exact ⟨_, e, Int.ofNat_lt.mpr (isum_lt _ hloc.2 (Nat.lt_of_le_of_lt hle (s.t.gm_lt h.t m hm)) o)⟩

theorem sym_lower_slot_injective (s : Sym) (h : SymWF s) (hl : s.upper = false) (rank m n m' n' : Nat)
    (hm : m < s.t.mt) (hm' : m' < s.t.mt) (hst : s.stored m n) (hst' : s.stored m' n')
    (hloc : symLocal s rank m n) (hloc' : symLocal s rank m' n')
    (hp : s.position rank m n = s.position rank m' n') : m = m' ∧ n = n' := by
  obtain ⟨hle, e, o⟩ := sym_lower_position s h hl rank m n hm hst hloc
  obtain ⟨hle', e', o'⟩ := sym_lower_position s h hl rank m' n' hm' hst' hloc'
  rw [e, e'] at hp
  obtain ⟨hn, ho⟩ := isum_pos_inj _ hloc.2 hloc'.2 o o' (Int.ofNat.inj (Option.some.inj hp))
  rw [hn] at ho hle
  exact ⟨Nat.add_right_cancel (same_col_inj s.P (s.gn n') _ _ hle hle' (hloc.1.trans hloc'.1.symm) ho),
    Nat.add_right_cancel hn⟩

theorem sym_upper_position (s : Sym) (h : SymWF s) (hu : s.upper = true) (rank m n : Nat)
    (hst : s.stored m n) (hloc : symLocal s rank m n) :
    s.position rank m n = some (((isum s.Q (s.crank rank) (upW s.P (s.rrank rank)) (s.gn n)
      + s.gm m / s.P : Nat)) : Int) ∧
    s.gm m / s.P < upW s.P (s.rrank rank) (s.gn n) := by
  simp only [Sym.stored, hu, if_true] at hst
  refine ⟨?_, up_off_lt _ _ _ _ (Nat.mod_lt _ h.P) hloc.1 hst⟩
  simp only [Sym.position, Sym.coord2pos, hu, if_true]
  have hcr : s.crank rank < s.Q := Nat.mod_lt _ h.Q
  have hp := upPrefix_eq s.P s.Q (s.rrank rank) _ h.Q (s.gn n + 1) (s.gn n / s.Q) _ (Nat.mod_eq_of_lt hcr)
    (Nat.lt_succ_of_le (Nat.div_le_self ..))
  rw [col_of s.Q (s.gn n) _ hloc.2, isum_zero _ _ _ hcr _ (Nat.le_refl _)] at hp
  rw [hp]
  rfl

/-- UPPER: the init counts the tiles row by row, `coord2pos` column by column (`rowSum_eq_colSum`) -/
theorem sym_upper_nbLocal (s : Sym) (h : SymWF s) (hu : s.upper = true) (rank : Nat) :
    s.nbLocal rank = ((isum s.Q (s.crank rank) (upW s.P (s.rrank rank)) s.t.lmt : Nat) : Int) := by
  have hrr : s.rrank rank < s.P := Nat.mod_lt _ h.P
  have hcr : s.crank rank < s.Q := Nat.mod_lt _ h.Q
  simp only [Sym.nbLocal, hu, if_true]
  rw [← h.sq, upTotal_eq_lowTotal, lowTotal_eq s.Q s.P _ _ s.t.lmt hcr h.P _ _ (Nat.mod_eq_of_lt hrr) (by omega),
    isum_zero _ _ _ hrr _ (Nat.le_refl _), rowSum_eq_colSum _ _ _ _ hrr hcr]
  rfl

theorem sym_upper_slot_injective (s : Sym) (h : SymWF s) (hu : s.upper = true) (rank m n m' n' : Nat)
    (hst : s.stored m n) (hst' : s.stored m' n')
    (hloc : symLocal s rank m n) (hloc' : symLocal s rank m' n')
    (hp : s.position rank m n = s.position rank m' n') : m = m' ∧ n = n' := by
  obtain ⟨e, o⟩ := sym_upper_position s h hu rank m n hst hloc
  obtain ⟨e', o'⟩ := sym_upper_position s h hu rank m' n' hst' hloc'
  rw [e, e'] at hp
  obtain ⟨hn, ho⟩ := isum_pos_inj _ hloc.2 hloc'.2 o o' (Int.ofNat.inj (Option.some.inj hp))
  exact ⟨Nat.add_right_cancel (same_col_inj s.P 0 _ _ (Nat.zero_le _) (Nat.zero_le _) (hloc.1.trans hloc'.1.symm) ho),
    Nat.add_right_cancel hn⟩

theorem sym_upper_slot_in_range (s : Sym) (h : SymWF s) (hu : s.upper = true) (rank m n : Nat)
    (hn : n < s.t.nt) (hst : s.stored m n) (hloc : symLocal s rank m n) :
    ∃ p : Nat, s.position rank m n = some (p : Int) ∧ (p : Int) < s.nbLocal rank := by
  obtain ⟨e, o⟩ := sym_upper_position s h hu rank m n hst hloc
  rw [sym_upper_nbLocal s h hu]
  exact ⟨_, e, Int.ofNat_lt.mpr (isum_lt _ hloc.2 (h.sq ▸ s.t.gn_lt h.t n hn) o)⟩

def exB : BC :=
  { t := { mb := 2, nb := 3, lm := 10, ln := 13, i := 2, j := 3, m := 7, n := 9 },
    g := { P := 2, Q := 3, kp := 2, kq := 3, ip := 1, jq := 2 }, lapack := false }
/-- the same grid on the full matrix -/
def exF : BC :=
  { t := { mb := 2, nb := 3, lm := 10, ln := 13, i := 0, j := 0, m := 10, n := 13 },
    g := { P := 2, Q := 3, kp := 2, kq := 3, ip := 1, jq := 2 }, lapack := false }
/-- plain accessors (k = 1) -/
def exP : BC :=
  { t := { mb := 2, nb := 3, lm := 10, ln := 13, i := 2, j := 3, m := 7, n := 9 },
    g := { P := 2, Q := 3, kp := 1, kq := 1, ip := 1, jq := 2 }, lapack := false }

theorem exB_wf : BCWF exB :=
  ⟨⟨by decide, by decide, by decide, by decide, by decide, by decide⟩,
   ⟨by decide, by decide, by decide, by decide, by decide, by decide⟩⟩
theorem exP_wf : BCWF exP :=
  ⟨⟨by decide, by decide, by decide, by decide, by decide, by decide⟩,
   ⟨by decide, by decide, by decide, by decide, by decide, by decide⟩⟩
theorem exF_wf : BCWF exF :=
  ⟨⟨by decide, by decide, by decide, by decide, by decide, by decide⟩,
   ⟨by decide, by decide, by decide, by decide, by decide, by decide⟩⟩

-- owner_in_range / local_iff_owner: a valid rank, a tile of the window it owns, one it does not
example : (5 : Nat) < exB.g.P * exB.g.Q ∧ exB.isLocal 5 0 0 ∧ ¬ exB.isLocal 5 1 0 ∧ exB.rankOf 0 0 = 5 := by decide
example : exP.isLocal 3 1 0 ∧ exP.rankOf 1 0 = 3 := by decide
-- slot_in_range / slot_injective / memory_disjoint: two different local tiles of rank 5 in the window
example : (0 : Nat) < exB.t.mt ∧ 3 < exB.t.mt ∧ 1 < exB.t.nt ∧ exB.isLocal 5 0 0 ∧ exB.isLocal 5 3 1 ∧
    exB.position 5 0 0 ≠ exB.position 5 3 1 ∧ exB.position 5 3 1 < exB.nbLocal 5 := by decide
-- slot_surjective: the window is the whole matrix; rank 5 has 9 slots
example : exF.t.i = 0 ∧ exF.t.j = 0 ∧ 5 < exF.nbLocal 5 := by decide
-- key_roundtrip / key_injective
example : exB.t.WF ∧ (3 : Nat) < exB.t.mt ∧ 2 < exB.t.nt ∧ exB.t.key 3 2 = 19 := ⟨exB_wf.t, by decide⟩
-- vp_grid / vpid_in_range: 6 virtual processes give a 2 × 3 VP grid and a non-zero vpid
example : vpP 6 = 2 ∧ vpQ 6 = 3 ∧ exB.vpid 6 3 1 = 4 := by decide
-- datakey_partial: both disjuncts occur
example : exP.plain ∧ ¬ exB.plain ∧ exB.gm 0 < exB.g.kp * exB.g.P ∧ exB.gn 0 < exB.g.kq * exB.g.Q := by decide

def exBand : Band :=
  { off := { t := { mb := 2, nb := 2, lm := 12, ln := 12, i := 0, j := 0, m := 12, n := 12 },
             g := { P := 2, Q := 2, kp := 1, kq := 1, ip := 0, jq := 0 }, lapack := false },
    band := { t := { mb := 2, nb := 2, lm := 6, ln := 12, i := 0, j := 0, m := 6, n := 12 },
              g := { P := 4, Q := 1, kp := 2, kq := 1, ip := 3, jq := 0 }, lapack := false },
    bs := 2 }
theorem exBand_wf : BandWF exBand :=
  ⟨⟨⟨by decide, by decide, by decide, by decide, by decide, by decide⟩,
    ⟨by decide, by decide, by decide, by decide, by decide, by decide⟩⟩,
   ⟨⟨by decide, by decide, by decide, by decide, by decide, by decide⟩,
    ⟨by decide, by decide, by decide, by decide, by decide, by decide⟩⟩,
   by decide, by decide, by decide⟩
-- the band test, a band tile and an off-band tile local to their owners
example : exBand.inBand 1 0 ∧ ¬ exBand.inBand 2 0 ∧ bandLocal exBand (exBand.rankOf 1 0) 1 0 ∧
    bandLocal exBand (exBand.rankOf 2 0) 2 0 ∧ (exBand.slot (exBand.rankOf 1 0) 1 0).1 = 1 := by decide

-- tabular: rank 1 owns entries 1, 3, 4 of the table
example : [0, 1, 2, 1, 1, 0][3]? = some 1 ∧ tabPos [0, 1, 2, 1, 1, 0] 1 3 = 1 ∧ tabNbLocal [0, 1, 2, 1, 1, 0] 1 = 3 := by decide

/-- DIAG on a 2×2 grid: the init terminates for every rank -/
def exVec : Vec := { mb := 2, lm := 13, i := 0, m := 13, P := 2, Q := 2, d := .diag }
example : exVec.d = .diag ∧ exVec.rankOf 1 = exVec.rankOf 3 ∧ exVec.position 1 ≠ exVec.position 3 ∧
    (exVec.nbLocal 3).isSome ∧ exVec.rankOf 1 = 3 := by decide

def exKV : KV :=
  { o := { t := { mb := 2, nb := 2, lm := 19, ln := 11, i := 4, j := 2, m := 13, n := 9 },
           g := { P := 3, Q := 2, kp := 1, kq := 1, ip := 2, jq := 1 }, lapack := false },
    vp := 4, vq := 2 }
theorem exKV_wf : KVWF exKV :=
  ⟨⟨⟨by decide, by decide, by decide, by decide, by decide, by decide⟩,
    ⟨by decide, by decide, by decide, by decide, by decide, by decide⟩⟩, by decide, by decide⟩
-- the view really permutes the 7 rows (0 3 6 5 1 4 2: a single partial block of 12, row 3 needs the cycle walk: 3 ↦ 9 ↦ 5)
example : exKV.o.t.mt = 7 ∧ exKV.sm 1 = some 3 ∧ exKV.sm 2 = some 6 ∧ exKV.sm 3 = some 5 ∧ exKV.sm 6 = some 2 ∧
    exKV.sn 1 = some 2 ∧ kviewStep 3 4 3 = 9 := by decide

def exSymL : Sym := { t := { mb := 2, nb := 2, lm := 9, ln := 9, i := 0, j := 0, m := 9, n := 9 }, P := 2, Q := 3, upper := false }
def exSymU : Sym := { t := { mb := 2, nb := 2, lm := 9, ln := 9, i := 2, j := 2, m := 6, n := 6 }, P := 3, Q := 2, upper := true }
theorem exSymL_wf : SymWF exSymL :=
  ⟨⟨by decide, by decide, by decide, by decide, by decide, by decide⟩, by decide, by decide, by decide⟩
theorem exSymU_wf : SymWF exSymU :=
  ⟨⟨by decide, by decide, by decide, by decide, by decide, by decide⟩, by decide, by decide, by decide⟩
-- two different stored tiles local to rank 0 (lower), with different positions below nb_local_tiles = 4
example : exSymL.stored 2 0 ∧ exSymL.stored 4 3 ∧ symLocal exSymL 0 2 0 ∧ symLocal exSymL 0 4 3 ∧
    exSymL.position 0 2 0 = some 1 ∧ exSymL.position 0 4 3 = some 3 ∧ exSymL.nbLocal 0 = 4 ∧ exSymL.rankOf 4 3 = 0 := by decide
-- upper, window starting at tile (1,1): rank 3 holds tiles (0,0) and (0,2) of the window
example : 2 < exSymU.t.nt ∧ exSymU.stored 0 0 ∧ exSymU.stored 0 2 ∧ symLocal exSymU 3 0 0 ∧ symLocal exSymU 3 0 2 ∧
    exSymU.position 3 0 0 ≠ exSymU.position 3 0 2 ∧ exSymU.rankOf 0 2 = 3 := by decide

end ParsecVerif.C20
