import ParsecVerif.Proofs.MatrixTypes
/-!
# C19 — matrix datatypes select exactly the specified elements

Model: `ParsecVerif.MatrixTypes` — MPI typemap semantics (trusted, validated with `MPI_Pack` on
every run) and `parsec_matrix_define_datatype / _triangle / _rectangle / _contiguous` as coded.
Quantification: every `m n ld`, every `diag : Int`, every `uplo` code, every `resized : Int` —
not only the box `m, n ∈ 1…12` that the correspondence check of checks/C19.py sweeps.  Units: one basic element
(`oldsize` bytes).
Modelling assumption, in no statement: the model computes in `Nat`, the C code computes `n-diag`, `m-diag` in
`unsigned`, so the model stands for the code only where `1 ≤ m`, `1 ≤ n` and nothing overflows `int`/`unsigned`
(`ld*n*oldsize < 2^31`).  Of the theorems only `extent`, `covers` and `tiles_disjoint` assume `1 ≤ m`, `1 ≤ n`
(the last two inside `Pre`).
-/
namespace ParsecVerif.C19
open ParsecVerif.MatrixTypes

/-- The caller's request: `diag ≠ 0` means "with the diagonal". -/
abbrev withDiag (diag : Int) : Bool := decide (diag ≠ 0)

def extentSpec (uplo : Nat) (m n ld : Nat) (rsz : Int) : Nat :=
  if uplo = LOWER ∨ uplo = UPPER then ld * n
  else if 0 ≤ rsz then rsz.toNat
  else if m = ld then ld * n else (n - 1) * ld + m

theorem closed_form (uplo : Nat) (diag : Int) (m n ld : Nat) (rsz : Int) :
    ∃ ub, defineDatatype uplo diag m n ld rsz = .ok ⟨regionOffsets uplo (withDiag diag) m n ld, 0, ub⟩ ∧
      (1 ≤ m → 1 ≤ n → ub = extentSpec uplo m n ld rsz) := by
  unfold defineDatatype extentSpec
  by_cases h : uplo = LOWER ∨ uplo = UPPER
  · rw [if_pos h, if_pos h]
    rcases h with rfl | rfl
    · exact ⟨_, triangle_lower diag m n ld, fun _ _ => rfl⟩
    · exact ⟨_, triangle_upper diag m n ld, fun _ _ => rfl⟩
  · rw [if_neg h, if_neg h, region_full uplo h]
    by_cases hm : m = ld
    · rw [if_pos hm, defineContiguous, contiguous_elem, maybeResize_eq _ _ rfl, hm, range_mul]
      exact ⟨_, rfl, fun _ _ => by rw [if_pos rfl]⟩
    · have hv := vector_elem n m ld
      rw [if_neg hm, defineRectangle, if_neg hm, maybeResize_eq _ _ hv.2.1, hv.1]
      exact ⟨_, rfl, fun h1 h2 => by rw [hv.2.2 h2 h1, if_neg hm]⟩

/-- **C19, selection.**  For every size, leading dimension, `diag`, `uplo` and `resized`, the real
    construction succeeds (in particular it never reads a cell of `blocklens`/`indices` it did not
    write), its lower bound is 0 and its typemap is exactly
    `[ j*ld + i | j < n, i < m, (i,j) in the region ]`, column by column, rows increasing. -/
theorem exact (uplo : Nat) (diag : Int) (m n ld : Nat) (rsz : Int) :
    ∃ t, defineDatatype uplo diag m n ld rsz = .ok t ∧
      t.offs = regionOffsets uplo (withDiag diag) m n ld ∧ t.lb = 0 :=
  (closed_form uplo diag m n ld rsz).elim fun _ h => ⟨_, h.1, rfl, rfl⟩

/-- **C19, extent (exact value).**  Triangles: always `ld*n` (the `resized` argument is ignored).
    Full/rectangular: `resized` when it is `≥ 0`; otherwise `ld*n` when `m = ld` and
    `(n-1)*ld + m` (the memory footprint of the tile) when `m < ld`. -/
theorem extent (uplo : Nat) (diag : Int) (m n ld : Nat) (rsz : Int) (hm : 1 ≤ m) (hn : 1 ≤ n)
    (t : DType) (h : defineDatatype uplo diag m n ld rsz = .ok t) :
    t.extent = extentSpec uplo m n ld rsz := by
  obtain ⟨ub, h', hub⟩ := closed_form uplo diag m n ld rsz
  cases h'.symm.trans h
  exact hub hm hn

theorem mem_iff (uplo : Nat) (diag : Int) (m n ld : Nat) (rsz : Int) (t : DType)
    (h : defineDatatype uplo diag m n ld rsz = .ok t) (x : Nat) :
    x ∈ t.offs ↔ ∃ i j, i < m ∧ j < n ∧ inRegion uplo (withDiag diag) i j = true ∧ x = j * ld + i := by
  obtain ⟨ub, h', -⟩ := closed_form uplo diag m n ld rsz
  cases h'.symm.trans h
  exact mem_region ..

/-- **C19, no element twice, column-major = memory order.** -/
theorem increasing (uplo : Nat) (diag : Int) (m n ld : Nat) (rsz : Int) (hld : m ≤ ld) (t : DType)
    (h : defineDatatype uplo diag m n ld rsz = .ok t) : t.offs.Pairwise (· < ·) := by
  obtain ⟨ub, h', -⟩ := closed_form uplo diag m n ld rsz
  cases h'.symm.trans h
  exact region_increasing uplo _ m n ld hld

theorem extentSpec_bounds {uplo m n ld : Nat} {rsz : Int} (hp : Pre m n ld) (hr : rsz < 0 ∨ uplo = LOWER ∨ uplo = UPPER) :
    (n - 1) * ld + m ≤ extentSpec uplo m n ld rsz ∧ extentSpec uplo m n ld rsz ≤ ld * n := by
  obtain ⟨hm, hn, hld⟩ := hp
  have hfoot : (n - 1) * ld + ld = ld * n := by
    rw [← Nat.succ_mul, Nat.succ_eq_add_one, Nat.sub_add_cancel hn, Nat.mul_comm]
  unfold extentSpec
  by_cases hu : uplo = LOWER ∨ uplo = UPPER
  · rw [if_pos hu]; omega
  · rw [if_neg hu, if_neg (Int.not_le.2 (hr.resolve_right hu))]
    split <;> omega

/-- **C19, the extent covers the tile.**  Under the API precondition and when the caller does not
    force another extent (`resized < 0`, or a triangle, for which `resized` is ignored), the extent
    lies between the memory footprint of the `m × n` tile with leading dimension `ld` and the full
    `ld × n` slab, the lower bound is 0, and every selected element lies inside `[0, extent)`. -/
theorem covers (uplo : Nat) (diag : Int) (m n ld : Nat) (rsz : Int) (hp : Pre m n ld)
    (hr : rsz < 0 ∨ uplo = LOWER ∨ uplo = UPPER) (t : DType)
    (h : defineDatatype uplo diag m n ld rsz = .ok t) :
    (n - 1) * ld + m ≤ t.extent ∧ t.extent ≤ ld * n ∧ t.lb = 0 ∧ ∀ x ∈ t.offs, x < t.extent := by
  obtain ⟨ub, h', hub⟩ := closed_form uplo diag m n ld rsz
  cases h'.symm.trans h
  have hext := hub hp.1 hp.2.1 ▸ extentSpec_bounds hp hr
  exact ⟨hext.1, hext.2, rfl, fun x hx => Nat.lt_of_lt_of_le (region_lt hx) hext.1⟩

/-- **C19, consecutive tiles do not collide.**  Because the extent covers the tile, `count` consecutive
    instances of the built type (what `MPI_Send(buf, count, type)` / an array of tiles uses) select
    pairwise distinct elements, instance after instance, still in increasing memory order. -/
theorem tiles_disjoint (uplo : Nat) (diag : Int) (m n ld : Nat) (rsz : Int) (hp : Pre m n ld)
    (hr : rsz < 0 ∨ uplo = LOWER ∨ uplo = UPPER) (t : DType)
    (h : defineDatatype uplo diag m n ld rsz = .ok t) (count : Nat) :
    (contiguous count t).offs.Pairwise (· < ·) :=
  contiguous_increasing t (increasing uplo diag m n ld rsz hp.2.2 t h) (covers uplo diag m n ld rsz hp hr t h).2.2.2 count

/-- `parsec_matrix_define_triangle` called directly with anything but UPPER/LOWER returns
    `PARSEC_ERR_BAD_PARAM`. -/
theorem triangle_bad_param (uplo : Nat) (diag : Int) (m n ld : Nat) (h1 : uplo ≠ UPPER) (h2 : uplo ≠ LOWER) :
    defineTriangle uplo diag m n ld = .badParam := by
  unfold defineTriangle; rw [if_neg h1, if_neg h2]

example : defineDatatype UPPER 1 3 4 5 (-1) = .ok ⟨[0, 5, 6, 10, 11, 12, 15, 16, 17], 0, 20⟩ := by decide +kernel
example : defineDatatype UPPER 0 3 4 5 (-1) = .ok ⟨[5, 10, 11, 15, 16, 17], 0, 20⟩ := by decide +kernel
example : defineDatatype LOWER 1 4 3 5 (-1) = .ok ⟨[0, 1, 2, 3, 6, 7, 8, 12, 13], 0, 15⟩ := by decide +kernel
example : defineDatatype LOWER 0 3 5 4 (-1) = .ok ⟨[1, 2, 6], 0, 20⟩ := by decide +kernel
example : defineDatatype FULL 0 2 3 4 (-1) = .ok ⟨[0, 1, 4, 5, 8, 9], 0, 10⟩ := by decide +kernel
example : defineDatatype FULL 0 2 3 2 (-1) = .ok ⟨[0, 1, 2, 3, 4, 5], 0, 6⟩ := by decide +kernel
example : defineDatatype FULL 0 2 3 4 12 = .ok ⟨[0, 1, 4, 5, 8, 9], 0, 12⟩ := by decide +kernel
example : Pre 3 4 5 ∧ ((-1 : Int) < 0 ∨ UPPER = LOWER ∨ UPPER = UPPER) := by decide +kernel
example : (contiguous 2 ⟨[5, 10, 11, 15, 16, 17], 0, 20⟩).offs = [5, 10, 11, 15, 16, 17, 25, 30, 31, 35, 36, 37] := by decide +kernel
example : regionOffsets UPPER true 3 4 5 = [0, 5, 6, 10, 11, 12, 15, 16, 17] := by decide +kernel

end ParsecVerif.C19
