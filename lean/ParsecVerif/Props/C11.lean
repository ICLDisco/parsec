import ParsecVerif.Proofs.FourCounterAfter
/-!
# C11 — four-counter distributed termination detection is safe and live

Model: `ParsecVerif.FourCounter` (mirrors `parsec/mca/termdet/fourcounter/termdet_fourcounter_module.c`
handler by handler, assertions compiled out).  `Reach n s`: `s` is reachable from the initial state of
an `n`-process run by ANY sequence of operations — module API calls made by the application on any
process (workload changes, outgoing_message_start, incoming_message_start / _end, taskpool_ready) and
deliveries of control and application messages in ANY order (a superset of FIFO channels).
Application discipline (guards of `step`): a process sends only while it has work; work appears on
a workless process only before `taskpool_ready` or while an incoming message is being processed.
The other guards of `step` are the assertions at the head of the C functions, assumed as well: no
workload call or outgoing_message_start on a TERMINATED monitor, incoming_message_start / _end only on a
monitor that is ready and not TERMINATED, `taskpool_ready` on a NOT_READY one.
Counters are natural numbers (the C code uses `uint32_t`; assumption: fewer than 2^32-1 messages).
-/
namespace ParsecVerif.C11
open ParsecVerif.FourCounter

/-- **Safety.**  In every reachable state, if some process has declared the taskpool terminated then
    every process is workless with an idle (or terminated) monitor, no application message is in
    flight or half-received, and the global counters agree. -/
theorem C11_safe {n : Nat} {s : State} (hr : Reach n s) {p : Nat} (hp : p < n)
    (ht : (s.procs p).st = .term) :
    (∀ q, q < n → (s.procs q).wl = 0 ∧ (s.procs q).opn = 0 ∧
        ((s.procs q).st = .idleWP ∨ (s.procs q).st = .term)) ∧
    appCount s.net = 0 ∧
    sumTo n (fun q => (s.procs q).ms) = sumTo n (fun q => (s.procs q).mr) := by
  obtain ⟨hI, hn⟩ := Inv.reach hr
  subst hn
  have hroot : (s.procs 0).st = .term := cls_eq.1 (hI.st.tr p hp (cls_eq.2 ht))
  have hq := hI.fi.q hroot
  refine ⟨hq.1, by rw [appCount_eq_cnt]; exact hq.2, ?_⟩
  have h6 := hI.hi.h6
  have : transit s = 0 := by
    rw [transit_eq_cnt, hq.2, sumTo_zero (fun q hq' => (hq.1 q hq').2.1)]
  omega

/-- The termination callback has run exactly once on the terminated processes, never on the others. -/
theorem C11_once {n : Nat} {s : State} (hr : Reach n s) {q : Nat} (hq : q < n) :
    (s.procs q).cbs = if (s.procs q).st = .term then 1 else 0 := by
  obtain ⟨hI, hn⟩ := Inv.reach hr
  subst hn; exact hI.fi.cb q hq

/-- runs made of deliveries of control messages only -/
inductive DRun : State → Nat → State → Prop where
  | nil (s : State) : DRun s 0 s
  | cons {s s1 s2 : State} {k m : Nat} : step s (.deliver k) = some s1 → DRun s1 m s2 → DRun s (m + 1) s2

/-- The full liveness statement (NOT proved for arbitrary n; validated by exhaustive exploration of
    the compiled model for n ≤ 5, see `ctlRuns`, command `explore`, in lean/Driver/C11.lean): from a quiescent reachable
    state every run of control-message deliveries is finite and ends with all processes terminated. -/
def C11_live : Prop :=
  ∀ n s, Reach n s → Quiescent s →
    (∃ B, ∀ m s', DRun s m s' → m ≤ B) ∧
    ∀ m s', DRun s m s' → (∀ k, step s' (.deliver k) = none) → AllTerm s'

/-- **Liveness, proved part.**  From a reachable quiescent state (every monitor idle or terminated,
    no work, no application message anywhere): the control protocol is not stuck unless every
    process has terminated, and every delivery leads to a quiescent state again — so along every run
    of deliveries, whenever no delivery is possible every process has terminated (deadlock freedom).
    Missing w.r.t. `C11_live`: the bound on the length of such runs. -/
theorem C11_live_partial {n : Nat} {s : State} (hr : Reach n s) (hq : Quiescent s) :
    (AllTerm s ∨ ∃ k s', step s (.deliver k) = some s') ∧
    ∀ m s', DRun s m s' → Quiescent s' ∧ Reach n s' ∧
      ((∀ k, step s' (.deliver k) = none) → AllTerm s') := by
  have key : ∀ {s : State}, Reach n s → Quiescent s → AllTerm s ∨ ∃ k s', step s (.deliver k) = some s' := by
    intro s hr hq
    exact quiescent_no_deadlock (Inv.reach hr).1 (Live.reach hr) hq
  refine ⟨key hr hq, ?_⟩
  intro m s' hrun
  induction hrun with
  | nil s =>
    refine ⟨hq, hr, fun hstuck => ?_⟩
    rcases key hr hq with t | ⟨k, s1, hk⟩
    · exact t
    · rw [hstuck k] at hk; cases hk
  | cons hk _ ih =>
    exact ih (Reach.step _ hr hk) (quiescent_deliver (Inv.reach hr).1 hq hk)

/-- **Agreement.**  Once one process has terminated, every delivery terminates exactly one more
    process, so at most `n - numTerm s` deliveries are possible, and when none is possible any more
    every process has terminated: the DOWN(true) wave reaches all. -/
theorem C11_agree {n : Nat} {s s' : State} {m : Nat} (hr : Reach n s) {p : Nat} (hp : p < n)
    (ht : (s.procs p).st = .term) (hrun : DRun s m s') :
    numTerm s' = numTerm s + m ∧ m ≤ n - numTerm s ∧
    ((∀ k, step s' (.deliver k) = none) → AllTerm s') := by
  obtain ⟨hI, hn⟩ := Inv.reach hr
  have hroot : (s.procs 0).st = .term := cls_eq.1 (hI.st.tr p (hn ▸ hp) (cls_eq.2 ht))
  -- a state whose root has terminated is quiescent: the run ends, within the reachable states, with all terminated
  obtain ⟨-, hr', hstuck⟩ := (C11_live_partial hr (hI.fi.quiescent hroot)).2 m s' hrun
  have hle := numTerm_le s'
  rw [(Inv.reach hr').2] at hle
  suffices hcount : numTerm s' = numTerm s + m from ⟨hcount, by omega, hstuck⟩
  clear hstuck hle hr' ht hp hn
  induction hrun with
  | nil => rfl
  | cons hk _ ih =>
    obtain ⟨e1, hroot1⟩ := term_deliver hI hroot hk
    have hr1 := Reach.step _ hr hk
    rw [ih hr1 (Inv.reach hr1).1 hroot1, e1, Nat.add_assoc, Nat.add_comm 1]

/-- progress half of agreement, as a statement on one state -/
theorem C11_agree_progress {n : Nat} {s : State} (hr : Reach n s) {p : Nat} (hp : p < n)
    (ht : (s.procs p).st = .term) : AllTerm s ∨ ∃ k s', step s (.deliver k) = some s' := by
  obtain ⟨hI, hn⟩ := Inv.reach hr
  subst hn
  exact (C11_live_partial hr (hI.fi.quiescent (cls_eq.1 (hI.st.tr p hp (cls_eq.2 ht))))).1

/-- **The assertions of the message handlers cannot fire.**  Whenever a control message in flight is
    addressed to a monitor that is ready: an UP message finds the monitor waiting for children with
    `nb_child_left > 0`; a DOWN message finds it waiting for its parent with
    `nb_child_left = nb_children`, and idle if the message says "terminate". -/
theorem C11_asserts {n : Nat} {s : State} (hr : Reach n s) {pk : Packet} (hm : pk ∈ s.net)
    (hready : (s.procs pk.dst).st ≠ .notReady) :
    match pk.kind with
    | .up _ _ => ((s.procs pk.dst).st = .busyWC ∨ (s.procs pk.dst).st = .idleWC) ∧ 0 < (s.procs pk.dst).ncl
    | .down res => ((s.procs pk.dst).st = .busyWP ∨ (s.procs pk.dst).st = .idleWP) ∧
        (s.procs pk.dst).ncl = nbChildren n pk.dst ∧ (res = true → (s.procs pk.dst).st = .idleWP)
    | .app => True := by
  obtain ⟨hI, hn⟩ := Inv.reach hr
  subst hn
  split
  · rename_i a b hkind
    obtain ⟨h1, hncl, _⟩ := hI.st.up_finds hm hkind hready
    exact ⟨cls_eq.1 h1, hncl⟩
  · rename_i res hkind
    obtain ⟨a2, b, h0, hme⟩ := hI.st.down_finds hm hkind
    refine ⟨cls_eq.1 a2, hI.st.ncl2 _ hme a2, fun e => ?_⟩
    subst e
    exact (hI.downT_finds hm hkind).1
  · trivial

/-- the composite `taskpool_ready` of the driver (mark ready, then replay the delayed messages in
    order) stays within the reachable states, so all theorems apply to the runs compared with the
    real code -/
theorem C11_ready_reach {n : Nat} {s s' : State} {p : Nat} (h : Reach n s)
    (hs : readyFull s p = some s') : Reach n s' := by
  unfold readyFull at hs
  split at hs
  · rename_i s1 h1
    cases hs
    exact replay_reach p _ (Reach.step _ h h1)
  · cases hs

/-! Non-vacuity.  The examples evaluate `runActs` from `init 2`; by `runActs_reach` the states they describe are reachable. -/

def runActs : List Action → State → Option State
  | [], s => some s
  | a :: t, s => (step s a).bind (runActs t)

theorem runActs_reach {n : Nat} (l : List Action) {s s' : State} (h : Reach n s)
    (hs : runActs l s = some s') : Reach n s' := by
  induction l generalizing s with
  | nil => simp [runActs] at hs; subst hs; exact h
  | cons a t ih =>
    simp only [runActs] at hs
    cases h1 : step s a with
    | none => rw [h1] at hs; cases hs
    | some s1 => rw [h1] at hs; exact ih (Reach.step a h h1) hs

/-- two processes, one application message 0 → 1, two waves, then the DOWN(true) message -/
def demo : List Action :=
  [.addPA 0 1, .addPA 1 1, .ready 0, .ready 1, .send 0 1, .rstart 0, .addT 1 1, .rend 1,
   .addPA 0 (-1), .addPA 1 (-1), .addT 1 (-1), .deliver 0, .deliver 0, .deliver 0]

/-- after `demo` the root has terminated, process 1 is idle and a DOWN(true) message is in flight:
    the hypotheses of `C11_safe`, `C11_agree`, `C11_asserts` hold in a reachable state -/
example : (runActs demo (init 2)).map (fun s => ((s.procs 0).st, (s.procs 1).st, s.net.length, (s.procs 0).ms, (s.procs 1).mr))
    = some (.term, .idleWP, 1, 1, 1) := by decide

example : (runActs (demo ++ [.deliver 0]) (init 2)).map
    (fun s => ((s.procs 0).st, (s.procs 1).st, (s.procs 0).cbs, (s.procs 1).cbs)) = some (.term, .term, 1, 1) := by decide

/-- a quiescent reachable state that is not terminated yet (hypotheses of `C11_live_partial`):
    both idle, first wave under way -/
example : (runActs (demo.take 11) (init 2)).map
    (fun s => ((s.procs 0).st, (s.procs 1).st, (s.procs 0).wl, (s.procs 1).wl, s.net.length))
    = some (.idleWC, .idleWP, 0, 0, 1) := by decide

end ParsecVerif.C11
