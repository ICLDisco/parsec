import ParsecVerif.Props.C03
/-!
# C17 — DTD data flush returns the last written value to the owner

A flush of datum `d` is what the runtime makes of it: an inserted task with one RW access on `d`,
placed on the owner of `d`, whose body writes back the value it received
(`parsec_dtd_insert_flush_task` / `parsec_dtd_data_flush_sndrcv`).  Corollary of C03: after every
complete run in which the flush is the last writing access of `d`, the task that ran on the owner
received, and the datum holds, the value written by the last writer of `d` in insertion order —
whichever rank that writer was placed on.

Ranks are labels only: the machine has one `mem` and no step reads `Task.rank`, so the transport of a
version between ranks is not modelled, and the first conjunct of `C17_flush` is the definition of
`flushTask`.
-/
namespace ParsecVerif.C17
open ParsecVerif.Dtd ParsecVerif.C03

/-- the value the last writer before position `f` leaves in `d` in the sequential execution -/
def lastWritten (p : Prog) (f d : Nat) : Nat :=
  match prevWriter p f d with
  | some w => seqStore p (w + 1) d
  | none => initVal d

theorem seqStore_eq_lastWritten (p : Prog) (f d : Nat) : seqStore p f d = lastWritten p f d := by
  rw [lastWritten]
  cases h : prevWriter p f d with
  | none => exact seqStore_const p d 0 f (Nat.zero_le _) fun u _ hu => prevWriter_none p f d h u hu
  | some w =>
    obtain ⟨h1, _, h3⟩ := prevWriter_some p f d w h
    exact seqStore_const p d (w + 1) f h1 fun u hu1 hu2 => h3 u hu1 hu2

theorem flush_writes (nranks d : Nat) : writesD (flushTask nranks d) d = true := by
  simp [writesD, flushTask, Mode.writes]

/-- the body of a flush task writes back the value it read: the sequential execution leaves `d` as it found it -/
theorem flush_identity (p : Prog) (f nranks d : Nat) (hf : p[f]? = some (flushTask nranks d)) :
    seqStore p (f + 1) d = seqStore p f d := by
  simp only [seqStore, hf]
  simp [exec, writeArgs, flushTask, Mode.writes, outVal, readsOf, readArgs, Mode.reads, upd]

/-- **C17.**  Let the flush of `d` be at position `f` of the insertion sequence and let no later task
    write `d`.  After every complete run (any workers, any interleaving): the flush task — which is
    placed on the owner of `d` — received exactly the value written by the last writer inserted before
    it, and `d` finally holds that value. -/
theorem C17_flush (p : Prog) (nw nranks f d : Nat) (ms : List Move) (hv : Valid p nw ms)
    (hc : Complete p (run p init ms)) (hf : p[f]? = some (flushTask nranks d))
    (hlast : ∀ u, f < u → writesAt p u d = false) :
    (flushTask nranks d).rank = owner nranks d ∧
    (run p init ms).obs[f]? = some [lastWritten p f d] ∧
    (run p init ms).mem d = lastWritten p f d := by
  have hflt : f < p.length := (List.getElem?_eq_some_iff.1 hf).1
  refine ⟨rfl, ?_, ?_⟩
  · rw [C03_observed p nw ms hv f (isDone_started _ f (hc.2 f hflt))]
    simp [seqObs, hf, readsOf, readArgs, flushTask, Mode.reads, seqStore_eq_lastWritten]
  · rw [(C03_sequential p nw ms hv hc).2 d, seqExec_final,
      seqStore_const p d (f + 1) p.length (by omega) (fun u hu _ => hlast u (by omega)),
      flush_identity p f nranks d hf, seqStore_eq_lastWritten]

/-- the value returned to the owner is the one left by `w`, the last task inserted before the flush that
    writes `d` (a user task or an earlier flush of `d`) -/
theorem C17_last_writer (p : Prog) (f d w : Nat) (h : prevWriter p f d = some w) :
    lastWritten p f d = seqStore p (w + 1) d ∧ w < f ∧ writesAt p w d = true ∧
    ∀ u, w < u → u < f → writesAt p u d = false := by
  obtain ⟨h1, h2, h3⟩ := prevWriter_some p f d w h
  exact ⟨by simp [lastWritten, h], h1, h2, h3⟩

/-! ## non-vacuity: datum 1 written on rank 0 then on rank 2, read on rank 1, flushed to its owner
    (rank 1 of 3) -/
def ex : Prog :=
  [ { uid := 0, args := [(1, .rw)], rank := 0, kind := .user 3 },
    { uid := 1, args := [(1, .rw), (0, .r)], rank := 2, kind := .user 4 },
    { uid := 2, args := [(1, .r)], rank := 1, kind := .user 5 },
    flushTask 3 1 ]
def exRun : List Move :=
  [.ins, .ins, .start 0, .ins, .finish 0, .ins, .start 1, .finish 1, .start 2, .again 3, .finish 2, .start 3, .finish 3]

example : Valid ex 2 exRun := firstBad_none _ _ _ _ 0 (by decide)
example : isDone (run ex init exRun) 0 && isDone (run ex init exRun) 1 && isDone (run ex init exRun) 2 &&
    isDone (run ex init exRun) 3 = true := by decide
example : ex[3]? = some (flushTask 3 1) ∧ prevWriter ex 3 1 = some 1 ∧ (flushTask 3 1).rank = 1 := by decide

end ParsecVerif.C17
