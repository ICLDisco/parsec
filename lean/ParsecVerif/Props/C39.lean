import ParsecVerif.Proofs.Argv
import ParsecVerif.Proofs.CmdLine
/-!
# C39 — argument-vector utilities are consistent

Models: `ParsecVerif.Argv` (parsec/utils/argv.c) and `ParsecVerif.CmdLine` (option parsing of
parsec/utils/cmd_line.c), both written branch by branch after the C code.  Strings are byte lists,
`char **` is `Option (List Str)`.  Specification vocabulary (Proofs/Argv.lean): `fields d s` = the
fields of `s` separated by `d`, empty ones kept; `sjoin d l` = the strings of `l` with one `d`
between neighbours (they are `List.splitOn` and `List.intercalate [d]`: `fields_eq_splitOn`,
`sjoin_eq_intercalate`); the well-formed command lines of the parser theorems (`Item`, `render`,
`Ending`) are defined in Proofs/CmdLine.lean.

Three statements the property asks for were FALSE of the code as found (split_with_empty lost a
trailing empty field, delete left argc inconsistent, parse freed a parameter vector twice); they
were repaired in /repo (8e71ed6, ecccfcb, 16257ae).  The models mirror the repaired code and the
full statements are theorems; the previous behaviour is kept as `*Buggy` definitions together
with the witness theorems that refute the statements for it.
-/
namespace ParsecVerif.C39
open ParsecVerif.Argv ParsecVerif.CmdLine

/-- `fields` and `sjoin` are the usual split and join: the fields of `s` are its only decomposition
    into delimiter-free strings. -/
theorem join_fields (d : Nat) (s : Str) :
    sjoin d (fields d s) = s ∧ (∀ f ∈ fields d s, d ∉ f) ∧
    (∀ v : List Str, v ≠ [] → (∀ f ∈ v, d ∉ f) → sjoin d v = s → v = fields d s) :=
  ⟨sjoin_fields d s, fields_no_delim d s, fun v hv hf hs => by rw [← hs, fields_sjoin d v hv hf]⟩

/-- `parsec_argv_split` returns exactly the non-empty fields (NULL if there is none), and joining
    them back gives the original string with its empty fields removed. -/
theorem split_join (s : Str) (d : Nat) :
    split s d = ofList ((fields d s).filter (· ≠ [])) ∧
    join (split s d) d = sjoin d ((fields d s).filter (· ≠ [])) := by
  unfold split
  rw [splitInter_eq, if_neg Bool.false_ne_true, join_ofList]
  exact ⟨rfl, rfl⟩

/-- conversely, a vector of non-empty delimiter-free strings survives join-then-split -/
theorem join_split (v : List Str) (d : Nat) (h : ∀ f ∈ v, f ≠ [] ∧ d ∉ f) :
    split (join (some v) d) d = ofList v := by
  unfold split
  rw [splitInter_eq, if_neg Bool.false_ne_true, join_some]
  by_cases hv : v = []
  · subst hv; rfl
  · rw [fields_sjoin d v hv (fun f hf => (h f hf).2),
      List.filter_eq_self.2 fun f hf => decide_eq_true (h f hf).1]

example : split (join (some [[97, 98], [99]]) 44) 44 = some [[97, 98], [99]] := by
  rw [join_split _ _ (by decide)]; rfl

/-- `parsec_argv_split_with_empty` returns all fields (NULL for the empty string), and joining them
    back gives the original string — for every string. -/
theorem splitWithEmpty_join (s : Str) (d : Nat) :
    splitWithEmpty s d = ofList (if s = [] then [] else fields d s) ∧
    join (splitWithEmpty s d) d = s := by
  unfold splitWithEmpty
  rw [splitInter_true_trailing, join_ofList]
  refine ⟨rfl, ?_⟩
  split
  · rename_i h; subst h; rfl
  · exact sjoin_fields d s

example : splitWithEmpty [97, 44, 44, 98, 44] 44 = some [[97], [], [98], []] := by
  rw [(splitWithEmpty_join _ _).1]; decide +kernel

/-- conversely, every vector of delimiter-free strings other than `[""]` (whose join is the empty
    string) survives join-then-split_with_empty -/
theorem join_splitWithEmpty (v : List Str) (d : Nat) (h : ∀ f ∈ v, d ∉ f) (hv : v ≠ [[]]) :
    splitWithEmpty (join (some v) d) d = ofList v := by
  rw [(splitWithEmpty_join _ _).1, join_some]
  by_cases hv0 : v = []
  · subst hv0; rfl
  · have hf := fields_sjoin d v hv0 h
    rw [hf, if_neg fun he => hv (by rw [← hf, he]; rfl)]

example : splitWithEmpty (join (some [[], [97], [], []]) 44) 44 = some [[], [97], [], []] := by
  rw [join_splitWithEmpty _ _ (by decide) (by decide)]; rfl

/-- the code before 8e71ed6: joining lost one trailing delimiter (exact value for every string) -/
theorem splitWithEmptyBuggy_join (s : Str) (d : Nat) :
    splitWithEmptyBuggy s d = ofList (dropLastEmpty (fields d s)) ∧
    join (splitWithEmptyBuggy s d) d = if s.getLast? = some d then s.dropLast else s := by
  unfold splitWithEmptyBuggy
  rw [splitInter_eq, if_pos rfl, join_ofList, sjoin_dropLastEmpty_fields]
  exact ⟨rfl, rfl⟩

/-- the code before 8e71ed6 failed the round trip: `"a,,b,"` came back as `"a,,b"` (finding C39-F1, fixed) -/
theorem splitWithEmptyBuggy_loses_field :
    ¬ ∀ (s : Str) (d : Nat), join (splitWithEmptyBuggy s d) d = s := by
  intro h
  exact absurd ((splitWithEmptyBuggy_join _ _).2.symm.trans (h [97, 44, 44, 98, 44] 44))
    (by decide +kernel)

/-- `parsec_argv_join` is `sjoin`; `parsec_argv_join_range` joins exactly the positions
    `[start, end)` that exist -/
theorem joinRange_spec (v : List Str) (start stop d : Nat) :
    join (some v) d = sjoin d v ∧
    (start ≤ v.length → joinRange (some v) start stop d = sjoin d ((v.drop start).take (stop - start))) ∧
    (v.length < start → joinRange (some v) start stop d = []) := by
  refine ⟨join_some v d, fun _ => joinRange_some v start stop d, fun h => ?_⟩
  rw [joinRange_some, List.drop_of_length_le (Nat.le_of_lt h), List.take_nil]; rfl

example : joinRange (some [[97], [98], [99], [100]]) 1 3 44 = [98, 44, 99] := by decide +kernel

/-- `parsec_argv_delete` on an in-range start with a positive count: the vector loses exactly the
    positions `[start, start+num) ∩ [0, count)`; everything before keeps its index, everything
    behind moves down by `num`; `argc` becomes the new element count. -/
theorem delete_spec (argc : Int) (l : List Str) (start num : Nat) (hs : start ≤ l.length)
    (hn : 0 < num) :
    ∃ r, delete argc (some l) start num = (SUCCESS, (r.length : Int), some r) ∧
      r = l.take start ++ l.drop (start + num) ∧
      r.length = l.length - min num (l.length - start) ∧
      (∀ i, i < start → r[i]? = l[i]?) ∧ (∀ i, start ≤ i → r[i]? = l[i + num]?) := by
  refine ⟨_, ?_, rfl, ?_, fun i h => ?_, fun i h => ?_⟩
  · rw [delete_some, if_neg (by omega), if_neg (by omega), Int.toNat_natCast, Int.toNat_natCast]
  · rw [List.length_append, List.length_take_of_le hs, List.length_drop, add_sub_add_eq_sub_min _ _ _ hs]
  · rw [← List.append_nil (l.take start), getElem?_take_append_drop hs, if_pos h]
  · rw [← List.append_nil (l.take start), getElem?_take_append_drop hs,
      if_neg (Nat.not_lt.2 h), List.length_nil, if_neg (Nat.not_lt_zero _), Nat.sub_zero,
      Nat.add_right_comm, Nat.add_sub_of_le h]

example : delete 4 (some [[97], [98], [99], [100]]) 1 2 = (0, 2, some [[97], [100]]) := by decide +kernel

/-- the calls that must not change anything: NULL vector, `num = 0`, start beyond the end
    (success), negative arguments (bad parameter) -/
theorem delete_noop (argc : Int) (v : Vec) (start num : Int)
    (h : v = none ∨ num = 0 ∨ start > count v ∨ start < 0 ∨ num < 0) :
    (delete argc v start num).2 = (argc, v) ∧
    ((delete argc v start num).1 = SUCCESS ∨ (delete argc v start num).1 = BAD_PARAM) := by
  cases v with
  | none => exact ⟨rfl, Or.inl rfl⟩
  | some l =>
    have h := h.resolve_left (Option.some_ne_none l)
    rw [delete_some]
    split
    · exact ⟨rfl, Or.inl rfl⟩
    split
    · exact ⟨rfl, Or.inr rfl⟩
    · rename_i h1 h2  -- the accepted call: `h` names a guard that was passed
      exact absurd h (not_or.2 ⟨h1 ∘ Or.inl, not_or.2 ⟨h1 ∘ Or.inr, h2⟩⟩)

/-- **`argc` stays the element count, for every call** (any vector, any integers) -/
theorem delete_argc (v : Vec) (start num : Int) :
    (delete (count v) v start num).2.1 = count (delete (count v) v start num).2.2 := by
  cases v with
  | none => rfl
  | some l =>
    rw [delete_some]
    split
    · rfl
    split <;> rfl

example : (delete 3 (some [[97], [98], [99]]) 1 5) = (0, 1, some [[97]]) := by decide +kernel

/-- the code before ecccfcb on an accepted call: same vector, but `argc - num` -/
theorem deleteBuggy_spec (argc : Int) (l : List Str) (start num : Nat) (hs : start ≤ l.length)
    (hn : 0 < num) :
    deleteBuggy argc (some l) start num =
      (SUCCESS, argc - num, some (l.take start ++ l.drop (start + num))) := by
  simp only [deleteBuggy, count, deleteList_eq, Int.toNat_natCast]
  rw [if_neg (by omega), if_neg (by omega), if_neg (by omega)]

/-- the code before ecccfcb left `argc` wrong as soon as the range ran past the end: deleting 5 from position 1 of
    3 elements left 1 element and `argc = -2` (finding C39-F2, fixed) -/
theorem deleteBuggy_argc_inconsistent :
    ¬ ∀ (v : Vec) (start num : Int),
      (deleteBuggy (count v) v start num).2.1 = count (deleteBuggy (count v) v start num).2.2 := by
  intro h
  exact absurd (h (some [[97], [98], [99]]) 1 5) (by decide +kernel)

/-- `parsec_argv_insert` with a valid target and source: the source is spliced in at position
    `min start count`; earlier elements keep their index, the source occupies the next
    `|source|` indices, later elements move up by `|source|`. -/
theorem insert_spec (t src : List Str) (start : Nat) :
    ∃ r, Argv.insert (some t) start (some src) = (SUCCESS, some r) ∧
      r = t.take (min start t.length) ++ src ++ t.drop (min start t.length) ∧
      r.length = t.length + src.length ∧
      (∀ i, i < min start t.length → r[i]? = t[i]?) ∧
      (∀ i, min start t.length ≤ i → i < min start t.length + src.length →
        r[i]? = src[i - min start t.length]?) ∧
      (∀ i, min start t.length + src.length ≤ i → r[i]? = t[i - src.length]?) := by
  have hp : min start t.length ≤ t.length := Nat.min_le_right _ _
  refine ⟨_, ?_, rfl, ?_, fun i h => ?_, fun i h1 h2 => ?_, fun i h => ?_⟩
  · rw [insert_some, ← List.take_eq_take_min, ← List.drop_eq_drop_min]
  · rw [List.length_append, List.length_append, List.length_take_of_le hp, List.length_drop,
      Nat.add_right_comm, Nat.add_sub_of_le hp]
  · rw [getElem?_take_append_drop hp, if_pos h]
  · rw [getElem?_take_append_drop hp, if_neg (Nat.not_lt.2 h1),
      if_pos (Nat.sub_lt_left_of_lt_add h1 h2)]
  · rw [getElem?_take_append_drop hp,
      if_neg (Nat.not_lt.2 (Nat.le_trans (Nat.le_add_right _ _) h)),
      if_neg (Nat.not_lt.2 (Nat.le_sub_of_add_le' h)), Nat.sub_sub, ← Nat.add_sub_assoc h,
      Nat.add_sub_add_left]

example : Argv.insert (some [[97], [98]]) 1 (some [[120], [121]]) = (0, some [[97], [120], [121], [98]]) := by
  decide +kernel

/-- the calls that must not change anything: NULL target or negative start (bad parameter), NULL
    source (success) -/
theorem insert_noop (t : Vec) (start : Int) (src : Vec) (h : t = none ∨ start < 0 ∨ src = none) :
    (Argv.insert t start src).2 = t := by
  cases t with
  | none => rfl
  | some l =>
    have h := h.resolve_left (Option.some_ne_none l)
    simp only [Argv.insert]
    split
    · rfl
    · rename_i h1
      rw [h.resolve_left h1]

/-- `parsec_argv_insert_element`: `insert_spec` with a single string -/
theorem insertElement_spec (t : List Str) (s : Str) (loc : Nat) :
    ∃ r, insertElement (some t) loc (some s) = (SUCCESS, some r) ∧
      r = t.take (min loc t.length) ++ [s] ++ t.drop (min loc t.length) ∧
      r.length = t.length + 1 ∧
      (∀ i, i < min loc t.length → r[i]? = t[i]?) ∧
      r[min loc t.length]? = some s ∧
      (∀ i, min loc t.length + 1 ≤ i → r[i]? = t[i - 1]?) := by
  obtain ⟨r, h, hr, hlen, h1, h2, h3⟩ := insert_spec t [s] loc
  refine ⟨r, (insertElement_eq_insert ..).trans h, hr, hlen, h1, ?_, h3⟩
  rw [h2 _ (Nat.le_refl _) (Nat.lt_succ_self _), Nat.sub_self]; rfl

example : insertElement (some [[97], [98]]) 7 (some [120]) = (0, some [[97], [98], [120]]) := by
  decide +kernel

/-- `parsec_argv_copy` returns an equal vector; `parsec_argv_count` of a built vector is its
    length and `parsec_argv_append` keeps `argc` equal to it -/
theorem copy_eq (v : Vec) (a : Str) :
    copy v = v ∧ (append v a).1 = count (append v a).2 ∧
    (append v a).2 = some ((v.getD []) ++ [a]) := by
  refine ⟨copy_eq_self v, rfl, ?_⟩
  cases v <;> rfl

/-- **Parsing a well-formed command line.**  `items` are occurrences of declared options, each
    named by any of its three names (`--name`, `-name`, `-c`; `find_option` treats them as
    synonyms) and followed by exactly its declared number of parameters; the line then ends
    (`Ending`) with nothing, with `--` and arbitrary tokens, with a token that does not start with
    a dash, with a dash token that names no declared option, or with a declared option that lacks
    parameters.  Then `parsec_cmd_line_parse` records exactly the option instances with their
    parameters, in order, leaves exactly the rest as the tail, keeps the argument vector, returns
    success except for the three error endings (an unrecognised token is an error only if
    unknowns are not ignored), and takes no double-free path. -/
theorem parse_wellformed (opts : List Opt) (ign : Bool) (prog : Str) (items : List Item)
    (e : Ending) (h : ∀ it ∈ items, it.ok opts) (he : e.ok opts) :
    parse opts ign (prog :: (render items ++ e.toks)) =
      { rc := if e.err ign then ERROR else SUCCESS,
        argv := prog :: (render items ++ e.toks),
        params := items.map (fun it => (it.k, it.ps)),
        tail := e.tail } := by
  simp only [parse]
  rw [parseLoop_wellformed items e h he _ [prog] [] ?_]
  · simp
  · have h1 := fuelFor_ge (render items ++ e.toks)
    have h2 := render_length items
    simp only [List.length_append] at h1
    omega

/-- hypotheses of `parse_wellformed` are satisfiable on a non-trivial line:
    options `-a` (0 parameters) and `-n` or `--np` (2 parameters); `prog --np p q -a -n r s -- t` -/
example :
    let opts : List Opt := [⟨some 97, none, none, 0⟩, ⟨some 110, none, some [110, 112], 2⟩]
    let items : List Item := [⟨[45, 45, 110, 112], 1, opts[1], [[112], [113]]⟩, ⟨[45, 97], 0, opts[0], []⟩,
                              ⟨[45, 110], 1, opts[1], [[114], [115]]⟩]
    (∀ it ∈ items, it.ok opts) ∧ (Ending.dashdash [[116]]).ok opts ∧
    (parse opts false ([112] :: (render items ++ (Ending.dashdash [[116]]).toks))).params =
      [(1, [[112], [113]]), (0, []), (1, [[114], [115]])] := by
  refine ⟨?_, trivial, ?_⟩
  · unfold Item.ok lookup; decide +kernel
  · decide +kernel

/-- **The accessors report each declared option with its parameters.**  After parsing a well-formed
    line, `get_ninsts(name)` is the number of occurrences of the option that `name` denotes and
    `get_param(name, inst, idx)` is parameter `idx` of its `inst`-th occurrence (NULL beyond). -/
theorem parse_queries (opts : List Opt) (ign : Bool) (prog : Str) (items : List Item)
    (e : Ending) (h : ∀ it ∈ items, it.ok opts) (he : e.ok opts) (name : Str) (k : Nat) (o : Opt)
    (hf : find opts name = some (k, o)) :
    ninsts opts (parse opts ign (prog :: (render items ++ e.toks))) name =
      (items.filter (fun it => it.k == k)).length ∧
    ∀ inst idx, getParam opts (parse opts ign (prog :: (render items ++ e.toks))) name inst idx =
      match (items.filter (fun it => it.k == k))[inst]? with
      | some it => it.ps[idx]?
      | none => none := by
  rw [parse_wellformed opts ign prog items e h he]
  refine ⟨by simp only [ninsts, hf, List.filter_map, Function.comp_def, List.length_map], ?_⟩
  intro inst idx
  simp only [getParam, hf, List.filter_map, Function.comp_def, List.getElem?_map]
  cases hi : (items.filter (fun it => it.k == k))[inst]? with
  | none => simp
  | some it =>
    obtain ⟨hmem, hk⟩ := List.mem_filter.1 (List.mem_of_getElem? hi)
    obtain ⟨_, _, hl, hlen, _⟩ := h it hmem
    -- the option found for the item is the option found for `name`
    have ho : it.o = o :=
      Option.some.inj ((lookup_some hl).symm.trans (eq_of_beq hk ▸ find_some _ _ _ _ hf))
    rw [ho] at hlen
    simp only [Option.map_some]
    exact ite_eq_left_iff.2 fun hge => (List.getElem?_eq_none (by omega)).symm

/-- **A bundle of short options parses like its expansion.**  If `-c₁c₂…` is not itself a declared
    name and `split_shorts` accepts it with a declared first letter, the parser continues exactly
    as if the expanded tokens `sv` (followed by the tokens that were not consumed as parameters)
    had been on the line; when every letter is a declared short name and enough tokens follow,
    `sv` is `-c₁ params₁ -c₂ params₂ …` (`expand`). -/
theorem parse_bundle (nulled : Bool) (opts : List Opt) (ign : Bool) (fuel : Nat) (pre : List Str) (cs : List Nat)
    (more : List Str) (params : List Param) (hd : cs.head? ≠ some dash)
    (hnf : find opts cs = none) :
    (∀ sv used, splitShorts opts ign cs more = some (sv, used) →
      (find opts ((sv.headD []).drop 1)).isSome →
      parseLoop nulled opts ign (fuel + 1) pre ((dash :: cs) :: more) params =
        parseLoop nulled opts ign (fuel + 1) pre (sv ++ more.drop used) params) ∧
    (∀ n, cs ≠ [] → need opts cs = some n → n ≤ more.length →
      ∃ sv, splitShorts opts ign cs more = some (sv, n) ∧
        sv ++ more.drop n = expand opts cs more) := by
  constructor
  · intro sv used hs hf
    obtain ⟨⟨k, o⟩, hko⟩ := Option.isSome_iff_exists.1 hf
    cases cs with
    | nil => simp [splitShorts] at hs
    | cons c cs' =>
      have hne : [dash, c] ≠ [dash, dash] := fun e => hd (by cases e; rfl)
      -- the expansion starts with `-c`, which the parser then meets as an ordinary option token
      obtain ⟨sv', rfl⟩ := splitLetters_head (used := 0) (by simpa [splitShorts] using hs)
      simp only [parseLoop, List.cons_append,
        step_bundle (tok := dash :: c :: cs') rfl hne hnf hs hko,
        step_of_lookup (tok := [dash, c]) hne rfl ((if_neg hne).trans hko)]
  · intro n hcs hn hlen
    obtain ⟨sv, h1, h2⟩ := splitLetters_expand opts ign more cs 0 n hn (by omega)
    rw [Nat.zero_add] at h1 h2
    exact ⟨sv, (if_neg hcs).trans h1, h2⟩

/-- `prog -ab p q r` with `-a` taking one parameter and `-b` two is parsed as `-a p -b q r` -/
example :
    let opts : List Opt := [⟨some 97, none, none, 1⟩, ⟨some 98, none, none, 2⟩]
    expand opts [97, 98] [[112], [113], [114]] = [[45, 97], [112], [45, 98], [113], [114]] ∧
    (parse opts false [[120], [45, 97, 98], [112], [113], [114]]).params =
      [(0, [[112]]), (1, [[113], [114]])] := by
  decide +kernel

/-- **No parse frees the parameter vector of an option instance twice** (every option table,
    every argument vector, well-formed or not). -/
theorem parse_no_double_free (opts : List Opt) (ign : Bool) (argv : List Str) :
    (parse opts ign argv).doubleFree = false := by
  cases argv with
  | nil => rfl
  | cons prog rest => exact parseLoop_no_double_free opts ign _ _ _ _

/-- the code before 16257ae did: option `-b` with two parameters and the line `prog -bb p1`.  The
    bundle expands to `-b p1 ⟨special⟩ -b ⟨special⟩ ⟨special⟩`; the first `-b` saves `p1`, meets the
    special token, frees `clp_argv` and releases the instance, whose destructor freed it again
    (finding C39-F3, fixed) -/
theorem parseBuggy_double_free_witness :
    ¬ ∀ (opts : List Opt) (ign : Bool) (argv : List Str), (parseBuggy opts ign argv).doubleFree = false := by
  intro h
  exact absurd (h [⟨some 98, none, none, 2⟩] false [[112], [45, 98, 98], [112, 49]]) (by decide +kernel)

/-- the repaired parser on the same line: error, nothing freed twice -/
example : (parse [⟨some 98, none, none, 2⟩] false [[112], [45, 98, 98], [112, 49]]).rc = ERROR ∧
    (parse [⟨some 98, none, none, 2⟩] false [[112], [45, 98, 98], [112, 49]]).doubleFree = false := by
  decide +kernel

theorem appendTail_fresh (l : List Str) : appendTail 0 none l = ((l.length : Int), ofList l) := by
  cases l with
  | nil => rfl
  | cons a r => rw [appendTail_cons]; rfl

/-- **The reset.**  Whatever the handle held before (any earlier parses, any tail, any option
    instances), after `parsec_cmd_line_parse` with a non-empty argument vector every result field
    is the one of this parse alone: `free_parse_results` clears params, argv/argc, tail/tail count,
    and the parse refills them. -/
theorem handle_parse_reset (h : Handle) (ign : Bool) (argv : List Str) (hne : argv ≠ []) :
    h.parse ign argv =
      ((CmdLine.parse h.opts ign argv).rc, Handle.ofResult h.opts (CmdLine.parse h.opts ign argv)) := by
  cases argv with
  | nil => exact absurd rfl hne
  | cons prog rest =>
    simp only [Handle.parse, freeParseResults, CmdLine.parse, Handle.ofResult, appendTail_fresh]

/-- `argc == 0` leaves the handle untouched -/
theorem handle_parse_empty (h : Handle) (ign : Bool) : h.parse ign [] = (SUCCESS, h) := rfl

/-- the calls that change a handle: `parsec_cmd_line_parse` and `parsec_cmd_line_make_opt3` -/
inductive HOp where
  | parse (ign : Bool) (argv : List Str)
  | addOpt (e : Opt)

def HOp.apply (h : Handle) : HOp → Handle
  | .parse ign argv => (h.parse ign argv).2
  | .addOpt e => (h.addOpt e).2

def runOps (h : Handle) (ops : List HOp) : Handle := ops.foldl HOp.apply h

theorem runOps_concat (h : Handle) (ops : List HOp) (op : HOp) :
    runOps h (ops ++ [op]) = HOp.apply (runOps h ops) op :=
  List.foldl_append

/-- **After any history on one handle, the query results depend only on the last parse**: for every
    sequence of parses and option additions followed by a parse of a non-empty vector, the handle
    is the one a single parse with the then-current option table produces; so `get_tail` returns
    exactly that parse's tail with its count, `get_argc/argv` its vector, and
    `get_ninsts/get_param` its instances (`parse_wellformed`, `parse_queries` apply). -/
theorem handle_last_parse_only (h : Handle) (ops : List HOp) (ign : Bool) (argv : List Str)
    (hne : argv ≠ []) :
    runOps h (ops ++ [.parse ign argv]) =
      Handle.ofResult (runOps h ops).opts (CmdLine.parse (runOps h ops).opts ign argv) ∧
    (runOps h (ops ++ [.parse ign argv])).getTail =
      (((CmdLine.parse (runOps h ops).opts ign argv).tail.length : Int),
        ofList (CmdLine.parse (runOps h ops).opts ign argv).tail) ∧
    (∀ name, (runOps h (ops ++ [.parse ign argv])).ninsts name =
      ninsts (runOps h ops).opts (CmdLine.parse (runOps h ops).opts ign argv) name) ∧
    (∀ name inst idx, (runOps h (ops ++ [.parse ign argv])).getParam name inst idx =
      getParam (runOps h ops).opts (CmdLine.parse (runOps h ops).opts ign argv) name inst idx) := by
  rw [runOps_concat, HOp.apply, handle_parse_reset _ ign argv hne]
  refine ⟨rfl, ?_, fun _ => rfl, fun _ _ _ => rfl⟩
  simp only [Handle.getTail, Handle.ofResult, copy_eq_self]

/-- parses never change the option table; of the two `HOp`s only `addOpt` writes it -/
theorem handle_parse_opts (h : Handle) (ign : Bool) (argv : List Str) :
    (h.parse ign argv).2.opts = h.opts := by
  cases argv <;> rfl

/-- a parse that leaves a tail followed by a parse that leaves none: tail count 0 and NULL vector,
    and the option instance of the first parse is gone -/
example :
    let h0 : Handle := (Handle.new.addOpt ⟨some 97, none, none, 1⟩).2
    let h2 := runOps h0 [.parse false [[112], [45, 97], [120], [45, 45], [116]], .parse false [[112]]]
    h2.getTail = (0, none) ∧ h2.ninsts [97] = 0 ∧ h2.getArgv 1 = none ∧ h2.argc = 1 ∧
    (runOps h0 [.parse false [[112], [45, 97], [120], [45, 45], [116]]]).getTail = (1, some [[116]]) := by
  decide +kernel

end ParsecVerif.C39
