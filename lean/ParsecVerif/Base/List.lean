/-
  List facts that more than one component uses.
-/
namespace ParsecVerif.Base

theorem nodup_map_of_inj {α β : Type} {f : α → β} (hf : ∀ a b, f a = f b → a = b) {l : List α} (h : l.Nodup) :
    (l.map f).Nodup :=
  List.Pairwise.map f (fun _ _ hne he => hne (hf _ _ he)) h

/-- a nested enumeration is duplicate-free when both levels are and the pairing is injective -/
theorem nodup_flatMap_map {α β γ : Type} {l : List α} {g : α → List β} {f : α → β → γ} (hl : l.Nodup)
    (hg : ∀ a, (g a).Nodup) (hf : ∀ a b a' b', f a b = f a' b' → a = a' ∧ b = b') :
    (l.flatMap fun a => (g a).map (f a)).Nodup := by
  refine List.pairwise_flatMap.2 ⟨fun a _ => nodup_map_of_inj (fun b b' h => (hf a b a b' h).2) (hg a), hl.imp ?_⟩
  intro a a' hne x hx y hy hxy
  obtain ⟨b, _, rfl⟩ := List.mem_map.1 hx
  obtain ⟨b', _, rfl⟩ := List.mem_map.1 hy
  exact hne (hf a b a' b' hxy).1

end ParsecVerif.Base
