/-
  Generic facts for small-step concurrent machines whose thread-local state is a list indexed by
  thread id: a step replaces one entry, so an entry read afterwards is the new one or an old one of
  another thread, one unit of every count moves, and so does the entry's weight in every sum over the
  list (a sum that the weight of each entry bounds from below and entrywise bounds bound from above);
  what every step preserves holds after every schedule; in a log kept sorted by a time stamp the
  entry with the smaller stamp comes first.
-/
namespace ParsecVerif.Interleave

section entries
variable {α : Type _} {l : List α} {i j : Nat} {a x : α}

theorem lt_of_getElem? (h : l[i]? = some a) : i < l.length :=
  (List.getElem?_eq_some_iff.1 h).1

/-- An entry of the list after a step is the new entry of the stepping thread or an old entry of another one. -/
theorem getElem?_set_cases (h : (l.set i a)[j]? = some x) : j = i ∧ x = a ∨ j ≠ i ∧ l[j]? = some x := by
  rw [List.getElem?_set] at h
  split at h
  · split at h
    · exact .inl ⟨‹i = j›.symm, (Option.some.inj h).symm⟩
    · cases h
  · exact .inr ⟨fun e => ‹¬i = j› e.symm, h⟩

/-- A thread-local invariant survives a step if the new entry has it and the other entries keep it. -/
theorem forall_getElem?_set {P : Nat → α → Prop} (hs : P i a) (ho : ∀ j x, j ≠ i → l[j]? = some x → P j x) :
    ∀ j x, (l.set i a)[j]? = some x → P j x := fun j x h => by
  obtain ⟨rfl, rfl⟩ | ⟨hne, h⟩ := getElem?_set_cases h
  · exact hs
  · exact ho j x hne h

theorem getElem?_set_of_getElem? (h : l[i]? = some x) (a : α) (j : Nat) :
    (l.set i a)[j]? = if i = j then some a else l[j]? := by
  rw [List.getElem?_set, if_pos (lt_of_getElem? h)]

theorem set_getElem?_self (h : l[i]? = some a) : l.set i a = l := by
  obtain ⟨hi, rfl⟩ := List.getElem?_eq_some_iff.1 h
  exact List.set_getElem_self hi

theorem map_set_of_eq {β} {f : α → β} (h : l[i]? = some x) (e : f a = f x) : (l.set i a).map f = l.map f := by
  rw [List.map_set, e]
  exact set_getElem?_self (by rw [List.getElem?_map, h]; rfl)

end entries

theorem countP_set_of_getElem? {α} (p : α → Bool) {l : List α} {i : Nat} {x : α} (h : l[i]? = some x) (y : α) :
    (l.set i y).countP p + (if p x then 1 else 0) = l.countP p + (if p y then 1 else 0) := by
  obtain ⟨hi, rfl⟩ := List.getElem?_eq_some_iff.1 h
  have : (if p l[i] then 1 else 0) ≤ l.countP p := by
    split
    next hp => exact List.countP_pos_iff.2 ⟨_, List.getElem_mem hi, hp⟩
    · exact Nat.zero_le _
  rw [List.countP_set hi]
  omega

/-- Changing the program point of one thread moves one unit between two counters.  `BEq` is a parameter of its own so
    that the lemma applies at the instance `List.count` finds at the call (`Option.instBEq`, say), which need not be the
    one `DecidableEq` gives. -/
theorem count_set_of_getElem? {α} [BEq α] [LawfulBEq α] [DecidableEq α] {l : List α} {i : Nat} {x : α} (h : l[i]? = some x) (y b : α) :
    (l.set i y).count b + (if x = b then 1 else 0) = l.count b + (if y = b then 1 else 0) := by
  simpa [List.count, beq_iff_eq] using countP_set_of_getElem? (· == b) h y

section sums
variable {α : Type} (f : α → Nat)

theorem sum_map_eraseIdx (l : List α) (k : Nat) (a : α) (h : l[k]? = some a) :
    ((l.eraseIdx k).map f).sum + f a = (l.map f).sum := by
  induction l generalizing k with
  | nil => simp at h
  | cons b l ih =>
    cases k with
    | zero => simp at h; subst h; simp; omega
    | succ k =>
      have := ih k (by simpa using h)
      simp only [List.eraseIdx_cons_succ, List.map_cons, List.sum_cons]; omega

theorem sum_map_set (l : List α) (t : Nat) (a y : α) (h : l[t]? = some a) :
    ((l.set t y).map f).sum + f a = (l.map f).sum + f y := by
  have ht : t < l.length := (List.getElem?_eq_some_iff.1 h).1
  have h1 := sum_map_eraseIdx f (l.set t y) t y (by simp [ht])
  have h2 := sum_map_eraseIdx f l t a h
  rw [List.eraseIdx_set_eq] at h1
  omega

theorem sum_set (l : List Nat) (i v : Nat) (h : i < l.length) : (l.set i v).sum + l[i] = l.sum + v := by
  simpa using sum_map_set id l i l[i] v (List.getElem?_eq_getElem h)

theorem le_sum_map_of_mem (l : List α) (a : α) (h : a ∈ l) : f a ≤ (l.map f).sum := by
  obtain ⟨k, hk⟩ := List.getElem?_of_mem h
  have := sum_map_eraseIdx f l k a hk
  omega

theorem sum_map_le (g : α → Nat) (h : ∀ a, f a ≤ g a) (l : List α) : (l.map f).sum ≤ (l.map g).sum := by
  induction l with
  | nil => exact Nat.le_refl _
  | cons a l ih => have := h a; simp only [List.map_cons, List.sum_cons]; omega

theorem sum_map_le_length (hf : ∀ a, f a ≤ 1) (l : List α) : (l.map f).sum ≤ l.length := by
  induction l with
  | nil => exact Nat.le_refl _
  | cons a l ih => have := hf a; simp only [List.map_cons, List.sum_cons, List.length_cons]; omega

end sums

/-- what the initial state has and every step preserves holds after every schedule -/
theorem foldl_inv {σ α} {P : σ → Prop} {f : σ → α → σ} (hstep : ∀ s a, P s → P (f s a)) (l : List α)
    {s : σ} (h : P s) : P (l.foldl f s) :=
  List.foldlRecOn l f h fun s hs a _ => hstep s a hs

/-- In a log sorted by a stamp, the entry with the smaller stamp comes first. -/
theorem before_of_pairwise {α} {f : α → Nat} {S : List α} (hs : S.Pairwise fun a b => f a < f b) {a b : α}
    (ha : a ∈ S) (hb : b ∈ S) (hab : f a < f b) : ∃ l1 l2 l3, S = l1 ++ a :: l2 ++ b :: l3 := by
  obtain ⟨l1, r, rfl⟩ := List.append_of_mem ha
  rw [List.pairwise_append, List.pairwise_cons] at hs
  rcases List.mem_append.1 hb with hb | hb
  · have := hs.2.2 b hb a (List.mem_cons_self ..); omega
  · rcases List.mem_cons.1 hb with rfl | hb
    · omega
    · obtain ⟨l2, l3, rfl⟩ := List.append_of_mem hb
      exact ⟨l1, l2, l3, (List.append_assoc l1 (a :: l2) (b :: l3)).symm⟩

end ParsecVerif.Interleave
