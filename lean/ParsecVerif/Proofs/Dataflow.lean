import ParsecVerif.Model.Dataflow
import ParsecVerif.Base.Interleave
/-! Safety of the generic dataflow machine: the inductive invariant `Inv` (exactly once, dependency order, values),
    the AGAIN accounting `Inv2`, and what a trace can contain. -/
namespace ParsecVerif.Dataflow

theorem hasIn_iff (l : List (Nat × Nat)) (j : Nat) : hasIn l j = true ↔ ∃ e ∈ l, e.2 = j := by
  simp [hasIn]

theorem hasIn_false_iff (l : List (Nat × Nat)) (j : Nat) : hasIn l j = false ↔ ∀ e ∈ l, e.2 ≠ j := by
  simp [hasIn]

theorem hasIn_erase_ne {l : List (Nat × Nat)} {a b j : Nat} (hj : j ≠ b) :
    hasIn (l.erase (a, b)) j = hasIn l j := by
  rw [Bool.eq_iff_iff, hasIn_iff, hasIn_iff]
  exact exists_congr fun e => and_congr_left fun hej => List.mem_erase_of_ne fun heq => hj (by rw [← hej, heq])

theorem set_status_iff {l : List Status} {i : Nat} {old new c : Status} (h : l[i]? = some old)
    (ho : old ≠ c) (hn : new ≠ c) (k : Nat) : (l.set i new)[k]? = some c ↔ l[k]? = some c := by
  rw [Interleave.getElem?_set_of_getElem? h new k]
  split
  · subst k; simp [h, ho, hn]
  · rfl

theorem release_status_iff {l : List Status} {b : Nat} {c : Status} (hbw : l[b]? = some .waiting) (hw : c ≠ .waiting)
    (hr : c ≠ .ready) (p : Bool) (k : Nat) : (if p then l else l.set b .ready)[k]? = some c ↔ l[k]? = some c := by
  split
  · rfl
  · exact set_status_iff hbw (Ne.symm hw) (Ne.symm hr) k

theorem mem_predsOf (g : Graph) (j p : Nat) : p ∈ predsOf g j ↔ (p, j) ∈ g.E := by
  simp [predsOf]

theorem inputs_set_val {g : Graph} {s : St} {k i : Nat} {v : Option Nat} (hnp : (i, k) ∉ g.E) :
    inputs g { s with val := s.val.set i v } k = inputs g s k := by
  refine List.map_congr_left fun p hp => ?_
  have : i ≠ p := fun heq => hnp (heq ▸ (mem_predsOf g k p).1 hp)
  simp only [List.getElem?_set_ne this]

theorem split_snoc {α : Type} {P : List α → α → Prop} {L : List α} {ev : α}
    (h : ∀ L1 x L2, L = L1 ++ x :: L2 → P L1 x) (hev : P L ev) :
    ∀ L1 x L2, L ++ [ev] = L1 ++ x :: L2 → P L1 x := by
  intro L1 x L2 hl
  rcases List.prefix_concat_iff.1 (⟨L2, by simp [hl]⟩ : L1 ++ [x] <+: L ++ [ev]) with heq | ⟨L2', hL⟩
  · obtain ⟨rfl, h2⟩ := List.append_inj' heq rfl; cases h2; exact hev
  · exact h L1 x L2' (by simp [← hL])

theorem init_status (g : Graph) (again : List Nat) (j : Nat) :
    (init g again).status[j]? = if j < g.n then some (if hasIn g.E j then Status.waiting else Status.ready) else none := by
  simp only [init, List.getElem?_map]
  split <;> simp_all

theorem init_not_started (g : Graph) (again : List Nat) (i : Nat) :
    (init g again).status[i]? ≠ some .running ∧ (init g again).status[i]? ≠ some .ended := by
  rw [init_status]; repeat' split
  all_goals simp

theorem enabled_iff {s : St} {t : Tr} : enabled s t = true ↔ match t with
    | .start i => s.status[i]? = some .ready
    | .again i => s.status[i]? = some .running ∧ 0 < (s.again[i]?).getD 0
    | .finish i => s.status[i]? = some .running ∧ (s.again[i]?).getD 0 = 0
    | .release a b => s.status[a]? = some .ended ∧ (a, b) ∈ s.pending := by
  cases t <;> simp [enabled]

theorem step_cases {P : Tr → St → Prop} (g : Graph) (F : Nat → List (Option Nat) → Nat) (s : St)
    (idle : ∀ t, enabled s t = false → P t s)
    (start : ∀ i, s.status[i]? = some .ready →
      P (.start i) { s with status := s.status.set i .running, log := s.log ++ [.start i] })
    (again : ∀ i, s.status[i]? = some .running → 0 < (s.again[i]?).getD 0 →
      P (.again i) { s with status := s.status.set i .ready, again := s.again.set i ((s.again[i]?).getD 0 - 1),
                            log := s.log ++ [.again i] })
    (finish : ∀ i, s.status[i]? = some .running → (s.again[i]?).getD 0 = 0 →
      P (.finish i) { s with status := s.status.set i .ended, val := s.val.set i (some (F i (inputs g s i))),
                             log := s.log ++ [.end_ i] })
    (release : ∀ a b, s.status[a]? = some .ended → (a, b) ∈ s.pending →
      P (.release a b) { s with pending := s.pending.erase (a, b),
                                status := if hasIn (s.pending.erase (a, b)) b then s.status else s.status.set b .ready })
    (t : Tr) : P t (step g F s t) := by
  unfold step
  cases hen : enabled s t with
  | false => exact idle t hen
  | true =>
    have h := enabled_iff.1 hen
    cases t
    · exact start _ h
    · exact again _ h.1 h.2
    · exact finish _ h.1 h.2
    · exact release _ _ h.1 h.2

/-- of `WF` its preservation uses only that edges stay inside the node range (the rank is what progress rests on,
    `DataflowLive`).  `cnt`, `order` and `vals` are what the theorems read off (exactly once, dependency order, values);
    `sub`, `src` and `wait` tie `pending` to the statuses so that these are preserved. -/
structure Inv (g : Graph) (F : Nat → List (Option Nat) → Nat) (s : St) : Prop where
  len   : s.status.length = g.n
  vlen  : s.val.length = g.n
  sub   : ∀ e ∈ s.pending, e ∈ g.E
  src   : ∀ e ∈ g.E, s.status[e.1]? ≠ some .ended → e ∈ s.pending
  wait  : ∀ j, j < g.n → (s.status[j]? = some .waiting ↔ hasIn s.pending j = true)
  cnt   : ∀ i, s.log.count (.end_ i) = if s.status[i]? = some .ended then 1 else 0
  order : ∀ L1 L2 j, s.log = L1 ++ Ev.start j :: L2 → ∀ e ∈ g.E, e.2 = j → Ev.end_ e.1 ∈ L1
  vals  : ∀ i, s.status[i]? = some .ended → s.val[i]? = some (some (F i (inputs g s i)))

theorem Inv.lt {g : Graph} {F} {s : St} (h : Inv g F s) {i : Nat} {st : Status} (hst : s.status[i]? = some st) :
    i < g.n :=
  h.len ▸ (List.getElem?_eq_some_iff.1 hst).1

theorem end_mem_log_iff {g : Graph} {F} {s : St} (h : Inv g F s) (i : Nat) :
    Ev.end_ i ∈ s.log ↔ s.status[i]? = some .ended := by
  rw [← List.count_pos_iff, h.cnt i]; split <;> simp [*]

theorem preds_ended {g : Graph} {F} {s : St} (h : Inv g F s) (e : Nat × Nat) (he : e ∈ g.E) (hn : e.2 < g.n)
    (hw : s.status[e.2]? ≠ some .waiting) : s.status[e.1]? = some .ended :=
  Classical.byContradiction fun hne => hw ((h.wait e.2 hn).2 ((hasIn_iff _ _).2 ⟨e, h.src e he hne, rfl⟩))

theorem Inv.waiting_of_pending {g : Graph} {F} {rank : Nat → Nat} {s : St} (hwf : WF g rank) (h : Inv g F s) {a b : Nat}
    (hp : (a, b) ∈ s.pending) : s.status[b]? = some .waiting :=
  (h.wait b (hwf.1 _ (h.sub _ hp)).2).2 ((hasIn_iff _ _).2 ⟨(a, b), hp, rfl⟩)

theorem quiescent_ended {g : Graph} {F} {s : St} (h : Inv g F s) (hq : quiescent s) {i : Nat} (hi : i < g.n) :
    s.status[i]? = some .ended := by
  have hlen : i < s.status.length := h.len ▸ hi
  rw [List.getElem?_eq_getElem hlen, hq.2 _ (List.getElem_mem hlen)]

theorem inv_init (g : Graph) (F) (again : List Nat) : Inv g F (init g again) := by
  have hne := fun i => (init_not_started g again i).2
  refine ⟨by simp [init], by simp [init], fun e he => he, fun e he _ => he, ?_, ?_, ?_, fun i hi => absurd hi (hne i)⟩
  · intro j hj
    rw [init_status, if_pos hj]
    show _ ↔ hasIn g.E j = true
    cases hasIn g.E j <;> simp
  · intro i; rw [if_neg (hne i)]; rfl
  · intro L1 L2 j hl; cases L1 <;> cases hl

theorem WF.induction {g : Graph} {rank : Nat → Nat} (hwf : WF g rank) {P : Nat → Prop}
    (h : ∀ j, j < g.n → (∀ e ∈ g.E, e.2 = j → P e.1) → P j) (j : Nat) (hj : j < g.n) : P j := by
  induction hr : rank j using Nat.strongRecOn generalizing j with
  | _ r ih => exact h j hj fun e he hej => ih _ (by rw [← hr, ← hej]; exact hwf.2 e he) e.1 (hwf.1 e he).1 rfl

section steps
variable {g : Graph} {F : Nat → List (Option Nat) → Nat} {rank : Nat → Nat}

theorem order_snoc {L : List Ev} {ev : Ev}
    (h : ∀ L1 L2 j, L = L1 ++ Ev.start j :: L2 → ∀ e ∈ g.E, e.2 = j → Ev.end_ e.1 ∈ L1)
    (hev : ∀ j, ev = .start j → ∀ e ∈ g.E, e.2 = j → Ev.end_ e.1 ∈ L) :
    ∀ L1 L2 j, L ++ [ev] = L1 ++ Ev.start j :: L2 → ∀ e ∈ g.E, e.2 = j → Ev.end_ e.1 ∈ L1 := fun L1 L2 j hl =>
  split_snoc (P := fun L1 x => ∀ j, x = .start j → ∀ e ∈ g.E, e.2 = j → Ev.end_ e.1 ∈ L1)
    (fun L1 _ L2 hl j hx => h L1 L2 j (hx ▸ hl)) hev L1 _ L2 hl j rfl

theorem inv_relabel {s : St} (h : Inv g F s) {i : Nat} {old new : Status} (hst : s.status[i]? = some old)
    (how : old ≠ .waiting) (hoe : old ≠ .ended) (hnw : new ≠ .waiting) (hne : new ≠ .ended) (a : List Nat) {ev : Ev}
    (hev : ∀ k, ev ≠ .end_ k) (hord : ∀ j, ev = .start j → ∀ e ∈ g.E, e.2 = j → Ev.end_ e.1 ∈ s.log) :
    Inv g F { s with status := s.status.set i new, again := a, log := s.log ++ [ev] } := by
  have hE := fun k => set_status_iff hst hoe hne k
  refine ⟨by simp [h.len], h.vlen, h.sub, fun e he hn => h.src e he (mt (hE e.1).2 hn),
    fun j hj => (set_status_iff hst how hnw j).trans (h.wait j hj), fun k => ?_, order_snoc h.order hord,
    fun k hk => h.vals k ((hE k).1 hk)⟩
  rw [List.count_append, h.cnt k]; simp [hE k, hev k]

theorem inv_finish {s : St} (h : Inv g F s) (i : Nat) (hst : s.status[i]? = some .running) :
    Inv g F { s with status := s.status.set i .ended, val := s.val.set i (some (F i (inputs g s i))),
                     log := s.log ++ [.end_ i] } := by
  have hE : ∀ k, (s.status.set i .ended)[k]? = some .ended ↔ i = k ∨ s.status[k]? = some .ended := fun k => by
    rw [Interleave.getElem?_set_of_getElem? hst _]; split <;> simp [*]
  refine ⟨by simp [h.len], by simp [h.vlen], h.sub, fun e he hn => h.src e he (mt (fun hh => (hE _).2 (.inr hh)) hn),
    fun j hj => (set_status_iff hst (by decide) (by decide) j).trans (h.wait j hj), fun k => ?_,
    order_snoc h.order (fun _ hx => nomatch hx), fun k hk => ?_⟩
  · rw [List.count_append, h.cnt k]
    by_cases hik : i = k
    · subst hik; simp [hE, hst]
    · simp [hik]
  · -- the running `i` has no edge into a node that is not waiting, so the inputs of `k` are untouched
    have hnp : s.status[k]? ≠ some .waiting → k < g.n → (i, k) ∉ g.E := fun hw hn hm =>
      nomatch hst.symm.trans (preds_ended h (i, k) hm hn hw)
    show (s.val.set i _)[k]? = some (some (F k (inputs g { s with val := s.val.set i _ } k)))
    by_cases hik : i = k
    · subst hik
      rw [inputs_set_val (hnp (by rw [hst]; decide) (h.lt hst)), List.getElem?_set_self (h.vlen ▸ h.lt hst)]
    · have hk2 := ((hE k).1 hk).resolve_left hik
      rw [inputs_set_val (hnp (by rw [hk2]; decide) (h.lt hk2)), List.getElem?_set_ne hik]
      exact h.vals k hk2

theorem inv_release (hwf : WF g rank) {s : St} (h : Inv g F s) (a b : Nat) (hst : s.status[a]? = some .ended)
    (hp : (a, b) ∈ s.pending) :
    Inv g F { s with pending := s.pending.erase (a, b),
                     status := if hasIn (s.pending.erase (a, b)) b then s.status else s.status.set b .ready } := by
  have hbw := h.waiting_of_pending hwf hp
  have hended := release_status_iff (c := .ended) hbw (by decide) (by decide) (hasIn (s.pending.erase (a, b)) b)
  refine ⟨by split <;> simp [h.len], h.vlen, fun e he => h.sub e (List.mem_of_mem_erase he), fun e he hne => ?_,
    fun j hj => ?_, fun k => by rw [h.cnt k]; simp only [hended k], h.order, fun k hk => h.vals k ((hended k).1 hk)⟩
  · have hne' := mt (hended e.1).2 hne
    exact (List.mem_erase_of_ne fun heq => hne' (by rw [heq]; exact hst)).2 (h.src e he hne')
  · by_cases hjb : b = j
    · subst hjb
      cases hh : hasIn (s.pending.erase (a, b)) b with
      | true => simp [hbw]
      | false => simp [Interleave.getElem?_set_of_getElem? hbw Status.ready b]
    · rw [hasIn_erase_ne (Ne.symm hjb), ← h.wait j hj]
      split
      · rfl
      · rw [Interleave.getElem?_set_of_getElem? hbw Status.ready j, if_neg hjb]

theorem inv_step (hwf : WF g rank) (s : St) (h : Inv g F s) (t : Tr) : Inv g F (step g F s t) :=
  step_cases (P := fun _ s' => Inv g F s') g F s (fun _ _ => h)
    (fun i hi => inv_relabel h hi (by decide) (by decide) (by decide) (by decide) s.again (by simp)
      fun j hj e he hej => by
        cases hj
        exact (end_mem_log_iff h e.1).2 (preds_ended h e he (hej ▸ h.lt hi) (by rw [hej, hi]; decide)))
    (fun i hi _ => inv_relabel h hi (by decide) (by decide) (by decide) (by decide) _ (by simp) fun _ hj => nomatch hj)
    (fun i hi _ => inv_finish h i hi) (fun a b ha hp => inv_release hwf h a b ha hp) t

theorem inv_run (hwf : WF g rank) (again : List Nat) (ts : List Tr) : Inv g F (run g F again ts) :=
  Interleave.foldl_inv (fun s t h => inv_step hwf s h t) ts (inv_init g F again)

theorem run_induction (hwf : WF g rank) (P : St → Prop) (again : List Nat)
    (h0 : P (init g again)) (hstep : ∀ s t, Inv g F s → P s → P (step g F s t)) (ts : List Tr) :
    P (run g F again ts) :=
  (Interleave.foldl_inv (P := fun s => Inv g F s ∧ P s) (fun s t h => ⟨inv_step hwf s h.1 t, hstep s t h.1 h.2⟩) ts
    ⟨inv_init g F again, h0⟩).2

end steps

/-- 1 for a node whose last start has not been answered AGAIN -/
def active (st : Option Status) : Nat := if st = some .running ∨ st = some .ended then 1 else 0

/-- #starts = #AGAIN answers + [running or ended] (`starts`); the answers given and the answers in stock make up the
    initial stock `again0` (`budget`); a node that has ended has none left, since `finish` is guarded by it (`zero`) -/
structure Inv2 (again0 : List Nat) (s : St) : Prop where
  starts : ∀ i : Nat, s.log.count (.start i) = s.log.count (.again i) + active s.status[i]?
  budget : ∀ i : Nat, s.log.count (.again i) + (s.again[i]?).getD 0 = (again0[i]?).getD 0
  zero   : ∀ i : Nat, s.status[i]? = some Status.ended → (s.again[i]?).getD 0 = 0

theorem inv2_init (g : Graph) (again : List Nat) : Inv2 again (init g again) :=
  ⟨fun i => by simp [active, init_not_started g again i]; rfl, fun i => by simp [init],
    fun i hi => absurd hi (init_not_started g again i).2⟩

theorem inv2_snoc {again0 : List Nat} {s : St} (h : Inv2 again0 s) {i : Nat} {old : Status} (new : Status)
    (hst : s.status[i]? = some old) {ev : Ev} (a' : List Nat) (v' : List (Option Nat))
    (hev : ∀ k, i ≠ k → [ev].count (.start k) = 0 ∧ [ev].count (.again k) = 0)
    (hi : [ev].count (.start i) + active (some old) = [ev].count (.again i) + active (some new))
    (hb : ∀ k, [ev].count (.again k) + (a'[k]?).getD 0 = (s.again[k]?).getD 0)
    (hz : new = .ended → (a'[i]?).getD 0 = 0) :
    Inv2 again0 { status := s.status.set i new, pending := s.pending, again := a', val := v', log := s.log ++ [ev] } := by
  refine ⟨fun k => ?_, fun k => by rw [← h.budget k, ← hb k, List.count_append, Nat.add_assoc], fun k hk => ?_⟩
  · rw [List.count_append, List.count_append, h.starts k, Interleave.getElem?_set_of_getElem? hst new k]
    by_cases hk : i = k
    · subst hk; rw [if_pos rfl, hst]; omega
    · rw [if_neg hk, (hev k hk).1, (hev k hk).2]; rfl
  · rw [Interleave.getElem?_set_of_getElem? hst new k] at hk
    split at hk
    · subst k; exact hz (Option.some.inj hk)
    · exact Nat.eq_zero_of_add_eq_zero_left ((hb k).trans (h.zero k hk))

theorem inv2_step (g : Graph) (F) (again0 : List Nat) (s : St) (h : Inv2 again0 s)
    (hrel : ∀ a b, enabled s (.release a b) = true → s.status[b]? = some .waiting) (t : Tr) :
    Inv2 again0 (step g F s t) := by
  refine step_cases (P := fun _ s' => Inv2 again0 s') g F s (fun _ _ => h) ?_ ?_ ?_ ?_ t
  · exact fun i hst => inv2_snoc h .running hst s.again s.val (fun k hk => by simp [hk]) (by simp [active])
      (fun k => by simp) (fun e => nomatch e)
  · intro i hst hpos
    refine inv2_snoc h .ready hst _ s.val (fun k hk => by simp [hk]) (by simp [active]) (fun k => ?_)
      (fun e => nomatch e)
    cases ha : s.again[i]? with
    | none => simp [ha] at hpos
    | some x =>
      rw [Interleave.getElem?_set_of_getElem? ha _ k]
      by_cases hk : i = k
      · subst hk; simp [ha] at hpos ⊢; omega
      · simp [hk]
  · exact fun i hst hz => inv2_snoc h .ended hst s.again _ (fun k hk => by simp) (by simp [active])
      (fun k => by simp) (fun _ => hz)
  · intro a b ha hp
    have hbw := hrel a b (enabled_iff.2 ⟨ha, hp⟩)
    have hst := fun c hw hr => release_status_iff (c := c) hbw hw hr (hasIn (s.pending.erase (a, b)) b)
    refine ⟨fun k => ?_, h.budget, fun k hk => h.zero k ((hst .ended (by decide) (by decide) k).1 hk)⟩
    rw [h.starts k]
    simp only [active, hst .ended (by decide) (by decide) k, hst .running (by decide) (by decide) k]

end ParsecVerif.Dataflow

/-! What a trace can contain.  All of it is about the generic machine; it stands in `PtgRt` because the statements of
    C01 and C16 name `PtgRt.evNode` and `PtgRt.relCount`. -/
namespace ParsecVerif.PtgRt
open ParsecVerif.Dataflow

def evNode : Ev → Nat
  | .start i => i
  | .again i => i
  | .end_ i => i

section machine
variable {g : Graph} {F : Nat → List (Option Nat) → Nat} {rank : Nat → Nat}

theorem log_induction (hwf : WF g rank) (Q : List Ev → Prop) (again : List Nat) (h0 : Q [])
    (snoc : ∀ s ev st, Inv g F s → Q s.log → s.status[evNode ev]? = some st → st ≠ .waiting → st ≠ .ended →
      Q (s.log ++ [ev]))
    (ts : List Tr) : Q (run g F again ts).log :=
  run_induction hwf (fun s => Q s.log) again h0 (fun s t hinv hQ =>
    step_cases (P := fun _ s' => Q s'.log) g F s (fun _ _ => hQ)
      (fun i hi => snoc s (.start i) _ hinv hQ hi (by decide) (by decide))
      (fun i hi _ => snoc s (.again i) _ hinv hQ hi (by decide) (by decide))
      (fun i hi _ => snoc s (.end_ i) _ hinv hQ hi (by decide) (by decide)) (fun _ _ _ _ => hQ) t) ts

theorem log_nodes_lt (hwf : WF g rank) (again : List Nat) (ts : List Tr) :
    ∀ ev ∈ (run g F again ts).log, evNode ev < g.n := by
  refine log_induction hwf (fun L => ∀ ev ∈ L, evNode ev < g.n) again (fun _ h => nomatch h)
    (fun s ev st hinv hQ hs _ _ x hx => ?_) ts
  rcases List.mem_append.1 hx with h | h
  · exact hQ x h
  · rw [List.mem_singleton.1 h]; exact hinv.lt hs

theorem no_event_below_done (hwf : WF g rank) (R : Nat → Nat → Prop)
    (hR : ∀ s, Inv g F s → ∀ a b, R a b → s.status[b]? = some .ended → s.status[a]? = some .ended)
    (again : List Nat) (ts : List Tr) :
    (run g F again ts).log.Pairwise (fun x y => ∀ b, x = .end_ b → ¬ R (evNode y) b) := by
  refine log_induction hwf (fun L => L.Pairwise _) again .nil (fun s ev st hinv hQ hs _ hne => ?_) ts
  refine List.pairwise_append.2 ⟨hQ, List.pairwise_singleton _ _, fun x hx y hy b hxb hr => ?_⟩
  cases List.mem_singleton.1 hy; subst hxb
  -- a node `R`-below the completed `b` has completed, and events are logged by nodes that have not
  exact hne (Option.some.inj (hs.symm.trans (hR s hinv _ _ hr ((end_mem_log_iff hinv b).1 hx))))

theorem done_is_final (hwf : WF g rank) (again : List Nat) (ts : List Tr) :
    ∀ L1 L2 i, (run g F again ts).log = L1 ++ Ev.end_ i :: L2 → ∀ ev ∈ L2, evNode ev ≠ i := fun L1 L2 i hl ev hev => by
  have h := no_event_below_done (F := F) hwf Eq (fun _ _ _ _ h hb => h ▸ hb) again ts
  rw [hl, List.pairwise_append, List.pairwise_cons] at h
  exact h.2.1.1 ev hev i rfl

end machine

/-- number of effective `release e` transitions of a schedule (enabled when taken: source ended, dependency pending) -/
def relCount (g : Graph) (F : Nat → List (Option Nat) → Nat) (e : Nat × Nat) : St → List Tr → Nat
  | _, [] => 0
  | s, t :: ts => (if t = Tr.release e.1 e.2 ∧ enabled s t = true then 1 else 0) + relCount g F e (step g F s t) ts

theorem step_pending (g : Graph) (F : Nat → List (Option Nat) → Nat) (s : St) (t : Tr) (e : Nat × Nat) :
    (step g F s t).pending.count e + (if t = Tr.release e.1 e.2 ∧ enabled s t = true then 1 else 0) =
      s.pending.count e := by
  refine step_cases (P := fun t s' => s'.pending.count e + (if t = Tr.release e.1 e.2 ∧ enabled s t = true then 1 else 0) =
    s.pending.count e) g F s (fun t hen => by simp [hen]) (fun _ _ => by simp) (fun _ _ _ => by simp)
    (fun _ _ _ => by simp) (fun a b ha hp => ?_) t
  have hen : enabled s (.release a b) = true := enabled_iff.2 ⟨ha, hp⟩
  by_cases he : e = (a, b)
  · subst he
    have := List.count_pos_iff.2 hp
    rw [List.count_erase_self]; simp [hen]; omega
  · rw [List.count_erase_of_ne he, if_neg]
    · rfl
    · rintro ⟨h, _⟩; injection h with h1 h2; exact he (Prod.ext h1.symm h2.symm)

theorem relCount_spec (g : Graph) (F : Nat → List (Option Nat) → Nat) (e : Nat × Nat) (ts : List Tr) (s : St) :
    (ts.foldl (step g F) s).pending.count e + relCount g F e s ts = s.pending.count e := by
  fun_induction relCount g F e s ts with
  | case1 => rfl
  | case2 s t ts ih => have := step_pending g F s t e; simp only [List.foldl_cons]; omega

end ParsecVerif.PtgRt
