import ParsecVerif.Model.PtgRt
/-! The task graph of a well-formed program is a well-formed dataflow graph, and the input dependencies of an instance
    are edges of it: the instantiation through which C01 / C02 / C16 apply the theorems of `Props/Runtime.lean`. -/
namespace ParsecVerif.PtgRt
open ParsecVerif.Ptg ParsecVerif.Dataflow

theorem ixOf_some {insts : List Instance} {t : Instance} {i : Nat} (h : ixOf insts t = some i) :
    ∃ hi : i < insts.length, insts[i] = t :=
  let ⟨hi, he, _⟩ := List.idxOf?_eq_some_iff.1 h; ⟨hi, he⟩

theorem ixOf_of_mem {insts : List Instance} {t : Instance} (h : t ∈ insts) : ∃ i, ixOf insts t = some i :=
  Option.isSome_iff_exists.1 (List.isSome_idxOf?.2 h)

theorem mem_graphOf_E (p : Program) (cfg : Cfg) (e : Nat × Nat) :
    e ∈ (graphOf p cfg).E ↔ ∃ x ∈ allOutEdges p, nodeOf p x.src = some e.1 ∧ nodeOf p x.dst = some e.2 := by
  simp only [graphOf, List.mem_filterMap, edgeIx, nodeOf]
  refine exists_congr fun x => and_congr_right fun _ => ?_
  split <;> simp_all [Prod.ext_iff]

/-- what the proofs use of `WellFormed` -/
theorem wf_edges {p : Program} (h : WellFormed p = true) :
    (∀ e ∈ allOutEdges p, ∃ i j, nodeOf p e.src = some i ∧ nodeOf p e.dst = some j ∧ i < j) ∧
    (∀ e ∈ allInEdges p, e ∈ allOutEdges p) := by
  unfold WellFormed at h
  simp only [Bool.and_eq_true, List.all_eq_true, List.contains_iff_mem] at h
  -- of the last block of `WellFormed`: `hio` is "in edges ⊆ out edges", `hof` is "every out edge ends in the space and
  -- is `edgeForward`"; the pattern follows the order of the clauses there
  obtain ⟨_, ⟨⟨_, hio⟩, hof⟩, _⟩ := h
  refine ⟨fun e he => ?_, hio⟩
  have hf := (hof e he).2
  unfold edgeForward at hf
  split at hf
  · -- `edgeForward` looks the two ends up with `posOf`, which is `nodeOf` unfolded
    exact ⟨_, _, ‹_›, ‹_›, by simpa using hf⟩
  · cases hf

/-- the rank is the position in enumeration order, in which `WellFormed` checks every edge to go forward -/
theorem graphOf_WF (p : Program) (cfg : Cfg) (h : WellFormed p = true) : WF (graphOf p cfg) id := by
  constructor <;> intro e he <;> obtain ⟨x, hx, h1, h2⟩ := (mem_graphOf_E p cfg e).1 he
  · exact ⟨(ixOf_some h1).1, (ixOf_some h2).1⟩
  · obtain ⟨i, j, h3, h4, hlt⟩ := (wf_edges h).1 x hx
    cases h1.symm.trans h3; cases h2.symm.trans h4
    exact hlt

theorem inEdges_dst {p : Program} {c : Nat} {a : List Int} {e : Edge} (he : e ∈ inEdges p c a) : e.dst = ⟨c, a⟩ := by
  unfold inEdges at he
  split at he
  · cases he
  · simp only [List.mem_flatMap] at he
    obtain ⟨_, _, _, _, he⟩ := he
    split at he
    · split at he
      · cases he
      · simp only [List.mem_filterMap, Option.map_eq_some_iff] at he
        obtain ⟨_, _, _, _, rfl⟩ := he
        rfl
    · cases he

theorem preds_edge (p : Program) (cfg : Cfg) (h : WellFormed p = true) (t : Instance) (ht : t ∈ allInstances p)
    (u : Instance) (sf : Nat) (hu : (u, sf) ∈ preds p t) :
    ∃ i j, nodeOf p u = some i ∧ nodeOf p t = some j ∧ (i, j) ∈ (graphOf p cfg).E := by
  obtain ⟨e, he, heq⟩ := List.mem_map.1 hu
  have hout := (wf_edges h).2 e (List.mem_flatMap.2 ⟨t, ht, he⟩)
  obtain ⟨i, j, h3, h4, _⟩ := (wf_edges h).1 e hout
  have hsrc : e.src = u := congrArg Prod.fst heq
  have hdst : e.dst = t := inEdges_dst he
  exact ⟨i, j, hsrc ▸ h3, hdst ▸ h4, (mem_graphOf_E p cfg (i, j)).2 ⟨e, hout, h3, h4⟩⟩

end ParsecVerif.PtgRt
