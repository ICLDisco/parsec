import ParsecVerif.Proofs.DistRtInv
/-! Termination measure of the distributed runtime (C05): every enabled transition of a reachable state
    strictly decreases a natural number. -/
namespace ParsecVerif.DistRt
open ParsecVerif.Dataflow
open ParsecVerif.RemoteDep hiding St

/-- weight of a message in flight: 3 before its activation has been received, 1 while its payloads are fetched -/
def wt (X : List (Nat × Msg)) (a : Nat) (m : Msg) : Nat := if X.contains (a, m) then 1 else 3

def wsum (X : List (Nat × Msg)) (a : Nat) (l : List Msg) : Nat := (l.map (wt X a)).sum

theorem wt_le (X : List (Nat × Msg)) (a : Nat) (m : Msg) : 1 ≤ wt X a m ∧ wt X a m ≤ 3 := by
  unfold wt; split <;> omega

theorem wsum_nil (X : List (Nat × Msg)) (a : Nat) : wsum X a [] = 0 := rfl
theorem wsum_cons (X : List (Nat × Msg)) (a : Nat) (m : Msg) (l : List Msg) : wsum X a (m :: l) = wt X a m + wsum X a l := by
  simp [wsum]
theorem wsum_append (X : List (Nat × Msg)) (a : Nat) (l1 l2 : List Msg) : wsum X a (l1 ++ l2) = wsum X a l1 + wsum X a l2 := by
  simp [wsum]

theorem wsum_le (X : List (Nat × Msg)) (a : Nat) (l : List Msg) : wsum X a l ≤ 3 * l.length := by
  induction l with
  | nil => exact Nat.le_refl 0
  | cons m l ih => rw [wsum_cons, List.length_cons]; have := (wt_le X a m).2; omega

theorem wsum_erase (X : List (Nat × Msg)) (a : Nat) (m : Msg) (l : List Msg) (h : m ∈ l) :
    wsum X a l = wt X a m + wsum X a (l.erase m) := by
  unfold wsum
  rw [((List.perm_cons_erase h).map (wt X a)).sum_nat, List.map_cons, List.sum_cons]

theorem wsum_congr (X X' : List (Nat × Msg)) (a : Nat) (l : List Msg) (h : ∀ m ∈ l, wt X' a m = wt X a m) :
    wsum X' a l = wsum X a l := by
  unfold wsum; rw [List.map_congr_left h]

def tot (f : Nat → Nat) (n : Nat) : Nat := ((List.range n).map f).sum

theorem tot_succ (f : Nat → Nat) (n : Nat) : tot f (n + 1) = tot f n + f n := by
  simp [tot, List.range_succ]

theorem tot_congr (f f' : Nat → Nat) (n : Nat) (h : ∀ i, i < n → f' i = f i) : tot f' n = tot f n := by
  unfold tot; rw [List.map_congr_left fun i hi => h i (List.mem_range.1 hi)]

theorem tot_update (f f' : Nat → Nat) (n a : Nat) (ha : a < n) (h : ∀ i, i ≠ a → f' i = f i) :
    tot f' n + f a = tot f n + f' a := by
  induction n with
  | zero => omega
  | succ n ih =>
    rw [tot_succ, tot_succ]
    by_cases han : a = n
    · subst han
      rw [tot_congr f f' a fun i hi => h i (by omega)]; omega
    · have := ih (by omega)
      have := h n (Ne.symm han)
      omega

/-- potential of the collective activation of node `a`: 4 for every rank to which no message has been sent yet (any
    constant not below the largest weight, 3, would do), and the weight of every message in flight -/
def cpot (cf : Conf) (coll : List (Nat × RemoteDep.St)) (X : List (Nat × Msg)) (a : Nat) : Nat :=
  match look coll a with
  | none => 4 * cf.nranks
  | some st => 4 * (cf.nranks - (st.inflight.length + st.log.length)) + wsum X a st.inflight

/-- `recvAct … false` lowers the weight of its message from 3 to 1 and adds an entry to `xfer`; `recvData` takes the
    entry away and completes the message.  The summand `s.xfer.length` also pays for a `recvData` whose message is not
    in flight, where only `xfer` shrinks: `DInv` has no clause that excludes it. -/
def dmu (g : DGraph) (cf : Conf) (s : DSt) : Nat := mu s.core + s.xfer.length + tot (cpot cf s.coll s.xfer) g.n

section
variable {g : DGraph} {cf : Conf} {F : Nat → List (Option Nat) → Nat} {again : List Nat}

theorem cpot_of_look {coll : List (Nat × RemoteDep.St)} {a : Nat} {st : RemoteDep.St} (h : look coll a = some st)
    (X : List (Nat × Msg)) :
    cpot cf coll X a = 4 * (cf.nranks - (st.inflight.length + st.log.length)) + wsum X a st.inflight := by
  unfold cpot; rw [h]

theorem cpot_cons_ne {a i : Nat} (st : RemoteDep.St) (coll : List (Nat × RemoteDep.St)) (X : List (Nat × Msg))
    (h : a ≠ i) : cpot cf ((a, st) :: coll) X i = cpot cf coll X i := by
  unfold cpot; rw [look_cons_ne st coll h]

theorem cpot_congr_xfer (coll : List (Nat × RemoteDep.St)) (X X' : List (Nat × Msg)) (i : Nat)
    (h : ∀ st, look coll i = some st → ∀ m ∈ st.inflight, wt X' i m = wt X i m) :
    cpot cf coll X' i = cpot cf coll X i := by
  unfold cpot
  cases hl : look coll i with
  | none => rfl
  | some st => simp only; rw [wsum_congr X X' i st.inflight (h st hl)]

theorem tot_cpot_cons {a : Nat} (ha : a < g.n) (st : RemoteDep.St) (coll : List (Nat × RemoteDep.St))
    (X : List (Nat × Msg)) :
    tot (cpot cf ((a, st) :: coll) X) g.n + cpot cf coll X a = tot (cpot cf coll X) g.n + cpot cf ((a, st) :: coll) X a :=
  tot_update _ _ _ _ ha fun _ hi => cpot_cons_ne _ _ _ (Ne.symm hi)

theorem cpot_init {coll : List (Nat × RemoteDep.St)} {i : Nat} (c : Cfg) (hn : look coll i = none)
    (hb : c.init.inflight.length + c.init.log.length ≤ cf.nranks) (X : List (Nat × Msg)) :
    cpot cf ((i, c.init) :: coll) X i ≤ cpot cf coll X i := by
  rw [cpot_of_look (look_cons_self _ _ _), show cpot cf coll X i = 4 * cf.nranks by unfold cpot; rw [hn]]
  have := wsum_le X i c.init.inflight
  omega

/-- the message leaves, and each message the receiver forwards goes from 4 (not yet sent) to at most 3 -/
theorem cpot_deliver {coll : List (Nat × RemoteDep.St)} {a : Nat} {st : RemoteDep.St} {m : Msg} (c : Cfg)
    (hl : look coll a = some st) (hm : m ∈ st.inflight)
    (hb : (c.deliver st m).inflight.length + (c.deliver st m).log.length ≤ cf.nranks) (X : List (Nat × Msg)) :
    cpot cf ((a, c.deliver st m) :: coll) X a + wt X a m ≤ cpot cf coll X a := by
  rw [cpot_of_look hl, cpot_of_look (look_cons_self _ _ _), wsum_erase X a m st.inflight hm]
  rw [c.deliver_of_mem hm] at hb ⊢
  simp only [List.length_append, List.length_cons, List.length_erase_of_mem hm, wsum_append] at hb ⊢
  have := wsum_le X a (c.msgs m.dst)
  have := List.length_pos_of_mem hm
  omega

theorem dmu_complete (hwf : g.WF) (hcf : cf.WF g) {s : DSt} (h : DInv g cf F again s) (a : Nat) (m : Msg) :
    dmu g cf (complete g cf F s a m) + (if m ∈ inflightOf s a then wt s.xfer a m else 0) ≤ dmu g cf s := by
  by_cases hin : m ∈ inflightOf s a
  case neg => rw [complete_of_not_mem hin, if_neg hin]; exact Nat.le_refl _
  obtain ⟨st, hl, hm⟩ := mem_inflightOf.1 hin
  obtain ⟨hcw, hC⟩ := h.coll_inv hwf hcf hl
  have hloc := cpot_deliver (cf := cf) (cfgOf g cf a) hl hm
    (Nat.le_of_lt ((inv_deliver hcw (topo_tree cf.topo) st m hC).length_lt hcw)) s.xfer
  have hmu := (relFold_frame (F := F) (graph_WF g hwf) a (releasedBy g cf a m) (h.ginv hwf)).2
  have hpot := tot_cpot_cons (cf := cf) ((h.ginv hwf).lt (h.act a st hl).1) ((cfgOf g cf a).deliver st m) s.coll s.xfer
  rw [complete_of_mem hl hm, if_pos hin]
  unfold dmu
  simp only
  omega

theorem dmu_xfer (hwf : g.WF) (hcf : cf.WF g) {s : DSt} (h : DInv g cf F again s) (X' : List (Nat × Msg))
    {a : Nat} {m : Msg} (hX : ∀ i m', (i, m') ≠ (a, m) → wt X' i m' = wt s.xfer i m') :
    dmu g cf { s with xfer := X' } + s.xfer.length + (if m ∈ inflightOf s a then wt s.xfer a m else 0) =
      dmu g cf s + X'.length + if m ∈ inflightOf s a then wt X' a m else 0 := by
  unfold dmu
  simp only
  by_cases hin : m ∈ inflightOf s a
  case neg =>
    rw [if_neg hin, if_neg hin, tot_congr (cpot cf s.coll s.xfer) (cpot cf s.coll X') g.n fun i _ =>
      cpot_congr_xfer _ _ _ _ fun st' hl' m' hm' => hX i m' fun e => by
        cases e; exact hin (mem_inflightOf.2 ⟨st', hl', hm'⟩)]
    omega
  obtain ⟨st, hl, hm⟩ := mem_inflightOf.1 hin
  have ha : a < g.n := (h.ginv hwf).lt (h.act a st hl).1
  have hnd := (inflight_facts (h.coll_inv hwf hcf hl).2).1
  have hpot := tot_update (cpot cf s.coll s.xfer) (cpot cf s.coll X') g.n a ha fun i hi =>
    cpot_congr_xfer _ _ _ _ fun _ _ m' _ => hX i m' fun e => hi (congrArg Prod.fst e)
  rw [cpot_of_look hl, cpot_of_look hl, wsum_erase _ a m _ hm, wsum_erase X' a m _ hm,
    wsum_congr s.xfer X' a (st.inflight.erase m) fun m' hm' => hX a m' fun e => by
      cases e; exact List.Nodup.not_mem_erase hnd hm'] at hpot
  rw [if_pos hin, if_pos hin]
  omega

theorem dmu_core {s : DSt} (c' : Dataflow.St) (h : mu c' < mu s.core) :
    dmu g cf { s with core := c' } < dmu g cf s := by
  unfold dmu; simp only; omega

theorem dstep_decreases (hwf : g.WF) (hcf : cf.WF g) {s : DSt} (h : DInv g cf F again s) (t : DTr)
    (hen : denabled cf s t = true) : dmu g cf (dstep g cf F s t) < dmu g cf s := by
  unfold dstep
  rw [if_neg (by simp [hen])]
  cases t with
  | start i => exact dmu_core _ (step_mu_lt (graph_WF g hwf) (h.ginv hwf) hen)
  | again i => exact dmu_core _ (step_mu_lt (graph_WF g hwf) (h.ginv hwf) hen)
  | releaseLocal a b => exact dmu_core _ (step_mu_lt (graph_WF g hwf) (h.ginv hwf) (denabled_iff.1 hen).1)
  | finish i =>
    obtain ⟨hst, hnone, e1⟩ := finish_facts hwf h hen
    have hmu := step_mu_lt (F := F) (t := .finish i) (graph_WF g hwf) (h.ginv hwf) hen
    have hi : i < g.n := (h.ginv hwf).lt hst
    have hcw := cfgOf_WF hwf hcf i hi
    have hloc := cpot_init (cf := cf) (cfgOf g cf i) hnone
      (Nat.le_of_lt ((inv_init hcw (topo_tree cf.topo)).length_lt hcw)) s.xfer
    have hpot := tot_cpot_cons (cf := cf) hi (cfgOf g cf i).init s.coll s.xfer
    rw [e1] at hmu
    unfold dmu
    simp only at hmu ⊢
    omega
  | recvAct a m eager =>
    obtain ⟨hin, hnx, _⟩ := denabled_iff.1 hen
    cases eager with
    | true =>
      show dmu g cf (complete g cf F s a m) < _
      have := dmu_complete (F := F) hwf hcf h a m
      rw [if_pos hin] at this
      have := (wt_le s.xfer a m).1
      omega
    | false =>
      have := dmu_xfer hwf hcf h ((a, m) :: s.xfer) (a := a) (m := m) fun i m' hne => by
        unfold wt; rw [List.contains_cons, beq_false_of_ne hne, Bool.false_or]
      rw [if_pos hin, if_pos hin, show wt ((a, m) :: s.xfer) a m = 1 by unfold wt; simp,
        show wt s.xfer a m = 3 by simp [wt, hnx], List.length_cons] at this
      show dmu g cf { s with xfer := (a, m) :: s.xfer } < _
      omega
  | recvData a m =>
    show dmu g cf (complete g cf F { s with xfer := s.xfer.erase (a, m) } a m) < _
    have hx : (a, m) ∈ s.xfer := denabled_iff.1 hen
    have hlen := List.length_erase_of_mem hx
    have := List.length_pos_of_mem hx
    -- the entry leaves `xfer`; the weight the message regains (if it is in flight) is paid back by its completion
    have hc : _ + (if m ∈ inflightOf s a then wt (s.xfer.erase (a, m)) a m else 0) ≤ _ :=
      dmu_complete (F := F) hwf hcf (dinv_xfer h (s.xfer.erase (a, m))) a m
    have := dmu_xfer hwf hcf h (s.xfer.erase (a, m)) (a := a) (m := m) fun i m' hne => by
      simp only [wt, List.contains_iff_mem, List.mem_erase_of_ne hne]
    omega

end
end ParsecVerif.DistRt
