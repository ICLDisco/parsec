import ParsecVerif.Model.Dtd
/-! Lemmas about the definitions of `Model/Dtd.lean`. -/
namespace ParsecVerif.Dtd

@[simp] theorem upd_same (s : Store) (d v : Nat) : upd s d v d = v := by simp [upd]
theorem upd_other (s : Store) (d v x : Nat) (h : x ≠ d) : upd s d v x = s x := by simp [upd, h]

theorem writeArgs_eq (f : Nat → Nat) (as : List (Nat × Mode)) (j : Nat) (s s' : Store) (d : Nat) :
    writeArgs f as j s d = if as.any (fun a => a.1 == d && a.2.writes) then writeArgs f as j s' d else s d := by
  induction as generalizing j s s' with
  | nil => rfl
  | cons a as ih =>
    -- if a later parameter writes `d` the two sides agree by induction; otherwise the first parameter decides
    rw [writeArgs, writeArgs, List.any_cons, ih _ _ (if a.2.writes then upd s' a.1 (f j) else s')]
    cases hrest : as.any (fun a => a.1 == d && a.2.writes) with
    | true => simp
    | false =>
      rw [ih _ (if a.2.writes then upd s' a.1 (f j) else s') s', hrest]
      by_cases hd : a.1 = d <;> cases hw : a.2.writes <;> simp [hd, upd, eq_comm (a := d)]

theorem exec_not_written (t : Task) (ins : List Nat) (s : Store) (d : Nat)
    (h : writesD t d = false) : exec t ins s d = s d :=
  (writeArgs_eq _ _ _ s s d).trans (if_neg (by rw [← writesD, h]; exact Bool.false_ne_true))

theorem exec_written (t : Task) (ins : List Nat) (s s' : Store) (d : Nat)
    (h : writesD t d = true) : exec t ins s d = exec t ins s' d :=
  (writeArgs_eq _ _ _ s s' d).trans (if_pos h)

theorem writesD_usesD (t : Task) (d : Nat) (h : writesD t d = true) : usesD t d = true := by
  obtain ⟨a, ha, h2⟩ := List.any_eq_true.1 h
  exact List.any_eq_true.2 ⟨a, ha, (Bool.and_eq_true_iff.1 h2).1⟩

theorem mem_readArgs_usesD (t : Task) (d : Nat) (h : d ∈ readArgs t) : usesD t d = true := by
  obtain ⟨a, ha, rfl⟩ := List.mem_map.1 h
  exact List.any_eq_true.2 ⟨a, (List.mem_filter.1 ha).1, beq_self_eq_true _⟩

theorem readsOf_congr (t : Task) (s s' : Store) (h : ∀ d, d ∈ readArgs t → s d = s' d) :
    readsOf t s = readsOf t s' :=
  List.map_congr_left h

theorem writesAt_usesAt (p : Prog) (u d : Nat) (h : writesAt p u d = true) : usesAt p u d = true := by
  simp only [writesAt, usesAt] at *
  cases hp : p[u]? with
  | none => simp [hp] at h
  | some t => simp only [hp] at h ⊢; exact writesD_usesD t d h

theorem usesAt_of_get (p : Prog) (n : Nat) (tk : Task) (h : p[n]? = some tk) (d : Nat) :
    usesAt p n d = usesD tk d := by simp [usesAt, h]
theorem writesAt_of_get (p : Prog) (n : Nat) (tk : Task) (h : p[n]? = some tk) (d : Nat) :
    writesAt p n d = writesD tk d := by simp [writesAt, h]

theorem conflict_iff (p : Prog) (u t d : Nat) :
    conflict p u t d = true ↔ usesAt p u d = true ∧ usesAt p t d = true ∧ (writesAt p u d = true ∨ writesAt p t d = true) := by
  simp only [conflict, Bool.and_eq_true, Bool.or_eq_true, and_assoc]

theorem conflict_comm (p : Prog) (t u d : Nat) : conflict p t u d = conflict p u t d := by
  rw [conflict, conflict, Bool.and_comm (usesAt p t d), Bool.or_comm (writesAt p t d)]

theorem conflict_left {p : Prog} {w u d : Nat} (hw : writesAt p w d = true) (hu : usesAt p u d = true) :
    conflict p w u d = true := (conflict_iff p w u d).2 ⟨writesAt_usesAt p w d hw, hu, Or.inl hw⟩

theorem conflict_right {p : Prog} {u w d : Nat} (hu : usesAt p u d = true) (hw : writesAt p w d = true) :
    conflict p u w d = true := (conflict_iff p u w d).2 ⟨hu, writesAt_usesAt p w d hw, Or.inr hw⟩

theorem prevWriter_ge (p : Prog) (t d u : Nat) (hu : u < t) (hw : writesAt p u d = true) :
    ∃ w, prevWriter p t d = some w ∧ u ≤ w ∧ writesAt p w d = true := by
  induction t with
  | zero => exact absurd hu (Nat.not_lt_zero u)
  | succ t ih =>
    rw [prevWriter]
    split
    · next hwt => exact ⟨t, rfl, Nat.le_of_lt_succ hu, hwt⟩
    · next hwt => exact ih (Nat.lt_of_le_of_ne (Nat.le_of_lt_succ hu) fun e => hwt (e ▸ hw))

theorem prevWriter_none (p : Prog) (t d : Nat) (h : prevWriter p t d = none) (u : Nat) (hu : u < t) :
    writesAt p u d = false :=
  Bool.eq_false_iff.2 fun hw => by
    obtain ⟨w, e, _⟩ := prevWriter_ge p t d u hu hw
    cases h.symm.trans e

theorem prevWriter_some (p : Prog) (t d w : Nat) (h : prevWriter p t d = some w) :
    w < t ∧ writesAt p w d = true ∧ ∀ u, w < u → u < t → writesAt p u d = false := by
  have h12 : w < t ∧ writesAt p w d = true := by
    induction t with
    | zero => cases h
    | succ t ih =>
      rw [prevWriter] at h
      split at h
      · next hw => cases h; exact ⟨Nat.lt_succ_self _, hw⟩
      · exact (ih h).imp_left Nat.lt_succ_of_lt
  refine ⟨h12.1, h12.2, fun u h1 h2 => Bool.eq_false_iff.2 fun hw => ?_⟩
  obtain ⟨w', e, hle, _⟩ := prevWriter_ge p t d u h2 hw
  cases h.symm.trans e
  exact Nat.lt_irrefl _ (Nat.lt_of_lt_of_le h1 hle)

theorem eq_of_no_change {α} (f : Nat → α) (c : Nat → Bool) (hs : ∀ n, c n = false → f (n + 1) = f n) {k m : Nat}
    (hkm : k ≤ m) (h : ∀ u, k ≤ u → u < m → c u = false) : f m = f k := by
  induction hkm with
  | refl => rfl
  | step hle ih => exact (hs _ (h _ hle (Nat.lt_succ_self _))).trans (ih fun u h1 h2 => h u h1 (Nat.lt_succ_of_lt h2))

theorem prevWriter_eq_of_no_writer (p : Prog) (d u t : Nat) (hut : u ≤ t)
    (h : ∀ x, u ≤ x → x < t → writesAt p x d = false) : prevWriter p t d = prevWriter p u d :=
  eq_of_no_change (prevWriter p · d) (writesAt p · d) (fun n hn => by simp only [prevWriter, hn]; rfl) hut h

theorem seqStore_succ_not_writer (p : Prog) (k d : Nat) (h : writesAt p k d = false) :
    seqStore p (k + 1) d = seqStore p k d := by
  simp only [seqStore]
  cases hp : p[k]? with
  | none => rfl
  | some t =>
    simp only [writesAt, hp] at h
    exact exec_not_written _ _ _ _ h

theorem seqStore_const (p : Prog) (d k m : Nat) (hkm : k ≤ m)
    (h : ∀ u, k ≤ u → u < m → writesAt p u d = false) : seqStore p m d = seqStore p k d :=
  eq_of_no_change (seqStore p · d) (writesAt p · d) (fun n => seqStore_succ_not_writer p n d) hkm h

theorem mem_dedup (l : List Nat) (x : Nat) : x ∈ dedup l ↔ x ∈ l := by
  induction l with
  | nil => simp [dedup]
  | cons y ys ih => by_cases hxy : x = y <;> simp [dedup, ih, hxy]

theorem mem_dataOf (t : Task) (d : Nat) : d ∈ dataOf t ↔ usesD t d = true := by
  simp only [dataOf, mem_dedup, usesD, List.mem_map, List.any_eq_true, beq_iff_eq]

theorem countP_sub_add {α} (l : List α) (P P' Q N : α → Bool)
    (h : ∀ a, a ∈ l → (P' a = ((P a && !Q a) || N a)) ∧ (Q a = true → P a = true) ∧ (N a = true → P a = false)) :
    l.countP P' = l.countP P - l.countP Q + l.countP N := by
  have hle := List.countP_mono_left (l := l) fun a ha => (h a ha).2.1
  suffices l.countP P' + l.countP Q = l.countP P + l.countP N by omega
  clear hle
  induction l with
  | nil => rfl
  | cons a l ih =>
    have ih' := ih (fun b hb => h b (List.mem_cons_of_mem _ hb))
    obtain ⟨h1, h2, h3⟩ := h a List.mem_cons_self
    simp only [List.countP_cons, h1]
    cases hQ : Q a with
    | true =>
      have hN : N a = false := Bool.eq_false_iff.2 fun hN => by rw [h3 hN] at h2; exact absurd (h2 hQ) nofun
      simp [h2 hQ, hN]; omega
    | false =>
      cases hN : N a with
      | true => simp [h3 hN]; omega
      | false => simp; omega

theorem mem_newAccs (s : St) (n : Nat) (tk : Task) (a : Acc) :
    a ∈ newAccs s n tk ↔ ∃ d, usesD tk d = true ∧ a = mkAcc s n tk d := by
  simp only [newAccs, List.mem_map, mem_dataOf, eq_comm]

theorem walk_eq (t : Nat) (a : Acc) : walk t a = { a with act := a.act || a.parent == some t } := by
  unfold walk; split <;> simp [*]

theorem enabled_start {p : Prog} {nw : Nat} {s : St} {t : Nat} :
    enabled p nw s (.start t) = true ↔
      isWaiting s t = true ∧ ready s t = true ∧ blocked s t = false ∧ runningCount s < nw := by
  simp only [enabled, Bool.and_eq_true, Bool.not_eq_true', decide_eq_true_eq, and_assoc]

theorem run_append (p : Prog) (s : St) (ms ms' : List Move) : run p s (ms ++ ms') = run p (run p s ms) ms' := by
  simp [run, List.foldl_append]

theorem validFrom_append (p : Prog) (nw : Nat) (s : St) (ms ms' : List Move) :
    ValidFrom p nw s (ms ++ ms') ↔ ValidFrom p nw s ms ∧ ValidFrom p nw (run p s ms) ms' := by
  induction ms generalizing s with
  | nil => simp [ValidFrom, run]
  | cons m ms ih =>
    simp only [List.cons_append, ValidFrom, ih, run, List.foldl_cons, and_assoc]

theorem firstBad_none (p : Prog) (nw : Nat) (s : St) (ms : List Move) (i : Nat)
    (h : firstBad p nw s ms i = none) : ValidFrom p nw s ms := by
  induction ms generalizing s i with
  | nil => trivial
  | cons m ms ih =>
    simp only [firstBad] at h
    split at h
    · next he => exact ⟨he, ih _ _ h⟩
    · cases h

end ParsecVerif.Dtd
