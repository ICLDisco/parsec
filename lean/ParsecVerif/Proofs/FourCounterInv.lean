import ParsecVerif.Proofs.FourCounterBase
/-
  The inductive invariant of the four-counter protocol model: `Struct`, the shape of the wave protocol on every
  tree edge (`edgeOK`), the bookkeeping of nb_child_left, where the contributions to the wave in progress sit and
  what the root remembers; `Hist`, Mattern's counting argument as state invariants over the history variables;
  `Fin`, what holds once the root has declared termination.
-/
namespace ParsecVerif.FourCounter

/-- the phase of a monitor, busy or idle forgotten: 0 NOT_READY, 1 WAITING_FOR_CHILDREN (it collects),
    2 WAITING_FOR_PARENT, 3 TERMINATED -/
def cls : St → Nat
  | .notReady => 0 | .busyWC => 1 | .idleWC => 1 | .busyWP => 2 | .idleWP => 2 | .term => 3

def U (s : State) (q : Nat) : Nat := cnt (isUpFrom q) s.net
def D (s : State) (q : Nat) (r : Bool) : Nat := cnt (isDownTo q r) s.net

/-- the legal configurations of the edge between a non-root process (class `a`, contributed `c`,
    `u` UP messages from it, `d0`/`d1` DOWN(false)/DOWN(true) messages to it) and its parent
    (class `b`, contributed `d`) -/
def edgeOK (a b c d u d0 d1 : Nat) : Prop :=
  (a ≤ 1 ∧ c = 0 ∧ u = 0 ∧ d0 = 0 ∧ d1 = 0 ∧ b ≤ 1 ∧ d = 0) ∨
  (a = 2 ∧ c = 1 ∧ u = 1 ∧ d0 = 0 ∧ d1 = 0 ∧ b ≤ 1 ∧ d = 0) ∨
  (a = 2 ∧ c = 1 ∧ u = 0 ∧ d0 = 0 ∧ d1 = 0 ∧ ((b = 1 ∧ d = 0) ∨ (b = 2 ∧ d = 1))) ∨
  (a = 2 ∧ c = 0 ∧ u = 0 ∧ d0 = 1 ∧ d1 = 0 ∧ b = 1 ∧ d = 0) ∨
  (a = 2 ∧ c = 0 ∧ u = 0 ∧ d0 = 0 ∧ d1 = 1 ∧ b = 3) ∨
  (a = 2 ∧ c = 0 ∧ u = 0 ∧ d0 = 0 ∧ d1 = 0 ∧ b = 2 ∧ d = 0) ∨
  (a = 3 ∧ c = 0 ∧ u = 0 ∧ d0 = 0 ∧ d1 = 0 ∧ b = 3)

def Edge (s : State) (q : Nat) : Prop :=
  edgeOK (cls (s.procs q).st) (cls (s.procs (parent q)).st) (b2n (s.gh q).c) (b2n (s.gh (parent q)).c)
    (U s q) (D s q false) (D s q true)

def PkOK (s : State) (k : Packet) : Prop :=
  match k.kind with
  | .up a b => 0 < k.src ∧ k.src < s.n ∧ k.dst = parent k.src ∧
               a = (s.procs k.src).accS ∧ b = (s.procs k.src).accR
  | .down _ => 0 < k.dst ∧ k.dst < s.n ∧ k.src = parent k.dst
  | .app => True

/-- child `q` still owes its contribution to the collection of its parent -/
def pend (s : State) (q : Nat) : Nat :=
  if q < s.n ∧ ¬ (cls (s.procs q).st = 2 ∧ b2n (s.gh q).c = 1 ∧ U s q = 0) then 1 else 0

/-- the accumulators of `q` count in `Struct.fS`, `fR`: it collects, or the UP message that carries them is
    still in flight (once it is absorbed they are part of the parent's) -/
def live (s : State) (q : Nat) : Prop := cls (s.procs q).st ≤ 1 ∨ (cls (s.procs q).st = 2 ∧ U s q ≠ 0)
instance (s : State) (q : Nat) : Decidable (live s q) := by unfold live; exact inferInstance

def contribS (s : State) (q : Nat) : Nat := if live s q then (s.procs q).accS else 0
def contribR (s : State) (q : Nat) : Nat := if live s q then (s.procs q).accR else 0

/-- the sample the process gave to the last completed wave, whose total the root keeps in last_acc_*_at_root:
    `prev` once it has contributed to the wave in progress, `cur` before -/
def sKS (g : PGhost) : Nat := if g.c then g.prevS else g.curS
def sKR (g : PGhost) : Nat := if g.c then g.prevR else g.curR

structure Struct (s : State) : Prop where
  pk : ∀ k, k ∈ s.net → PkOK s k
  edge : ∀ q, 0 < q → q < s.n → Edge s q
  root : cls (s.procs 0).st ≠ 2 ∧ (s.gh 0).c = false
  -- nb_child_left of a collecting process counts the children that still owe (`pend`); send_up_messages resets it
  ncl1 : ∀ r, r < s.n → cls (s.procs r).st = 1 →
          (s.procs r).ncl = ((pend s (2 * r + 1) + pend s (2 * r + 2) : Nat) : Int)
  ncl2 : ∀ r, r < s.n → cls (s.procs r).st = 2 → (s.procs r).ncl = ((nbChildren s.n r : Nat) : Int)
  tr : ∀ q, q < s.n → cls (s.procs q).st = 3 → cls (s.procs 0).st = 3
  -- the live accumulators hold what has been contributed to the wave in progress
  fS : sumTo s.n (contribS s) = sumTo s.n (fun q => if (s.gh q).c then (s.gh q).curS else 0)
  fR : sumTo s.n (contribR s) = sumTo s.n (fun q => if (s.gh q).c then (s.gh q).curR else 0)
  -- last_acc_*_at_root is the total of the last completed wave, or still the initial -1
  lastT : s.started = true →
            (s.procs 0).lastS = ((sumTo s.n (fun q => sKS (s.gh q)) : Nat) : Int) ∧
            (s.procs 0).lastR = ((sumTo s.n (fun q => sKR (s.gh q)) : Nat) : Int)
  lastF : s.started = false → (s.procs 0).lastS = -1 ∧ (s.procs 0).lastR = -1

def Quiet (s : State) : Prop :=
  (∀ q, q < s.n → (s.procs q).wl = 0 ∧ (s.procs q).opn = 0 ∧
      (s.procs q).ms = (s.gh q).midS ∧ (s.procs q).mr = (s.gh q).midR) ∧ cnt isApp s.net = 0

structure Hist (s : State) : Prop where
  -- per process: sample given to the last completed wave ≤ counter at the latest decision ≤ sample given to the
  -- wave in progress (the counter itself, while it has not contributed); with `h2`, the premises of `sumTo_squeeze`
  h1S : ∀ q, q < s.n → sKS (s.gh q) ≤ (s.gh q).midS ∧
          (s.gh q).midS ≤ (if (s.gh q).c then (s.gh q).curS else (s.procs q).ms) ∧
          (s.gh q).curS ≤ (s.procs q).ms
  h1R : ∀ q, q < s.n → sKR (s.gh q) ≤ (s.gh q).midR ∧
          (s.gh q).midR ≤ (if (s.gh q).c then (s.gh q).curR else (s.procs q).mr) ∧
          (s.gh q).curR ≤ (s.procs q).mr
  h2 : sumTo s.n (fun q => (s.gh q).midS) = sumTo s.n (fun q => (s.gh q).midR) + s.trT
  -- a process with work at the latest decision got it from a message: one it has received since the sample it gave
  -- to the wave completed then, or one in transit at that instant
  h3 : s.started = true → ∀ q, q < s.n → (s.gh q).actT = true →
          sKR (s.gh q) < (s.gh q).midR ∨ 0 < s.trT
  h4 : s.started = true → s.trT = 0 → (∀ q, q < s.n → (s.gh q).actT = false) → Quiet s
  -- a process samples without work, and gets work again only with a message (`mayWork`); this is `h3` at the next decision
  h5 : ∀ q, q < s.n → ((s.gh q).c = true ∨ s.started = true) → 0 < (s.procs q).wl →
          (s.gh q).curR < (s.procs q).mr ∨ 0 < (s.procs q).opn
  h6 : sumTo s.n (fun q => (s.procs q).ms) = sumTo s.n (fun q => (s.procs q).mr) + transit s
  -- a process samples idle; one that is busy again while it waits for its parent has work, or a message woke it
  -- (being processed, or received since the sample).  Excludes `busyWP` after a positive comparison (`decision_quiet`)
  h8 : ∀ q, q < s.n → (s.procs q).st = .busyWP →
          0 < (s.procs q).wl ∨ 0 < (s.procs q).opn ∨ (s.gh q).curR < (s.procs q).mr
  -- a process does not send to itself; the root of a one-process run declares termination without comparing
  s1 : s.n ≤ 1 → transit s = 0
  -- a decision needs the contribution of every process, so all are ready; asked for because `mayWork` lets a
  -- NOT_READY process acquire work
  nr : s.started = true → ∀ q, q < s.n → cls (s.procs q).st ≠ 0

structure Fin (s : State) : Prop where
  q : (s.procs 0).st = .term →
        (∀ q, q < s.n → (s.procs q).wl = 0 ∧ (s.procs q).opn = 0 ∧
            ((s.procs q).st = .idleWP ∨ (s.procs q).st = .term)) ∧ cnt isApp s.net = 0
  cb : ∀ q, q < s.n → (s.procs q).cbs = if (s.procs q).st = .term then 1 else 0

structure Inv (s : State) : Prop where
  st : Struct s
  hi : Hist s
  fi : Fin s

/-- two monitors that agree on what the control protocol reads -/
abbrev ctlEq (v w : Proc) : Prop :=
  cls v.st = cls w.st ∧ v.ncl = w.ncl ∧ v.accS = w.accS ∧ v.accR = w.accR ∧ v.lastS = w.lastS ∧ v.lastR = w.lastR

/-- two monitors that agree on what the application drives -/
abbrev appEq (v w : Proc) : Prop := v.ms = w.ms ∧ v.mr = w.mr ∧ v.wl = w.wl ∧ v.opn = w.opn

/-- two ghosts that agree on what the latest root decision recorded -/
abbrev ghEq (g g' : PGhost) : Prop :=
  sKS g = sKS g' ∧ sKR g = sKR g' ∧ g.midS = g'.midS ∧ g.midR = g'.midR ∧ g.actT = g'.actT

section
variable {a b c d u d0 d1 : Nat}

macro "edge_tac" h:ident : tactic => `(tactic| (
  unfold edgeOK at *
  rcases $h:ident with h|h|h|h|h|h|h <;>
  first
  | (exfalso; omega)
  | (refine Or.inl ?_; omega)
  | (refine Or.inr (Or.inl ?_); omega)
  | (refine Or.inr (Or.inr (Or.inl ?_)); omega)
  | (refine Or.inr (Or.inr (Or.inr (Or.inl ?_))); omega)
  | (refine Or.inr (Or.inr (Or.inr (Or.inr (Or.inl ?_)))); omega)
  | (refine Or.inr (Or.inr (Or.inr (Or.inr (Or.inr (Or.inl ?_))))); omega)
  | (refine Or.inr (Or.inr (Or.inr (Or.inr (Or.inr (Or.inr ?_))))); omega)))

macro "edge_hyp" h:ident : tactic => `(tactic| (
  unfold edgeOK at *
  rcases $h:ident with h|h|h|h|h|h|h <;> omega))

theorem edgeOK.collecting (ha : a ≤ 1) (hb : b ≤ 1) : edgeOK a b 0 0 0 0 0 :=
  Or.inl ⟨ha, rfl, rfl, rfl, rfl, hb, rfl⟩
theorem edgeOK.sent (hb : b ≤ 1) : edgeOK 2 b 1 0 1 0 0 :=
  Or.inr (Or.inl ⟨rfl, rfl, rfl, rfl, rfl, hb, rfl⟩)
theorem edgeOK.heard (h : (b = 1 ∧ d = 0) ∨ (b = 2 ∧ d = 1)) : edgeOK 2 b 1 d 0 0 0 :=
  Or.inr (Or.inr (Or.inl ⟨rfl, rfl, rfl, rfl, rfl, h⟩))
theorem edgeOK.again : edgeOK 2 1 0 0 0 1 0 :=
  Or.inr (Or.inr (Or.inr (Or.inl ⟨rfl, rfl, rfl, rfl, rfl, rfl, rfl⟩)))
theorem edgeOK.stop : edgeOK 2 3 0 d 0 0 1 :=
  Or.inr (Or.inr (Or.inr (Or.inr (Or.inl ⟨rfl, rfl, rfl, rfl, rfl, rfl⟩))))
theorem edgeOK.reset : edgeOK 2 2 0 0 0 0 0 :=
  Or.inr (Or.inr (Or.inr (Or.inr (Or.inr (Or.inl ⟨rfl, rfl, rfl, rfl, rfl, rfl, rfl⟩)))))
theorem edgeOK.done : edgeOK 3 3 0 d 0 0 0 :=
  Or.inr (Or.inr (Or.inr (Or.inr (Or.inr (Or.inr ⟨rfl, rfl, rfl, rfl, rfl, rfl⟩)))))

/- What one known component of a legal configuration forces on the others.  In the names, `wfc` and `wfp` are the
   classes waiting for children (≤ 1) and waiting for parent (2), `nr` is not ready, `c` / `nc` has / has not
   contributed. -/
theorem edge_wfc (h : edgeOK a b c d u d0 d1) (ha : a ≤ 1) :
    c = 0 ∧ u = 0 ∧ d0 = 0 ∧ d1 = 0 ∧ b ≤ 1 ∧ d = 0 := by
  unfold edgeOK at h; omega
theorem edge_up (h : edgeOK a b c d (u + 1) d0 d1) :
    a = 2 ∧ c = 1 ∧ u = 0 ∧ d0 = 0 ∧ d1 = 0 ∧ b ≤ 1 ∧ d = 0 := by
  unfold edgeOK at h; omega
theorem edge_downF (h : edgeOK a b c d u (d0 + 1) d1) :
    a = 2 ∧ c = 0 ∧ u = 0 ∧ d0 = 0 ∧ d1 = 0 ∧ b = 1 ∧ d = 0 := by
  unfold edgeOK at h; omega
theorem edge_downT (h : edgeOK a b c d u d0 (d1 + 1)) :
    a = 2 ∧ c = 0 ∧ u = 0 ∧ d0 = 0 ∧ d1 = 0 ∧ b = 3 := by
  unfold edgeOK at h; omega
theorem edge_notpend (h : edgeOK 2 b 1 d 0 d0 d1) : d0 = 0 ∧ d1 = 0 ∧ ((b = 1 ∧ d = 0) ∨ (b = 2 ∧ d = 1)) := by
  unfold edgeOK at h; omega
theorem edge_contributed (h : edgeOK a b 1 d u d0 d1) : a = 2 ∧ (b ≤ 1 ∨ b = 2 ∧ d = 1) := by
  unfold edgeOK at h; omega
theorem edge_quiet (h : edgeOK a 1 c d 0 0 0) : a ≤ 1 ∨ a = 2 ∧ c = 1 := by
  unfold edgeOK at h; omega
theorem edge_parent_nr (h : edgeOK a 0 c d u d0 d1) :
    d0 = 0 ∧ d1 = 0 ∧ d = 0 ∧ ((a ≤ 1 ∧ c = 0 ∧ u = 0) ∨ (a = 2 ∧ c = 1 ∧ u = 1)) := by
  unfold edgeOK at h; omega
theorem edge_parent_wfp_c (h : edgeOK a 2 c 1 u d0 d1) : a = 2 ∧ c = 1 ∧ u = 0 ∧ d0 = 0 ∧ d1 = 0 := by
  unfold edgeOK at h; omega
theorem edge_parent_wfp_nc (h : edgeOK a 2 c 0 u d0 d1) : a = 2 ∧ c = 0 ∧ u = 0 ∧ d0 = 0 ∧ d1 = 0 := by
  unfold edgeOK at h; omega
theorem edge_parent_term (h : edgeOK a 3 c d u d0 d1) : (a = 2 ∨ a = 3) ∧ c = 0 ∧ u = 0 ∧ d0 = 0 := by
  unfold edgeOK at h; omega
/-- below a terminated parent, the DOWN(true) message (`d1`) is what separates the child from termination -/
theorem edge_term (h : edgeOK a 3 c d u d0 d1) : a + d1 = 3 := by
  unfold edgeOK at h; omega
theorem edge_term_up (h : edgeOK 3 b c d u d0 d1) : b = 3 := by
  unfold edgeOK at h; omega

theorem edge_ready_self (h : edgeOK 0 b c d u d0 d1) : edgeOK 1 b c d u d0 d1 := by
  obtain ⟨rfl, rfl, rfl, rfl, hb, rfl⟩ := edge_wfc h (by omega)
  exact .collecting (by omega) hb
theorem edge_ready_parent (h : edgeOK a 0 c d u d0 d1) : edgeOK a 1 c d u d0 d1 := by
  obtain ⟨rfl, rfl, rfl, ⟨ha, rfl, rfl⟩ | ⟨rfl, rfl, rfl⟩⟩ := edge_parent_nr h
  · exact .collecting ha (by omega)
  · exact .sent (by omega)
theorem edge_sample_self (h : edgeOK 1 b c d u d0 d1) : edgeOK 2 b 1 d (u + 1) d0 d1 := by
  obtain ⟨rfl, rfl, rfl, rfl, hb, rfl⟩ := edge_wfc h (by omega)
  exact .sent hb
theorem edge_sample_parent (h : edgeOK 2 1 1 0 0 d0 d1) : edgeOK 2 2 1 1 0 d0 d1 := by
  obtain ⟨rfl, rfl, _⟩ := edge_notpend h
  exact .heard (Or.inr ⟨rfl, rfl⟩)
theorem edge_absorb (h : edgeOK a b c d (u + 1) d0 d1) (hb : b ≠ 0) : edgeOK a b c d u d0 d1 := by
  obtain ⟨rfl, rfl, rfl, rfl, rfl, hb1, rfl⟩ := edge_up h
  exact .heard (Or.inl ⟨by omega, rfl⟩)
theorem edge_down_self (res : Bool) (h : edgeOK a b c d u (d0 + b2n (res == false)) (d1 + b2n (res == true))) :
    a = 2 ∧ c = 0 ∧ u = 0 ∧ b = (if res then 3 else 1) ∧ edgeOK (if res then 3 else 1) b c d u d0 d1 := by
  cases res
  · obtain ⟨rfl, rfl, rfl, rfl, rfl, rfl, rfl⟩ := edge_downF h
    exact ⟨rfl, rfl, rfl, rfl, .collecting (Nat.le_refl 1) (Nat.le_refl 1)⟩
  · obtain ⟨rfl, rfl, rfl, rfl, rfl, rfl⟩ := edge_downT h
    exact ⟨rfl, rfl, rfl, rfl, .done⟩
theorem edge_down_parent (res : Bool) (h : edgeOK a 2 c 0 u d0 d1) :
    a = 2 ∧ c = 0 ∧
      edgeOK a (if res then 3 else 1) c 0 u (d0 + b2n (res == false)) (d1 + b2n (res == true)) := by
  obtain ⟨rfl, rfl, rfl, rfl, rfl⟩ := edge_parent_wfp_nc h
  cases res
  · exact ⟨rfl, rfl, .again⟩
  · exact ⟨rfl, rfl, .stop⟩

end

theorem cls_eq {x : St} {n : Nat} : cls x = n ↔
    match n with
    | 0 => x = .notReady
    | 1 => x = .busyWC ∨ x = .idleWC
    | 2 => x = .busyWP ∨ x = .idleWP
    | 3 => x = .term
    | _ => False := by
  rcases n with _ | _ | _ | _ | n <;> cases x <;> simp [cls]
theorem cls_le_3 (x : St) : cls x ≤ 3 := by cases x <;> simp [cls]

theorem Struct.cls_of_c {s : State} (h : Struct s) {q : Nat} (hq : q < s.n)
    (hc : (s.gh q).c = true) : cls (s.procs q).st = 2 := by
  rcases Nat.eq_zero_or_pos q with rfl | h0
  · rw [h.root.2] at hc; cases hc
  · have e := h.edge q h0 hq
    unfold Edge at e; rw [hc] at e
    exact (edge_contributed e).1

theorem Struct.c_false_of_wfc {s : State} (h : Struct s) {q : Nat} (hq : q < s.n)
    (hc : cls (s.procs q).st ≤ 1) : (s.gh q).c = false :=
  Bool.eq_false_iff.2 fun hcc => by have := h.cls_of_c hq hcc; omega

theorem Struct.U_zero {s : State} (h : Struct s) {q : Nat} (hq : q < s.n) (hc : cls (s.procs q).st ≤ 1) :
    U s q = 0 := by
  rcases Nat.eq_zero_or_pos q with rfl | h0
  · refine (cnt_eq_zero _).2 fun pk hm => ?_
    have := h.pk pk hm
    unfold PkOK at this; unfold isUpFrom
    split
    · next e => rw [e] at this; exact beq_false_of_ne (Nat.ne_of_gt this.1)
    · rfl
  · exact (edge_wfc (h.edge q h0 hq) hc).2.1

end ParsecVerif.FourCounter
