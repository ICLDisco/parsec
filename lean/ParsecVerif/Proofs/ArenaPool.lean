/-
  Thread memory pools (Model/Arena.lean, namespace Pool): invariant of every operation sequence.
-/
import ParsecVerif.Proofs.Arena

namespace ParsecVerif.Arena.Pool

def lsum {α : Type} (f : α → Nat) (l : List α) : Nat := (l.map f).sum

@[simp] theorem lsum_nil {α : Type} (f : α → Nat) : lsum f [] = 0 := rfl
@[simp] theorem lsum_cons {α : Type} (f : α → Nat) (a : α) (l : List α) : lsum f (a :: l) = f a + lsum f l := List.sum_cons

theorem lsum_set {α : Type} (f : α → Nat) (l : List α) (t : Nat) (a y : α) (h : l[t]? = some a) :
    lsum f (l.set t y) + f a = lsum f l + f y :=
  Interleave.sum_map_set f l t a y h

theorem lsum_eraseIdx {α : Type} (f : α → Nat) (l : List α) (k : Nat) (a : α) (h : l[k]? = some a) :
    lsum f (l.eraseIdx k) + f a = lsum f l :=
  Interleave.sum_map_eraseIdx f l k a h

theorem lsum_mem_le {α : Type} (f : α → Nat) (l : List α) (a : α) (h : a ∈ l) : f a ≤ lsum f l :=
  Interleave.le_sum_map_of_mem f l a h

theorem lsum_replicate_zero {α : Type} (f : α → Nat) (a : α) (h : f a = 0) (n : Nat) : lsum f (List.replicate n a) = 0 := by
  simp only [lsum, List.map_replicate, List.sum_replicate_nat, h, Nat.mul_zero]

def eid (x : Nat) (e : Elt) : Nat := indId x e.id

def places (x : Nat) (s : PState) : Nat := lsum (fun p => lsum (eid x) p) s.pools + lsum (eid x) s.out

structure PInv (s : PState) : Prop where
  uniq : ∀ x, places x s ≤ 1
  fresh : ∀ x, s.next ≤ x → places x s = 0
  poolOwner : ∀ (t : Nat) (p : List Elt), s.pools[t]? = some p → ∀ e ∈ p, e.owner = t
  outOwner : ∀ e ∈ s.out, e.owner < s.pools.length

theorem PInv.init (n : Nat) : PInv (pinit n) := by
  have hz : ∀ x, places x (pinit n) = 0 := fun x =>
    Nat.add_eq_zero_iff.2 ⟨lsum_replicate_zero (fun p => lsum (eid x) p) ([] : List Elt) rfl n, rfl⟩
  refine ⟨fun x => hz x ▸ Nat.zero_le 1, fun x _ => hz x, fun t p hp e he => ?_, fun e he => ?_⟩
  · simp only [pinit] at hp
    rcases List.getElem?_eq_some_iff.1 hp with ⟨_, h2⟩
    simp at h2; subst h2; simp at he
  · simp [pinit] at he

/-- An element changes place between pool `t` and the callers' hands (allocation from a non-empty pool, free). -/
theorem PInv.move {s : PState} (h : PInv s) {t : Nat} {p q o : List Elt} (hp : s.pools[t]? = some p)
    (hsum : ∀ x, lsum (eid x) q + lsum (eid x) o = lsum (eid x) p + lsum (eid x) s.out)
    (hq : ∀ e ∈ q, e.owner = t) (ho : ∀ e ∈ o, e.owner < s.pools.length) :
    PInv { s with pools := s.pools.set t q, out := o } := by
  have hz : ∀ x, places x { s with pools := s.pools.set t q, out := o } = places x s := fun x => by
    have := lsum_set (fun p => lsum (eid x) p) s.pools t p q hp
    have := hsum x
    simp only [places] at *; omega
  exact ⟨fun x => hz x ▸ h.uniq x, fun x hx => hz x ▸ h.fresh x hx, Interleave.forall_getElem?_set hq fun j x _ => h.poolOwner j x,
    fun e he => (List.length_set (as := s.pools)).symm ▸ ho e he⟩

theorem PInv.step {s : PState} (h : PInv s) (op : POp) : PInv (pstep s op).1 := by
  cases op with
  | alloc t =>
    simp only [pstep]
    split
    · exact h
    · next e rest hp =>
      refine h.move hp (fun x => by simp only [lsum_cons]; omega) (fun e' he' => h.poolOwner t _ hp e' (List.mem_cons_of_mem _ he'))
        fun e' he' => ?_
      rcases List.mem_cons.1 he' with rfl | he'
      · exact h.poolOwner t _ hp e' List.mem_cons_self ▸ Interleave.lt_of_getElem? hp
      · exact h.outOwner e' he'
    · next hp =>
      have hz : ∀ x, places x { s with nbElt := s.nbElt.set t (s.nbElt.getD t 0 + 1), out := ⟨s.next, t⟩ :: s.out, next := s.next + 1 }
          = indId x s.next + places x s := fun x => by simp only [places, lsum_cons, eid]; omega
      refine ⟨fun x => hz x ▸ indId_fresh_le_one (h.fresh x) (h.uniq x), fun x hx => hz x ▸ indId_fresh_zero (h.fresh x) hx, h.poolOwner,
        fun e he => ?_⟩
      rcases List.mem_cons.1 he with rfl | he
      · exact Interleave.lt_of_getElem? hp
      · exact h.outOwner e he
  | free id =>
    simp only [pstep]
    split
    · exact h
    · next i _ =>
      split
      · exact h
      · next e hi =>
        have hown := h.outOwner e (List.mem_of_getElem? hi)
        have hpo : s.pools[e.owner]? = some (s.pools.getD e.owner []) := by simp [List.getD, hown]
        refine h.move hpo (fun x => by have := lsum_eraseIdx (eid x) s.out i e hi; simp only [lsum_cons]; omega) (fun e' he' => ?_)
          fun e' he' => h.outOwner e' (List.mem_of_mem_eraseIdx he')
        rcases List.mem_cons.1 he' with rfl | he'
        · rfl
        · exact h.poolOwner e.owner _ hpo e' he'

theorem PInv.run (n : Nat) (ops : List POp) : PInv (prun (pinit n) ops) :=
  Interleave.foldl_inv (fun _ o h => h.step o) ops (PInv.init n)

theorem alloc_spec {s : PState} (h : PInv s) (t : Nat) (e : Elt) (fresh : Bool)
    (hr : (pstep s (.alloc t)).2 = .got e fresh) :
    lsum (eid e.id) s.out = 0 ∧ e.owner = t ∧ e ∈ (pstep s (.alloc t)).1.out := by
  simp only [pstep] at hr ⊢
  cases hp : s.pools[t]? with
  | none => simp [hp] at hr
  | some p =>
    cases p with
    | nil =>
      simp [hp] at hr ⊢
      rcases hr with ⟨hr, _⟩
      subst hr
      have := h.fresh s.next (Nat.le_refl _)
      simp [places] at this
      exact ⟨this.2, rfl, Or.inl rfl⟩
    | cons a rest =>
      simp [hp] at hr ⊢
      rcases hr with ⟨hr, _⟩
      subst hr
      have h1 := h.uniq a.id
      have h2 := lsum_mem_le (fun p => lsum (eid a.id) p) s.pools (a :: rest) (List.mem_of_getElem? hp)
      have h3 : eid a.id a = 1 := indId_self _
      simp [places] at h1 h2
      exact ⟨by omega, h.poolOwner t _ hp a (List.mem_cons_self ..), Or.inl rfl⟩

end ParsecVerif.Arena.Pool
