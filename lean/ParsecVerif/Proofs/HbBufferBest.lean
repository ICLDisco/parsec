import ParsecVerif.Proofs.HbBuffer
/-!
  One thread running alone (`solo`; a step of the cooperative scheduler is such a run), and quiescent
  `parsec_hbbuffer_pop_best`: when no other thread moves, the scan + CAS returns the task of highest
  priority, the one at the lowest index among equals, and empties exactly that slot.
-/
namespace ParsecVerif.HbBuffer
open ParsecVerif.MaxHeap (Task)

def solo : Nat → State → Nat → State
  | 0, s, _ => s
  | n + 1, s, t => solo n (step s t) t

theorem solo_eq_run (t : Nat) : ∀ (n : Nat) (s : State), solo n s t = run s (List.replicate n t)
  | 0, _ => rfl
  | n + 1, s => solo_eq_run t n (step s t)

theorem runToPark_solo (t : Nat) : ∀ (fuel : Nat) (s : State), ∃ n, runToPark fuel s t = solo n s t
  | 0, _ => ⟨0, rfl⟩
  | f + 1, s => by
    rw [runToPark]
    split
    · exact ⟨0, rfl⟩
    · exact (runToPark_solo t f (step s t)).elim fun n hn => ⟨n + 1, hn⟩

/-- the update of (best_elt, best_idx) by one candidate -/
def better (best : Option (Task × Nat)) (c : Task) (i : Nat) : Option (Task × Nat) :=
  match best with
  | none => some (c, i)
  | some (t, k) => if c.prio > t.prio then some (c, i) else some (t, k)

/-- the scan loop of pop_best over the slots still to be read, the first at index `i` -/
def scan : List (Option Task) → Nat → Option (Task × Nat) → Option (Task × Nat)
  | [], _, best => best
  | none :: r, i, best => scan r (i + 1) best
  | some c :: r, i, best => scan r (i + 1) (better best c i)

theorem scan_loop (l : List (Option Task)) (P : Nat → Option (Task × Nat) → Prop)
    (hn : ∀ i b, l[i]? = some none → P i b → P (i + 1) b)
    (hs : ∀ i b c, l[i]? = some (some c) → P i b → P (i + 1) (better b c i)) :
    ∀ (k i : Nat) (b : Option (Task × Nat)), i + k = l.length → P i b → P l.length (scan (l.drop i) i b)
  | 0, i, b, hi, h => by
    subst hi
    rwa [List.drop_length, scan]
  | k + 1, i, b, hi, h => by
    have hlt : i < l.length := by omega
    have hc := List.getElem?_eq_getElem hlt
    rw [List.drop_eq_getElem_cons hlt]
    cases hv : l[i] with
    | none => exact scan_loop l P hn hs k (i + 1) b (by omega) (hn i b (hv ▸ hc) h)
    | some c => exact scan_loop l P hn hs k (i + 1) _ (by omega) (hs i b c (hv ▸ hc) h)

/-- `b` is the best among the first `i` of `l`: highest priority, lowest index among equals -/
def IsBest (l : List (Option Task)) (i : Nat) : Option (Task × Nat) → Prop
  | none => ∀ (j : Nat) (y : Task), j < i → l[j]? = some (some y) → False
  | some (x, k) => l[k]? = some (some x) ∧ k < i ∧
      ∀ (j : Nat) (y : Task), j < i → l[j]? = some (some y) → y.prio < x.prio ∨ (y.prio = x.prio ∧ k ≤ j)

theorem scan_spec (l : List (Option Task)) : IsBest l l.length (scan l 0 none) := by
  refine scan_loop l (IsBest l) (fun i b hi h => ?_) (fun i b c hi h => ?_) l.length 0 none (Nat.zero_add _)
    (fun _ _ h => nomatch h)
  · -- an empty slot is no candidate
    have e : ∀ j y, j < i + 1 → l[j]? = some (some y) → j < i := fun j y hj h =>
      Nat.lt_of_le_of_ne (Nat.le_of_lt_succ hj) fun e => by cases e; cases hi.symm.trans h
    match b with
    | none => exact fun j y hj hy => h j y (e j y hj hy) hy
    | some (x, k) => exact ⟨h.1, Nat.lt_succ_of_lt h.2.1, fun j y hj hy => h.2.2 j y (e j y hj hy) hy⟩
  · -- a candidate: below `i` the old best decides, and slot `i` holds `c`
    have e : ∀ j y, j < i + 1 → l[j]? = some (some y) → j < i ∨ (j = i ∧ y = c) := fun j y hj h =>
      (Nat.lt_or_eq_of_le (Nat.le_of_lt_succ hj)).imp_right fun e => ⟨e, by cases e; cases hi.symm.trans h; rfl⟩
    match b with
    | none =>
      refine ⟨hi, Nat.lt_succ_self _, fun j y hj hy => ?_⟩
      rcases e j y hj hy with h1 | ⟨rfl, rfl⟩
      · exact (h j y h1 hy).elim
      · exact .inr ⟨rfl, Nat.le_refl _⟩
    | some (x, k) =>
      obtain ⟨h1, hk, h2⟩ := h
      simp only [better]
      split
      · refine ⟨hi, Nat.lt_succ_self _, fun j y hj hy => ?_⟩
        rcases e j y hj hy with h3 | ⟨rfl, rfl⟩
        · have := h2 j y h3 hy; omega
        · omega
      · refine ⟨h1, Nat.lt_succ_of_lt hk, fun j y hj hy => ?_⟩
        rcases e j y hj hy with h3 | ⟨rfl, rfl⟩
        · exact h2 j y h3 hy
        · omega

def soloTh : Nat → Mem × Thread → Mem × Thread
  | 0, p => p
  | n + 1, p => soloTh n (stepTh p.1 p.2)

theorem solo_eq (t : Nat) : ∀ (n : Nat) (s : State) (th : Thread), s.thr[t]? = some th →
    solo n s t = ⟨(soloTh n (s.mem, th)).1, s.thr.set t (soloTh n (s.mem, th)).2⟩
  | 0, s, th, h => by rw [solo, soloTh, Interleave.set_getElem?_self h]
  | n + 1, s, th, h => by
    have hi := Interleave.lt_of_getElem? h
    rw [solo, soloTh, show step s t = ⟨(stepTh s.mem th).1, s.thr.set t (stepTh s.mem th).2⟩ by unfold step; rw [h],
      solo_eq t n _ _ (List.getElem?_set_self hi), List.set_set]

theorem soloTh_add : ∀ (n m : Nat) (p : Mem × Thread), soloTh (n + m) p = soloTh m (soloTh n p)
  | 0, m, p => by rw [Nat.zero_add]; rfl
  | n + 1, m, p => by rw [Nat.add_right_comm]; exact soloTh_add n m _

theorem soloTh_scan (m : Mem) (th : Thread) :
    soloTh m.slots.length (m, th.goto (.poRd 0 none)) = (m, th.goto (.poRd m.slots.length (scan m.slots 0 none))) := by
  refine scan_loop m.slots (fun i b => soloTh i (m, th.goto (.poRd 0 none)) = (m, th.goto (.poRd i b))) (fun i b hi h => ?_)
    (fun i b c hi h => ?_) m.slots.length 0 none (Nat.zero_add _) rfl
  -- one more step is the read of slot `i`; for a candidate what is left is the comparison `better` makes
  all_goals
    have hlt : ¬ i ≥ m.slots.length := Nat.not_le_of_lt (Interleave.lt_of_getElem? hi)
    rw [soloTh_add, h]
    simp only [soloTh, stepTh, Thread.goto, stepPc, hlt, if_false, hi]
  cases b with
  | none => rfl
  | some p => simp only [better]; split <;> rfl

def popResult (slots : List (Option Task)) : Option Task := (scan slots 0 none).map (·.1)

def afterPop (m : Mem) (th : Thread) : Mem × Thread :=
  ({ m with slots := match scan m.slots 0 none with
      | none => m.slots
      | some (_, k) => m.slots.set k none },
    { th with pc := .idle, hand := (popResult m.slots).toList ++ th.hand,
              rets := th.rets ++ [.item (popResult m.slots)] })

/-- a pop_best that runs alone: the invocation, `size` reads, the end-of-scan test, and (if a task was seen) one CAS,
    which succeeds -/
theorem soloTh_pop (m : Mem) (th : Thread) (rest : List Op) (hpc : th.pc = .idle) (htodo : th.todo = .pop :: rest) :
    ∃ n, soloTh n (m, th) = afterPop m { th with todo := rest } := by
  have h0 : soloTh 1 (m, th) = (m, Thread.goto { th with todo := rest } (.poRd 0 none)) := by
    simp [soloTh, stepTh, hpc, stepPc, invoke, htodo, Thread.goto]
  have h1 := soloTh_scan m { th with todo := rest }
  have hb := scan_spec m.slots
  unfold afterPop popResult
  cases hsc : scan m.slots 0 none with
  | none =>
    refine ⟨1 + (m.slots.length + 1), ?_⟩
    rw [soloTh_add, h0, soloTh_add, h1, hsc]
    simp [soloTh, stepTh, stepPc, Thread.goto, Thread.finish]
  | some p =>
    obtain ⟨x, k⟩ := p
    rw [hsc] at hb
    refine ⟨1 + (m.slots.length + 2), ?_⟩
    rw [soloTh_add, h0, soloTh_add, h1, hsc]
    simp [soloTh, stepTh, stepPc, Thread.goto, hb.1]

end ParsecVerif.HbBuffer
