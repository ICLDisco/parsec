import ParsecVerif.Proofs.FourCounterStruct
/-
  Preservation of `Hist` (the counting argument) by every event, and Mattern's argument: when the
  root's comparison of two consecutive waves succeeds, every process is idle and no application
  message is in transit.
-/
namespace ParsecVerif.FourCounter

theorem transit_eq_cnt (s : State) :
    transit s = cnt isApp s.net + sumTo s.n (fun q => (s.procs q).opn) := by
  unfold transit; rw [appCount_eq_cnt]

theorem opn_le_transit {s : State} {q : Nat} (hq : q < s.n) : (s.procs q).opn ≤ transit s := by
  rw [transit_eq_cnt]; exact Nat.le_trans (le_sumTo (fun q => (s.procs q).opn) hq) (Nat.le_add_left ..)

theorem transit_zero {s : State} (h : transit s = 0) :
    cnt isApp s.net = 0 ∧ ∀ q, q < s.n → (s.procs q).opn = 0 := by
  rw [transit_eq_cnt] at h
  exact ⟨by omega, eq_zero_of_sumTo (by omega)⟩

theorem transit_eq {s s' : State} (hn : s'.n = s.n) (ho : ∀ q, (s'.procs q).opn = (s.procs q).opn)
    (ha : cnt isApp s'.net = cnt isApp s.net) : transit s' = transit s := by
  rw [transit_eq_cnt, transit_eq_cnt, ha, hn, sumTo_congr (fun q _ => ho q)]

/-- The clauses of `Hist` about the wave in progress (`c`, `cur`) are asked for the new ghosts, the others follow. -/
theorem Hist.congr {s s' : State} (h : Hist s) (hn : s'.n = s.n) (hst : s'.started = s.started)
    (htr : s'.trT = s.trT) (hq : ∀ q, appEq (s'.procs q) (s.procs q)) (hG : ∀ q, ghEq (s'.gh q) (s.gh q))
    (hcur : ∀ q, q < s.n →
      ((s.gh q).midS ≤ (if (s'.gh q).c then (s'.gh q).curS else (s.procs q).ms) ∧
        (s'.gh q).curS ≤ (s.procs q).ms) ∧
      ((s.gh q).midR ≤ (if (s'.gh q).c then (s'.gh q).curR else (s.procs q).mr) ∧
        (s'.gh q).curR ≤ (s.procs q).mr))
    (h5 : ∀ q, q < s.n → ((s'.gh q).c = true ∨ s.started = true) → 0 < (s.procs q).wl →
      (s'.gh q).curR < (s.procs q).mr ∨ 0 < (s.procs q).opn)
    (h8 : ∀ q, q < s.n → (s'.procs q).st = .busyWP →
      0 < (s.procs q).wl ∨ 0 < (s.procs q).opn ∨ (s'.gh q).curR < (s.procs q).mr)
    (hnr : ∀ q, cls (s'.procs q).st = 0 → cls (s.procs q).st = 0)
    (ha : cnt isApp s'.net = cnt isApp s.net) : Hist s' := by
  have hms := fun q => (hq q).1
  have hmr := fun q => (hq q).2.1
  have hwl := fun q => (hq q).2.2.1
  have ho := fun q => (hq q).2.2.2
  have hmS := fun q => (hG q).2.2.1
  have hmR := fun q => (hG q).2.2.2.1
  have htz := transit_eq hn ho ha
  refine ⟨?_, ?_, ?_, ?_, ?_, ?_, ?_, ?_, ?_, ?_⟩
  · intro q hq
    rw [(hG q).1, hmS, hms]
    exact ⟨(h.h1S q (hn ▸ hq)).1, (hcur q (hn ▸ hq)).1⟩
  · intro q hq
    rw [(hG q).2.1, hmR, hmr]
    exact ⟨(h.h1R q (hn ▸ hq)).1, (hcur q (hn ▸ hq)).2⟩
  · rw [hn, htr, sumTo_congr (fun q _ => hmS q), sumTo_congr (fun q _ => hmR q)]; exact h.h2
  · intro hs q hq ha'
    rw [(hG q).2.1, hmR, htr]
    exact h.h3 (hst ▸ hs) q (hn ▸ hq) ((hG q).2.2.2.2 ▸ ha')
  · intro hs ht ha'
    have := h.h4 (hst ▸ hs) (htr ▸ ht) fun q hq => (hG q).2.2.2.2 ▸ ha' q (hn ▸ hq)
    unfold Quiet at this ⊢
    rw [hn, ha]
    refine ⟨fun q hq => ?_, this.2⟩
    rw [hwl, ho, hms, hmr, hmS, hmR]; exact this.1 q hq
  · intro q hq hc hw
    rw [hst] at hc; rw [hwl] at hw; rw [hmr, ho]
    exact h5 q (hn ▸ hq) hc hw
  · rw [hn, htz, sumTo_congr (fun q _ => hms q), sumTo_congr (fun q _ => hmr q)]; exact h.h6
  · intro q hq hb
    rw [hwl, ho, hmr]; exact h8 q (hn ▸ hq) hb
  · intro hle; rw [htz]; exact h.s1 (hn ▸ hle)
  · intro hs q hq hc
    exact h.nr (hst ▸ hs) q (hn ▸ hq) (hnr q hc)

theorem Hist.ctl {s : State} (h : Hist s) {l : List Packet} {p : Nat} {v : Proc}
    (hv : appEq v (s.procs p)) (hbp : v.st = .busyWP → (s.procs p).st = .busyWP)
    (hnr : cls v.st = 0 → cls (s.procs p).st = 0) (ha : cnt isApp l = cnt isApp s.net) :
    Hist (setP { s with net := l } p v) :=
  h.congr rfl rfl rfl
    (setP_rel (R := appEq) (s := { s with net := l }) (fun _ => ⟨rfl, rfl, rfl, rfl⟩) hv)
    (fun _ => ⟨rfl, rfl, rfl, rfl, rfl⟩) (fun q hq => ⟨(h.h1S q hq).2, (h.h1R q hq).2⟩) h.h5
    (fun q hq hb => h.h8 q hq
      (setP_rel (R := fun a b => a.st = .busyWP → b.st = .busyWP) (s := { s with net := l }) (fun _ => id) hbp q hb))
    (setP_rel (R := fun a b => cls a.st = 0 → cls b.st = 0) (s := { s with net := l }) (fun _ => id) hnr) ha

theorem Hist.quiet_of {s : State} (h : Hist s) (hs : s.started = true) (ht : s.trT = 0)
    (ha : ∀ q, q < s.n → (s.gh q).actT = false) : Quiet s := h.h4 hs ht ha

theorem h1_mono {b : Bool} {k mid cur m m' : Nat} (hm : m ≤ m')
    (h : k ≤ mid ∧ mid ≤ (if b then cur else m) ∧ cur ≤ m) :
    k ≤ mid ∧ mid ≤ (if b then cur else m') ∧ cur ≤ m' := by
  refine ⟨h.1, ?_, Nat.le_trans h.2.2 hm⟩
  cases b
  · exact Nat.le_trans h.2.1 hm
  · exact h.2.1

/-- An operation of the application on process `p` (`v` its new monitor, `l` the new network).  `hbal`: the local
    balance "sent + to be received = received + sent to it" is kept.  `hquiet`: a quiet state offers nothing to do;
    used twice: at a ready `p` without work, for clause `h4`, and in a one-process run, for `s1`. -/
theorem Hist.app {s : State} (h : Hist s) {l : List Packet} {p : Nat} {v : Proc} (hp : p < s.n)
    (hms : (s.procs p).ms ≤ v.ms) (hmr : (s.procs p).mr ≤ v.mr)
    (hbal : v.ms + (s.procs p).mr + cnt isApp s.net + (s.procs p).opn =
      (s.procs p).ms + v.mr + cnt isApp l + v.opn)
    (hquiet : (s.procs p).opn = 0 → cnt isApp s.net = 0 →
      ((s.procs p).wl = 0 ∧ cls (s.procs p).st ≠ 0 ∨ s.n ≤ 1) →
      ((s.procs p).wl = 0 → cls (s.procs p).st ≠ 0 → v.wl = 0) ∧
      v.opn = 0 ∧ v.ms = (s.procs p).ms ∧ v.mr = (s.procs p).mr ∧ cnt isApp l = 0)
    (h5 : ((s.gh p).c = true ∨ s.started = true) → 0 < v.wl → (s.gh p).curR < v.mr ∨ 0 < v.opn)
    (h8 : v.st = .busyWP → 0 < v.wl ∨ 0 < v.opn ∨ (s.gh p).curR < v.mr)
    (hnr : cls v.st = 0 → cls (s.procs p).st = 0) : Hist (setP { s with net := l } p v) := by
  have hne : ∀ q, q ≠ p → (setP { s with net := l } p v).procs q = s.procs q := fun q e => setP_procs_ne _ _ e
  have hpp : (setP { s with net := l } p v).procs p = v := setP_procs_same ..
  have hle : ∀ q, (s.procs q).ms ≤ ((setP { s with net := l } p v).procs q).ms ∧
      (s.procs q).mr ≤ ((setP { s with net := l } p v).procs q).mr :=
    setP_rel (R := fun a b => b.ms ≤ a.ms ∧ b.mr ≤ a.mr) (s := { s with net := l })
      (fun _ => ⟨Nat.le_refl _, Nat.le_refl _⟩) ⟨hms, hmr⟩
  have ht' : transit (setP { s with net := l } p v) =
      cnt isApp l + sumTo s.n (fun q => ((setP { s with net := l } p v).procs q).opn) := transit_eq_cnt _
  refine ⟨fun q hq => h1_mono (hle q).1 (h.h1S q hq), fun q hq => h1_mono (hle q).2 (h.h1R q hq),
    h.h2, h.h3, ?_, ?_, ?_, ?_, ?_, ?_⟩
  · intro hs htr ha
    have hq := h.h4 hs htr ha
    have hqp := hq.1 p hp
    obtain ⟨hw, e1, e2, e3, e4⟩ := hquiet hqp.2.1 hq.2 (Or.inl ⟨hqp.1, h.nr hs p hp⟩)
    refine ⟨fun q hq' => ?_, e4⟩
    by_cases e : q = p
    · subst e; rw [hpp, e1, e2, e3]
      exact ⟨hw hqp.1 (h.nr hs q hp), rfl, hqp.2.2⟩
    · rw [hne q e]; exact hq.1 q hq'
  · intro q hq
    by_cases e : q = p
    · subst e; rw [hpp]; exact h5
    · rw [hne q e]; exact h.h5 q hq
  · have cms := sumTo_setP s l hp v Proc.ms
    have cmr := sumTo_setP s l hp v Proc.mr
    have cop := sumTo_setP s l hp v Proc.opn
    have := h.h6
    rw [transit_eq_cnt] at this
    show sumTo s.n _ = sumTo s.n _ + _
    rw [ht']; omega
  · intro q hq
    by_cases e : q = p
    · subst e; rw [hpp]; exact h8
    · rw [hne q e]; exact h.h8 q hq
  · intro (hle1 : s.n ≤ 1)
    obtain ⟨c0, o0⟩ := transit_zero (h.s1 hle1)
    obtain ⟨_, e1, _, _, e4⟩ := hquiet (o0 p hp) c0 (Or.inr hle1)
    rw [ht', e4, sumTo_zero fun q hq => by rw [show q = p by omega, hpp]; exact e1]
  · intro hs q hq
    by_cases e : q = p
    · subst e; rw [hpp]; exact fun hc => h.nr hs q hq (hnr hc)
    · rw [hne q e]; exact h.nr hs q hq

theorem Hist.work {s : State} (h : Hist s) (hS : Struct s) {p : Nat} (hp : p < s.n) {v : Proc}
    (hms : v.ms = (s.procs p).ms) (hmr : v.mr = (s.procs p).mr) (ho : v.opn = (s.procs p).opn)
    (hc : cls v.st = cls (s.procs p).st)
    (hmay : mayWork (s.procs p) v.wl)
    (h8 : v.st = .busyWP → 0 < v.wl ∨ 0 < v.opn ∨ (s.gh p).curR < v.mr) : Hist (setP s p v) := by
  -- work on a workless process that has left `notReady` comes with a message being processed
  have hk : (s.procs p).wl = 0 → 0 < v.wl → cls (s.procs p).st ≠ 0 → 0 < (s.procs p).opn :=
    fun a b c => (hmay a b).resolve_left fun e => c (by rw [e]; rfl)
  refine h.app (l := s.net) hp (by omega) (by omega) (by omega)
    (fun o _ _ => ⟨fun hw hnr => ?_, by omega, hms, hmr, ‹_›⟩) (fun hcq hw => ?_) h8 (fun e => hc ▸ e)
  · exact Nat.eq_zero_of_not_pos fun hv => by have := hk hw hv hnr; omega
  · rw [hmr, ho]
    by_cases hw0 : 0 < (s.procs p).wl
    · exact h.h5 p hp hcq hw0
    · refine Or.inr (hk (by omega) hw ?_)
      rcases hcq with hcq | hcq
      · rw [hS.cls_of_c hp hcq]; decide
      · exact h.nr hcq p hp

/-- the state after outgoing_message_start on `p` for a message to `q` (`step`, case `send`) -/
abbrev pSend (s : State) (p q : Nat) : State :=
  setP { s with net := s.net ++ [{ src := p, dst := q, kind := .app }] } p { s.procs p with ms := (s.procs p).ms + 1 }

theorem Hist.send {s : State} (h : Hist s) {p q : Nat} (hp : p < s.n) (hq : q < s.n) (hpq : p ≠ q)
    (hw : 0 < (s.procs p).wl) : Hist (pSend s p q) := by
  have hl : cnt isApp (s.net ++ [{ src := p, dst := q, kind := .app }]) = cnt isApp s.net + 1 := by
    simp [isApp]
  exact h.app hp (Nat.le_succ _) (Nat.le_refl _)
    (by dsimp only; rw [hl]; omega)
    (fun _ _ hq' => by
      have : (s.procs p).wl = 0 ∨ s.n ≤ 1 := hq'.imp And.left id
      omega)
    (h.h5 p hp) (h.h8 p hp) id

/-- the state after incoming_message_start on `q` for packet `k`, which leaves the monitor in state `x` -/
abbrev pRstart (s : State) (k q : Nat) (x : St) : State :=
  setP { s with net := s.net.eraseIdx k } q { s.procs q with opn := (s.procs q).opn + 1, st := x }

theorem Hist.rstart {s : State} (h : Hist s) {k : Nat} {pk : Packet} {x : St}
    (hk : s.net[k]? = some pk) (happ : isApp pk = true) (hq : pk.dst < s.n)
    (hc : cls x = cls (s.procs pk.dst).st) : Hist (pRstart s k pk.dst x) := by
  have hcnt : cnt isApp (s.net.eraseIdx k) + 1 = cnt isApp s.net := by
    have := cnt_eraseIdx isApp hk; rwa [happ] at this
  exact h.app hq (Nat.le_refl _) (Nat.le_refl _)
    (by dsimp only; omega)
    (fun _ hz _ => by omega)
    (fun _ _ => Or.inr (Nat.succ_pos _)) (fun _ => Or.inr (Or.inl (Nat.succ_pos _))) (fun e => hc ▸ e)

/-- the state after incoming_message_end on `q` (`step`, case `rend`) -/
abbrev pRend (s : State) (q : Nat) : State :=
  setP s q { s.procs q with opn := (s.procs q).opn - 1, mr := (s.procs q).mr + 1 }

theorem Hist.rend {s : State} (h : Hist s) {q : Nat} (hq : q < s.n) (ho : 0 < (s.procs q).opn) :
    Hist (pRend s q) := by
  have hcur := (h.h1R q hq).2.2
  exact h.app (l := s.net) hq (Nat.le_refl _) (Nat.le_succ _)
    (by dsimp only; omega)
    (fun hz _ _ => by omega)
    (fun _ _ => Or.inl (Nat.lt_succ_of_le hcur)) (fun _ => Or.inr (Or.inr (Nat.lt_succ_of_le hcur))) id

theorem Hist.sample {s : State} (h : Hist s) (hS : Struct s) {me : Nat} (h0 : 0 < me) (hme : me < s.n)
    (h1 : cls (s.procs me).st = 1) (hw : (s.procs me).wl = 0) : Hist (sampleUp s me) := by
  have hcme : (s.gh me).c = false := hS.c_false_of_wfc hme (by omega)
  obtain ⟨hne, hpm, hgne, hgm⟩ := sampleUp_spec s me
  refine h.congr rfl rfl rfl
    (upd_rel (R := appEq) (fun _ => ⟨rfl, rfl, rfl, rfl⟩) (by exact ⟨rfl, rfl, rfl, rfl⟩))
    (upd_rel (R := ghEq) (fun _ => ⟨rfl, rfl, rfl, rfl, rfl⟩) (by simp [ghEq, sKS, sKR, hcme]))
    (fun q hq => ?_) (fun q hq hc hw' => ?_) (fun q hq hb => ?_) (fun q hc => ?_) (by simp [sampleUp, isApp])
  · by_cases e : q = me
    · subst e
      have oS := (h.h1S q hq).2.1; have oR := (h.h1R q hq).2.1
      rw [hcme] at oS oR
      rw [hgm]; exact ⟨⟨oS, Nat.le_refl _⟩, oR, Nat.le_refl _⟩
    · rw [hgne q e]; exact ⟨(h.h1S q hq).2, (h.h1R q hq).2⟩
  · by_cases e : q = me
    · subst e; omega
    · rw [hgne q e] at hc ⊢; exact h.h5 q hq hc hw'
  · by_cases e : q = me
    · subst e; rw [hpm] at hb; cases hb
    · rw [hne q e] at hb; rw [hgne q e]; exact h.h8 q hq hb
  · by_cases e : q = me
    · subst e; rw [hpm] at hc; cases hc
    · rwa [hne q e] at hc

theorem rootAfter_appEq (n : Nat) (p : Proc) : appEq (rootAfter n p) p := by
  unfold rootAfter; split <;> exact ⟨rfl, rfl, rfl, rfl⟩

theorem rootDecide_appEq (s : State) (q : Nat) : appEq ((rootDecide s).procs q) (s.procs q) :=
  upd_rel (R := appEq) (f := s.procs) (v := rootAfter s.n (accAdd (s.procs 0))) (fun _ => ⟨rfl, rfl, rfl, rfl⟩)
    (rootAfter_appEq ..) q

theorem Hist.decided {s : State} (h : Hist s) (hS : Struct s)
    (h1 : cls (s.procs 0).st = 1) (hncl : (s.procs 0).ncl = 0) (hw : (s.procs 0).wl = 0) :
    Hist { s with gh := ghDecide s, trT := transit s, started := true } := by
  have hall := hS.allC h1 hncl
  have hcur : ∀ q, q < s.n → (if q = 0 then (s.procs 0).ms else (s.gh q).curS) ≤ (s.procs q).ms ∧
      (if q = 0 then (s.procs 0).mr else (s.gh q).curR) ≤ (s.procs q).mr := by
    intro q hq
    by_cases e : q = 0
    · subst e; exact ⟨Nat.le_refl _, Nat.le_refl _⟩
    · rw [if_neg e, if_neg e]; exact ⟨(h.h1S q hq).2.2, (h.h1R q hq).2.2⟩
  -- a process with work is not the root, so it has contributed to the wave
  have h5 : ∀ q, q < s.n → 0 < (s.procs q).wl →
      (if q = 0 then (s.procs 0).mr else (s.gh q).curR) < (s.procs q).mr ∨ 0 < (s.procs q).opn := by
    intro q hq hwq
    have e : q ≠ 0 := by intro e; subst e; omega
    rw [if_neg e]
    exact h.h5 q hq (Or.inl (b2n_eq_one.1 (hall q (by omega) hq).2.1)) hwq
  refine ⟨fun q hq => ⟨(hcur q hq).1, Nat.le_refl _, (hcur q hq).1⟩,
    fun q hq => ⟨(hcur q hq).2, Nat.le_refl _, (hcur q hq).2⟩, h.h6, ?_, ?_, fun q hq _ => h5 q hq, h.h6, ?_, h.s1, ?_⟩
  · intro _ q hq ha
    exact (h5 q hq (of_decide_eq_true ha)).imp_right fun o => Nat.lt_of_lt_of_le o (opn_le_transit hq)
  · intro _ ht ha
    obtain ⟨c0, o0⟩ := transit_zero ht
    exact ⟨fun q hq => ⟨Nat.eq_zero_of_not_pos (of_decide_eq_false (ha q hq)), o0 q hq, rfl, rfl⟩, c0⟩
  · intro q hq hb
    by_cases e : q = 0
    · subst e; rw [hb] at h1; cases h1
    · show _ ∨ _ ∨ (if q = 0 then _ else _) < _
      rw [if_neg e]; exact h.h8 q hq hb
  · intro _ q hq
    show cls (s.procs q).st ≠ 0
    by_cases e : q = 0
    · subst e; omega
    · have := (hall q (by omega) hq).1; omega

theorem Hist.atDecision {s : State} (h : Hist s) (hS : Struct s)
    (h1 : cls (s.procs 0).st = 1) (hncl : (s.procs 0).ncl = 0) (hw : (s.procs 0).wl = 0) :
    Hist (rootDecide s) := by
  have hv : cls (rootAfter s.n (accAdd (s.procs 0))).st ≠ 0 ∧ cls (rootAfter s.n (accAdd (s.procs 0))).st ≠ 2 := by
    rw [cls_rootAfter _ _ h1]; split <;> simp
  exact (h.decided hS h1 hncl hw).ctl (p := 0) (rootAfter_appEq ..) (fun e => absurd (by rw [e]; rfl) hv.2)
    (fun e => absurd e hv.1) (by simp [cnt_app_downs])

/-- Mattern's argument.  The conclusion, about the state in which the root decides, is what `Fin.q` asks of
    `rootDecide s` (`Inv.sendUp`), the state of the root apart. -/
theorem decision_quiet {s : State} (h : Hist s) (hS : Struct s) (hn : 0 < s.n)
    (h1 : cls (s.procs 0).st = 1) (hncl : (s.procs 0).ncl = 0) (hw : (s.procs 0).wl = 0)
    (hres : rootRes s.n (accAdd (s.procs 0)) = true) :
    (∀ q, q < s.n → (s.procs q).wl = 0 ∧ (s.procs q).opn = 0) ∧ cnt isApp s.net = 0 ∧
    (∀ q, 0 < q → q < s.n → (s.procs q).st = .idleWP) := by
  have hall := hS.allC h1 hncl
  by_cases hnb : nbChildren s.n 0 = 0
  · -- a single process: it never sent nor received anything
    have hn1 : s.n = 1 := by unfold nbChildren at hnb; split at hnb <;> (try split at hnb) <;> omega
    obtain ⟨c0, o0⟩ := transit_zero (h.s1 (by omega))
    refine ⟨fun q hq => ⟨?_, o0 q hq⟩, c0, fun q a b => by omega⟩
    rw [show q = 0 by omega]; exact hw
  · simp only [rootRes, beq_false_of_ne hnb, Bool.false_or, Bool.and_eq_true, beq_iff_eq, accAdd] at hres
    obtain ⟨⟨hlS, hlR⟩, hSR⟩ := hres
    have hst : s.started = true := eq_true_of_ne_false fun hs => by have := (hS.lastF hs).1; omega
    obtain ⟨lS, lR⟩ := hS.lastT hst
    have nS := hS.root_sum hn h1 hncl Proc.accS PGhost.curS (s.procs 0).ms hS.fS
    have nR := hS.root_sum hn h1 hncl Proc.accR PGhost.curR (s.procs 0).mr hS.fR
    -- per process, `mid` ≤ sample given to this wave: `h1S`, `h1R`, every process but the root having contributed
    have le2 : ∀ q, q < s.n → (s.gh q).midS ≤ (if q = 0 then (s.procs 0).ms else (s.gh q).curS) ∧
        (s.gh q).midR ≤ (if q = 0 then (s.procs 0).mr else (s.gh q).curR) := by
      intro q hq
      have oS := (h.h1S q hq).2.1; have oR := (h.h1R q hq).2.1
      by_cases e : q = 0
      · subst e; rw [hS.root.2] at oS oR; exact ⟨oS, oR⟩
      · rw [b2n_eq_one.1 (hall q (by omega) hq).2.1] at oS oR; rw [if_neg e, if_neg e]; exact ⟨oS, oR⟩
    -- squeeze with a = samples given to the last completed wave, b = counters at the latest decision (`mid`),
    -- c = samples given to this wave (for the root, its counters now)
    obtain ⟨htr, pR1, pR2⟩ := sumTo_squeeze (fun q hq => (h.h1S q hq).1) (fun q hq => (le2 q hq).1)
      (fun q hq => (h.h1R q hq).1) (fun q hq => (le2 q hq).2) (by omega) (by omega) (by omega) h.h2
    have hact : ∀ q, q < s.n → (s.gh q).actT = false := fun q hq => eq_false_of_ne_true fun ha => by
      have := h.h3 hst q hq ha; have := pR1 q hq; omega
    have hq := h.h4 hst htr hact
    refine ⟨fun q hq' => ⟨(hq.1 q hq').1, (hq.1 q hq').2.1⟩, hq.2, fun q hq0 hq' => ?_⟩
    rcases cls_eq.1 (hall q hq0 hq').1 with hb | hi
    · -- busy, yet without work or open message, and `pR2`: nothing received since its sample; against `h8`
      exfalso
      have := h.h8 q hq' hb; have q1 := hq.1 q hq'; have := pR2 q hq'
      rw [if_neg (by omega)] at this
      omega
    · exact hi

end ParsecVerif.FourCounter
