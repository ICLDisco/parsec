import ParsecVerif.Proofs.FourCounterInv
/-
  Preservation of `Struct` by the protocol events.  All of them but the root's decision change one process and
  the control messages around it; `Struct.update` reduces these to what happens at that process and on its edges.
  What a control message in flight finds at its destination (`up_finds`, `down_finds`) is what the assertions of
  msg_up and msg_down check.
-/
namespace ParsecVerif.FourCounter

theorem Struct.congr {s s' : State} (h : Struct s) (hn : s'.n = s.n) (hg : s'.gh = s.gh) (hst : s'.started = s.started)
    (hq : ∀ q, ctlEq (s'.procs q) (s.procs q)) (hU : ∀ q, U s' q = U s q) (hD : ∀ q r, D s' q r = D s q r)
    (hpk : ∀ k, k ∈ s'.net → PkOK s k) : Struct s' := by
  have hc : ∀ q, cls (s'.procs q).st = cls (s.procs q).st := fun q => (hq q).1
  have hpend : ∀ q, pend s' q = pend s q := by intro q; simp only [pend, hn, hc, hg, hU]
  have hlive : ∀ q, live s' q ↔ live s q := by intro q; simp only [live, hc, hU]
  refine ⟨?_, ?_, ?_, ?_, ?_, ?_, ?_, ?_, ?_, ?_⟩
  · intro k hk
    have := hpk k hk
    unfold PkOK at this ⊢
    split <;> simp_all
  · intro q h0 hq
    have := h.edge q h0 (hn ▸ hq)
    simpa only [Edge, hc, hg, hU, hD] using this
  · simpa only [hc, hg] using h.root
  · intro r hr h1
    rw [(hq r).2.1, hpend, hpend]; exact h.ncl1 r (hn ▸ hr) (hc r ▸ h1)
  · intro r hr h2
    rw [(hq r).2.1, hn]; exact h.ncl2 r (hn ▸ hr) (hc r ▸ h2)
  · intro q hq h3
    rw [hc]; exact h.tr q (hn ▸ hq) (hc q ▸ h3)
  · rw [hn, hg, ← h.fS]; exact sumTo_congr fun q _ => by simp only [contribS, hlive, (hq q).2.2.1]
  · rw [hn, hg, ← h.fR]; exact sumTo_congr fun q _ => by simp only [contribR, hlive, (hq q).2.2.2.1]
  · intro hs; rw [hn, hg, (hq 0).2.2.2.2.1, (hq 0).2.2.2.2.2]; exact h.lastT (hst ▸ hs)
  · intro hs; rw [(hq 0).2.2.2.2.1, (hq 0).2.2.2.2.2]; exact h.lastF (hst ▸ hs)

theorem Struct.env {s : State} (h : Struct s) {l : List Packet} {p : Nat} {v : Proc}
    (hv : ctlEq v (s.procs p))
    (hU : ∀ q, cnt (isUpFrom q) l = U s q) (hD : ∀ q r, cnt (isDownTo q r) l = D s q r)
    (hpk : ∀ k, k ∈ l → PkOK s k) : Struct (setP { s with net := l } p v) :=
  h.congr rfl rfl rfl (setP_rel (R := ctlEq) (s := { s with net := l }) (fun _ => ⟨rfl, rfl, rfl, rfl, rfl, rfl⟩) hv)
    hU hD hpk

theorem PkOK.frame {s s' : State} {k : Packet} {p : Nat} (h : PkOK s k) (hk : k ∈ s.net) (hU : U s p = 0)
    (hn : s'.n = s.n) (hP : ∀ q, q ≠ p → s'.procs q = s.procs q) : PkOK s' k := by
  have hnp : isUpFrom p k = false := (cnt_eq_zero _).1 hU k hk
  unfold PkOK at h ⊢
  unfold isUpFrom at hnp
  split <;> rename_i hkk <;> simp only [hkk] at h hnp
  · rw [hn, hP _ (by simpa using hnp)]; exact h
  · rw [hn]; exact h
  · trivial

theorem pkOK_downs {s : State} {me : Nat} {r : Bool} {k : Packet} (hk : k ∈ downs s.n me r) : PkOK s k := by
  obtain ⟨e1, e2, e3, e4, _⟩ := mem_downs hk
  unfold PkOK; rw [e1]
  exact ⟨by omega, e4, by rw [e2]; unfold parent; omega⟩

theorem pend_le_of_parent (s : State) {q r : Nat} (h0 : 0 < q) (hpar : parent q = r) :
    pend s q ≤ pend s (2 * r + 1) + pend s (2 * r + 2) := by
  rcases (parent_eq_iff h0).1 hpar with e | e <;> subst e <;> omega

theorem pend_eq_one {s : State} {q : Nat}
    (h : q < s.n → ¬ (cls (s.procs q).st = 2 ∧ b2n (s.gh q).c = 1 ∧ U s q = 0)) :
    pend s q = if q < s.n then 1 else 0 := by
  unfold pend
  by_cases hq : q < s.n
  · simp [hq, h hq]
  · simp [hq]

theorem pend_all {s : State} {r : Nat} (h : ∀ q, 0 < q → parent q = r → q < s.n →
      ¬ (cls (s.procs q).st = 2 ∧ b2n (s.gh q).c = 1 ∧ U s q = 0)) :
    pend s (2 * r + 1) + pend s (2 * r + 2) = nbChildren s.n r := by
  rw [pend_eq_one (h _ (by omega) (by unfold parent; omega)), pend_eq_one (h _ (by omega) (by unfold parent; omega)),
    nbChildren_eq]

theorem root_term_of_edges {s : State} (he : ∀ q, 0 < q → q < s.n → Edge s q) :
    ∀ q, q < s.n → cls (s.procs q).st = 3 → cls (s.procs 0).st = 3 :=
  tree_induction id fun q h0 hq ih h3 => by
    have e := he q h0 hq
    unfold Edge at e; rw [h3] at e
    exact ih (edge_term_up e)

/-- An event local to process `p`: only its monitor, its ghost and the control messages from or to `p` and its
    children change (`hn` … `hK`), and no UP message of `p` is in flight (`hUp`).  `Struct` has to be re-established
    around `p` only: new packets, the edges at `p`, and the clauses that speak of `p` (`hpk` … `hfR`). -/
theorem Struct.update {s s' : State} (h : Struct s) {p : Nat}
    (hn : s'.n = s.n) (hst : s'.started = s.started)
    (hP : ∀ q, q ≠ p → s'.procs q = s.procs q) (hG : ∀ q, q ≠ p → s'.gh q = s.gh q)
    (hU : ∀ q, 0 < q → q ≠ p → parent q ≠ p → U s' q = U s q)
    (hD : ∀ q, 0 < q → q ≠ p → parent q ≠ p → ∀ x, D s' q x = D s q x)
    (hL : p = 0 → (s'.procs 0).lastS = (s.procs 0).lastS ∧ (s'.procs 0).lastR = (s.procs 0).lastR)
    (hK : sKS (s'.gh p) = sKS (s.gh p) ∧ sKR (s'.gh p) = sKR (s.gh p))
    (hUp : U s p = 0) (hpk : ∀ k, k ∈ s'.net → k ∈ s.net ∨ PkOK s' k)
    (hedge : ∀ q, 0 < q → q < s.n → q = p ∨ parent q = p → Edge s' q)
    (hroot : p = 0 → cls (s'.procs 0).st ≠ 2 ∧ (s'.gh 0).c = false)
    (hncl1 : cls (s'.procs p).st = 1 →
      (s'.procs p).ncl = ((pend s' (2 * p + 1) + pend s' (2 * p + 2) : Nat) : Int))
    (hncl2 : cls (s'.procs p).st = 2 → (s'.procs p).ncl = ((nbChildren s.n p : Nat) : Int))
    (hpend : pend s' p = pend s p)
    (hfS : sumTo s.n (contribS s') = sumTo s.n (fun q => if (s'.gh q).c then (s'.gh q).curS else 0))
    (hfR : sumTo s.n (contribR s') = sumTo s.n (fun q => if (s'.gh q).c then (s'.gh q).curR else 0)) :
    Struct s' := by
  have hK : ∀ q, sKS (s'.gh q) = sKS (s.gh q) ∧ sKR (s'.gh q) = sKR (s.gh q) := fun q => by
    by_cases e : q = p
    · rw [e]; exact hK
    · rw [hG q e]; exact ⟨rfl, rfl⟩
  have hL : (s'.procs 0).lastS = (s.procs 0).lastS ∧ (s'.procs 0).lastR = (s.procs 0).lastR := by
    by_cases e : p = 0
    · exact hL e
    · rw [hP 0 (Ne.symm e)]; exact ⟨rfl, rfl⟩
  have hE : ∀ q, 0 < q → q < s'.n → Edge s' q := by
    intro q h0 hq
    rw [hn] at hq
    by_cases e : q = p ∨ parent q = p
    · exact hedge q h0 hq e
    · have e1 : q ≠ p := fun t => e (Or.inl t)
      have e2 : parent q ≠ p := fun t => e (Or.inr t)
      have := h.edge q h0 hq
      unfold Edge at this ⊢
      rwa [hP q e1, hP _ e2, hG q e1, hG _ e2, hU q h0 e1 e2, hD q h0 e1 e2, hD q h0 e1 e2]
  refine ⟨?_, hE, ?_, ?_, ?_, root_term_of_edges hE, by rw [hn]; exact hfS, by rw [hn]; exact hfR, ?_, ?_⟩
  · intro k hk
    rcases hpk k hk with hm | hm
    · exact (h.pk k hm).frame hm hUp hn hP
    · exact hm
  · by_cases e : p = 0
    · exact hroot e
    · rw [hP 0 (Ne.symm e), hG 0 (Ne.symm e)]; exact h.root
  · intro r hr h1
    by_cases e : r = p
    · subst e; exact hncl1 h1
    · rw [hP r e] at h1 ⊢
      have hc : ∀ q, parent q = r → 0 < q → pend s' q = pend s q := fun q hpar h0 => by
        by_cases e' : q = p
        · rw [e']; exact hpend
        · unfold pend; rw [hn, hP q e', hG q e', hU q h0 e' (hpar ▸ e)]
      rw [hc _ (by unfold parent; omega) (by omega), hc _ (by unfold parent; omega) (by omega)]
      exact h.ncl1 r (hn ▸ hr) h1
  · intro r hr h2
    rw [hn]
    by_cases e : r = p
    · subst e; exact hncl2 h2
    · rw [hP r e] at h2 ⊢; exact h.ncl2 r (hn ▸ hr) h2
  · intro hs
    rw [hn, hL.1, hL.2, sumTo_congr fun q _ => (hK q).1, sumTo_congr fun q _ => (hK q).2]
    exact h.lastT (hst ▸ hs)
  · intro hs; rw [hL.1, hL.2]; exact h.lastF (hst ▸ hs)

/-- the state after taskpool_ready on `p` (`step`, case `ready`) -/
abbrev pReady (s : State) (p : Nat) : State :=
  setP s p { s.procs p with ncl := nbChildren s.n p, st := .busyWC }

theorem Struct.ready {s : State} (h : Struct s) {p : Nat} (hp : p < s.n) (hnr : (s.procs p).st = .notReady) :
    Struct (pReady s p) := by
  have hp0 : cls (s.procs p).st = 0 := by rw [hnr]; rfl
  have hP : ∀ q, q ≠ p → (pReady s p).procs q = s.procs q := fun q e => setP_procs_ne _ _ e
  have hpm : (pReady s p).procs p = { s.procs p with ncl := nbChildren s.n p, st := .busyWC } :=
    setP_procs_same ..
  have hp1 : cls ((pReady s p).procs p).st = 1 := by rw [hpm]; rfl
  -- `p` holds a live accumulator before and after
  have hlive : ∀ q, live (pReady s p) q ↔ live s q := by
    intro q; unfold live
    by_cases e : q = p
    · subst e; rw [hp1, hp0]; omega
    · rw [hP q e]; rfl
  have hacc : ∀ q, ((pReady s p).procs q).accS = (s.procs q).accS ∧ ((pReady s p).procs q).accR = (s.procs q).accR :=
    setP_rel (R := fun v w => v.accS = w.accS ∧ v.accR = w.accR) (fun _ => ⟨rfl, rfl⟩) ⟨rfl, rfl⟩
  refine h.update rfl rfl hP (fun _ _ => rfl) (fun _ _ _ _ => rfl) (fun _ _ _ _ _ => rfl)
    (by rintro rfl; rw [hpm]; exact ⟨rfl, rfl⟩) ⟨rfl, rfl⟩ (h.U_zero hp (by omega)) (fun k hk => Or.inl hk) ?_ ?_ ?_ ?_ ?_
    ((sumTo_congr fun q _ => by simp only [contribS, hlive, (hacc q).1]).trans h.fS)
    ((sumTo_congr fun q _ => by simp only [contribR, hlive, (hacc q).2]).trans h.fR)
  · rintro q h0 hq (rfl | e) <;> have old := h.edge q h0 hq <;> unfold Edge at old ⊢
    · rw [hp1, hP _ (parent_ne_self h0)]; rw [hp0] at old
      exact edge_ready_self old
    · rw [hP q (by have := parent_lt h0; omega), e, hp1]; rw [e, hp0] at old
      exact edge_ready_parent old
  · rintro rfl; rw [hp1]; exact ⟨by decide, h.root.2⟩
  · -- the children of a process that was not ready all owe their contribution
    intro _
    rw [hpm, pend_all (s := pReady s p) fun q h0 hpar hq t => by
      have old := h.edge q h0 hq
      unfold Edge at old; rw [hpar, hp0] at old
      rw [hP q (by have := parent_lt h0; omega)] at t
      have t : _ ∧ b2n (s.gh q).c = 1 ∧ U s q = 0 := t
      have := (edge_parent_nr old).2.2.2
      omega]
    rfl
  · rw [hp1]; intro e; cases e
  · rw [pend_eq_one (by rw [hp1]; exact fun _ t => absurd t.1 (by decide)), pend_eq_one (by omega)]; rfl

theorem Struct.hold {s : State} (h : Struct s) {k : Nat} {pk : Packet} (hk : s.net[k]? = some pk) :
    Struct { s with net := s.net.eraseIdx k ++ [{ pk with held := true }] } := by
  refine h.congr rfl rfl rfl (fun _ => ⟨rfl, rfl, rfl, rfl, rfl, rfl⟩) (fun q => cnt_hold _ hk rfl)
    (fun q r => cnt_hold _ hk rfl) fun k' hk' => ?_
  rcases List.mem_append.1 hk' with hm | hm
  · exact h.pk k' (List.mem_of_mem_eraseIdx hm)
  · rw [List.mem_singleton.1 hm]; exact h.pk pk (List.mem_of_getElem? hk)

/-- msg_up on `r` before its closing check_state_message_received: UP(`a`, `b`), packet `k`, has left the network
    and is added to the accumulators of `r` -/
abbrev pAbsorb (s : State) (k r a b : Nat) : State :=
  setP { s with net := s.net.eraseIdx k } r
    { s.procs r with accR := (s.procs r).accR + b, accS := (s.procs r).accS + a, ncl := (s.procs r).ncl - 1 }

theorem Struct.up_sender {s : State} (h : Struct s) {pk : Packet} {a b : Nat} (hm : pk ∈ s.net)
    (hkind : pk.kind = .up a b) :
    0 < pk.src ∧ pk.src < s.n ∧ pk.dst = parent pk.src ∧ a = (s.procs pk.src).accS ∧ b = (s.procs pk.src).accR ∧
      cls (s.procs pk.src).st = 2 ∧ b2n (s.gh pk.src).c = 1 ∧ U s pk.src = 1 ∧ pend s pk.src = 1 ∧
      cls (s.procs pk.dst).st ≤ 1 := by
  have hpk := h.pk pk hm
  unfold PkOK at hpk; rw [hkind] at hpk
  obtain ⟨hs0, hsn, hdst, ha, hb⟩ := hpk
  obtain ⟨u, hu⟩ := Nat.exists_eq_succ_of_ne_zero
    (Nat.ne_of_gt (cnt_pos_of_mem (isUpFrom pk.src) hm (by simp [isUpFrom, hkind])))
  have old := h.edge _ hs0 hsn
  unfold Edge U at old
  rw [hu] at old
  obtain ⟨ha2, hc1, hu0, -, -, hb1, -⟩ := edge_up old
  have hu1 : U s pk.src = 1 := by rw [U, hu, hu0]
  exact ⟨hs0, hsn, hdst, ha, hb, ha2, hc1, hu1, by rw [pend_eq_one (by omega), if_pos hsn], hdst ▸ hb1⟩

theorem Struct.up_finds {s : State} (h : Struct s) {pk : Packet} {a b : Nat} (hm : pk ∈ s.net)
    (hkind : pk.kind = .up a b) (hr : (s.procs pk.dst).st ≠ .notReady) :
    cls (s.procs pk.dst).st = 1 ∧ 0 < (s.procs pk.dst).ncl ∧ pk.dst < s.n := by
  obtain ⟨hs0, hsn, hdst, -, -, -, -, -, hp1, hb⟩ := h.up_sender hm hkind
  have : cls (s.procs pk.dst).st ≠ 0 := fun e => hr (cls_eq.1 e)
  have hb1 : cls (s.procs pk.dst).st = 1 := by omega
  have hrn : pk.dst < s.n := by have := parent_lt hs0; omega
  have := h.ncl1 _ hrn hb1
  have := pend_le_of_parent s hs0 hdst.symm
  exact ⟨hb1, by omega, hrn⟩

theorem Struct.absorb {s : State} (h : Struct s) {k : Nat} {pk : Packet} {a b : Nat}
    (hk : s.net[k]? = some pk) (hkind : pk.kind = .up a b) (hr : (s.procs pk.dst).st ≠ .notReady) :
    Struct (pAbsorb s k pk.dst a b) := by
  have hm := List.mem_of_getElem? hk
  obtain ⟨hs0, hsn, hdst, ha, hb, ha2, hc1, hu1, hp1, -⟩ := h.up_sender hm hkind
  obtain ⟨hb1, -, hrn⟩ := h.up_finds hm hkind hr
  generalize pk.dst = r at *
  generalize hq0 : pk.src = q0 at *
  have hne : q0 ≠ r := by rw [hdst]; exact (parent_ne_self hs0).symm
  have hD : ∀ q x, D (pAbsorb s k r a b) q x = D s q x := fun q x =>
    cnt_eraseIdx_of_false _ hk (by simp [isDownTo, hkind])
  have hUne : ∀ q, q ≠ q0 → U (pAbsorb s k r a b) q = U s q := fun q e =>
    cnt_eraseIdx_of_false _ hk (by simp [isUpFrom, hkind, hq0, Ne.symm e])
  have hU0 : U (pAbsorb s k r a b) q0 = 0 := by
    have : U (pAbsorb s k r a b) q0 + b2n (isUpFrom q0 pk) = U s q0 := cnt_eraseIdx (isUpFrom q0) hk
    simp only [isUpFrom, hkind, hq0, beq_self_eq_true, b2n_true] at this
    omega
  have hP : ∀ q, q ≠ r → (pAbsorb s k r a b).procs q = s.procs q := fun q e => setP_procs_ne _ _ e
  have hpr : (pAbsorb s k r a b).procs r =
      { s.procs r with accR := (s.procs r).accR + b, accS := (s.procs r).accS + a, ncl := (s.procs r).ncl - 1 } :=
    setP_procs_same ..
  have hcls : ∀ q, cls ((pAbsorb s k r a b).procs q).st = cls (s.procs q).st :=
    setP_rel (R := fun v w => cls v.st = cls w.st) (fun _ => rfl) rfl
  have hg : (pAbsorb s k r a b).gh = s.gh := rfl
  have hn : (pAbsorb s k r a b).n = s.n := rfl
  have hpend : ∀ q, q ≠ q0 → pend (pAbsorb s k r a b) q = pend s q := by
    intro q e; simp only [pend, hn, hcls, hg, hUne q e]
  have hpend0 : pend (pAbsorb s k r a b) q0 = 0 := by
    unfold pend; rw [hcls, hg, hU0, ha2, hc1]; simp
  -- the contribution of the sender moves into the accumulator (`f` = accS or accR) of the receiver
  have key : ∀ (f : Proc → Nat) (x : Nat), x = f (s.procs q0) →
      f ((pAbsorb s k r a b).procs r) = f (s.procs r) + x →
      sumTo s.n (fun q => if live (pAbsorb s k r a b) q then f ((pAbsorb s k r a b).procs q) else 0) =
      sumTo s.n (fun q => if live s q then f (s.procs q) else 0) := by
    intro f x hx hfr
    have hc := sumTo_change2 (f := fun q => if live s q then f (s.procs q) else 0)
      (g := fun q => if live (pAbsorb s k r a b) q then f ((pAbsorb s k r a b).procs q) else 0) hsn hrn hne (by
        intro q _ e1 e2; simp only [live, hUne q e1, hP q e2])
    have l1 : live s q0 := Or.inr ⟨ha2, hu1 ▸ Nat.succ_ne_zero _⟩
    have l2 : ¬ live (pAbsorb s k r a b) q0 := by
      unfold live; rw [hcls, ha2, hU0]; exact fun t => t.elim (by decide) fun t => t.2 rfl
    have l3 : live s r := Or.inl (Nat.le_of_eq hb1)
    have l4 : live (pAbsorb s k r a b) r := Or.inl (by rw [hcls]; exact Nat.le_of_eq hb1)
    simp only [if_pos l1, if_neg l2, if_pos l3, if_pos l4, hfr] at hc
    omega
  refine h.update rfl rfl hP (fun _ _ => rfl) (fun q _ _ e => hUne q fun t => e (t ▸ hdst.symm)) (fun q _ _ _ => hD q)
    (by rintro rfl; rw [hpr]; exact ⟨rfl, rfl⟩) ⟨rfl, rfl⟩ (h.U_zero hrn (Nat.le_of_eq hb1))
    (fun k' hk' => Or.inl (List.mem_of_mem_eraseIdx hk')) ?_ (fun _ => by rw [hcls]; exact h.root) ?_
    (fun e => by rw [hcls, hb1] at e; cases e) (hpend r (Ne.symm hne))
    ((key Proc.accS a ha (by rw [hpr])).trans h.fS) ((key Proc.accR b hb (by rw [hpr])).trans h.fR)
  · intro q h0 hq _
    have old := h.edge q h0 hq
    unfold Edge at old ⊢
    rw [hcls, hcls, hD, hD]
    by_cases e : q = q0
    · subst e; rw [hU0]; rw [hu1] at old; exact edge_absorb old (by rw [← hdst, hb1]; decide)
    · rw [hUne q e]; exact old
  · -- one child less owes its contribution
    intro _
    have := h.ncl1 r hrn hb1
    rw [hpr]
    show (s.procs r).ncl - 1 = _
    rcases (parent_eq_iff hs0).1 hdst.symm with e1 | e1
    · rw [hpend (2 * r + 2) (by omega), ← e1, hpend0]; rw [← e1, hp1] at this; omega
    · rw [hpend (2 * r + 1) (by omega), ← e1, hpend0]; rw [← e1, hp1] at this; omega

theorem pend_zero {s : State} {q : Nat} (h : pend s q = 0) (hq : q < s.n) :
    cls (s.procs q).st = 2 ∧ b2n (s.gh q).c = 1 ∧ U s q = 0 := by
  unfold pend at h
  by_cases hc : cls (s.procs q).st = 2 ∧ b2n (s.gh q).c = 1 ∧ U s q = 0
  · exact hc
  · rw [if_pos ⟨hq, hc⟩] at h; omega

theorem Struct.children_done {s : State} (h : Struct s) {r : Nat} (hr : r < s.n) (h1 : cls (s.procs r).st = 1)
    (hncl : (s.procs r).ncl = 0) {q : Nat} (h0 : 0 < q) (hpar : parent q = r) (hq : q < s.n) :
    cls (s.procs q).st = 2 ∧ b2n (s.gh q).c = 1 ∧ U s q = 0 := by
  have hpz := h.ncl1 r hr h1
  rw [hncl] at hpz
  exact pend_zero (by have := pend_le_of_parent s h0 hpar; omega) hq

theorem sampleUp_spec (s : State) (me : Nat) :
    (∀ q, q ≠ me → (sampleUp s me).procs q = s.procs q) ∧
    (sampleUp s me).procs me = { accAdd (s.procs me) with ncl := nbChildren s.n me, st := .idleWP } ∧
    (∀ q, q ≠ me → (sampleUp s me).gh q = s.gh q) ∧
    (sampleUp s me).gh me = { s.gh me with c := true, prevS := (s.gh me).curS, prevR := (s.gh me).curR,
                                           curS := (s.procs me).ms, curR := (s.procs me).mr } :=
  ⟨fun _ e => upd_ne _ _ _ _ e, upd_same .., fun _ e => upd_ne _ _ _ _ e, upd_same ..⟩

theorem Struct.sample {s : State} (h : Struct s) {me : Nat} (h0 : 0 < me) (hme : me < s.n)
    (h1 : cls (s.procs me).st = 1) (hncl : (s.procs me).ncl = 0) : Struct (sampleUp s me) := by
  have hcme : (s.gh me).c = false := h.c_false_of_wfc hme (by omega)
  have hn : (sampleUp s me).n = s.n := rfl
  have hst : (sampleUp s me).started = s.started := rfl
  have hnet : ∀ k, k ∈ (sampleUp s me).net → k ∈ s.net ∨
      k = ⟨me, parent me, .up (accAdd (s.procs me)).accS (accAdd (s.procs me)).accR, false⟩ :=
    fun k hk => by simpa [sampleUp] using hk
  obtain ⟨hacc, hpm, hc, hgm⟩ := sampleUp_spec s me
  have hcm : ((sampleUp s me).gh me).c = true := by rw [hgm]
  have hgm : ((sampleUp s me).gh me).curS = (s.procs me).ms ∧ ((sampleUp s me).gh me).curR = (s.procs me).mr := by
    rw [hgm]; exact ⟨rfl, rfl⟩
  have hk : sKS ((sampleUp s me).gh me) = sKS (s.gh me) ∧ sKR ((sampleUp s me).gh me) = sKR (s.gh me) := by
    simp [sampleUp, sKS, sKR, hcme]
  have hU : ∀ q, q ≠ me → U (sampleUp s me) q = U s q := by
    intro q e; simp [U, sampleUp, isUpFrom, beq_false_of_ne (Ne.symm e)]
  have hUm : U (sampleUp s me) me = U s me + 1 := by simp [U, sampleUp, isUpFrom]
  have hD : ∀ q r, D (sampleUp s me) q r = D s q r := by intro q r; simp [D, sampleUp, isDownTo]
  generalize sampleUp s me = s' at *
  have hclsm : cls (s'.procs me).st = 2 := by rw [hpm]; rfl
  -- `me` adds its counter `m` (ms or mr) to its accumulator `f` and records it as latest contribution `g`
  have key : ∀ (f : Proc → Nat) (g : PGhost → Nat) (m : Nat),
      f (s'.procs me) = f (s.procs me) + m → g (s'.gh me) = m →
      sumTo s.n (fun q => if live s q then f (s.procs q) else 0) =
        sumTo s.n (fun q => if (s.gh q).c then g (s.gh q) else 0) →
      sumTo s.n (fun q => if live s' q then f (s'.procs q) else 0) =
        sumTo s.n (fun q => if (s'.gh q).c then g (s'.gh q) else 0) := by
    intro f g m hf hg old
    have c1 := sumTo_change (f := fun q => if live s q then f (s.procs q) else 0)
      (g := fun q => if live s' q then f (s'.procs q) else 0) hme (by
        intro q _ e; simp only [live, hU q e, hacc q e])
    have c2 := sumTo_change (f := fun q => if (s.gh q).c then g (s.gh q) else 0)
      (g := fun q => if (s'.gh q).c then g (s'.gh q) else 0) hme (by
        intro q _ e; simp only [hc q e])
    have l1 : live s me := Or.inl (Nat.le_of_eq h1)
    have l2 : live s' me := Or.inr ⟨hclsm, hUm ▸ Nat.succ_ne_zero _⟩
    simp only [if_pos l1, if_pos l2, hf, hcme, hcm, hg, if_true, Bool.false_eq_true, if_false] at c1 c2
    omega
  refine h.update hn hst hacc hc (fun q _ e _ => hU q e) (fun q _ _ _ => hD q) (fun e => absurd e (by omega)) hk
    (h.U_zero hme (by omega))
    (fun k hk' => (hnet k hk').imp_right (by rintro rfl; exact ⟨h0, hn ▸ hme, rfl, by rw [hpm], by rw [hpm]⟩))
    ?_ (fun e => absurd e (by omega)) (fun e => by rw [hclsm] at e; cases e) (fun _ => by rw [hpm])
    (by unfold pend; rw [hn, hclsm, hUm, h1]; simp)
    (key Proc.accS PGhost.curS (s.procs me).ms (by rw [hpm]; rfl) hgm.1 h.fS)
    (key Proc.accR PGhost.curR (s.procs me).mr (by rw [hpm]; rfl) hgm.2 h.fR)
  rintro q hq0 hq (rfl | e2) <;> have old := h.edge q hq0 hq <;> unfold Edge at old ⊢ <;> rw [hD, hD]
  · rw [hclsm, hacc _ (parent_ne_self hq0), hcm, hc _ (parent_ne_self hq0), hUm]
    rw [h1] at old
    exact edge_sample_self old
  · -- a child of `me` has contributed and its UP message has been absorbed
    have e1 : q ≠ me := by have := parent_lt hq0; omega
    obtain ⟨a2, c1, u0⟩ := h.children_done hme h1 hncl hq0 e2 hq
    rw [hacc q e1, hc q e1, hU q e1, e2, hclsm, hcm, a2, c1, u0]
    rw [e2, h1, hcme, a2, c1, u0] at old
    exact edge_sample_parent old

/-- msg_down on `me` before its closing check: DOWN(`res`), packet `k`, is consumed and forwarded to the children,
    `v` is the new monitor of `me` -/
abbrev pDown (s : State) (k me : Nat) (res : Bool) (v : Proc) : State :=
  setP { s with net := s.net.eraseIdx k ++ downs s.n me res } me v

section
variable {s : State} {k me : Nat} {res : Bool} {v : Proc} {pk : Packet}

theorem pDown_U (hk : s.net[k]? = some pk) (hkind : pk.kind = .down res) (q : Nat) :
    U (pDown s k me res v) q = U s q := by
  show cnt _ (_ ++ _) = _
  rw [cnt_append, cnt_up_downs]; exact cnt_eraseIdx_of_false _ hk (by simp [isUpFrom, hkind])

theorem pDown_D (hk : s.net[k]? = some pk) (hkind : pk.kind = .down res) (hdst : pk.dst = me) (q : Nat) (x : Bool) :
    D (pDown s k me res v) q x + b2n (me == q && res == x) =
      D s q x + (if 0 < q ∧ parent q = me ∧ q < s.n then b2n (res == x) else 0) := by
  have := cnt_eraseIdx (isDownTo q x) hk
  simp only [isDownTo, hkind, hdst] at this
  simp only [D, pDown, setP, cnt_append, cnt_down_downs]
  omega

theorem pDown_D_self (hk : s.net[k]? = some pk) (hkind : pk.kind = .down res) (hdst : pk.dst = me) (x : Bool) :
    D (pDown s k me res v) me x + b2n (res == x) = D s me x := by
  have := pDown_D (v := v) hk hkind hdst me x
  rwa [beq_self_eq_true, Bool.true_and, if_neg fun h => parent_ne_self h.1 h.2.1, Nat.add_zero] at this

theorem pDown_D_child (hk : s.net[k]? = some pk) (hkind : pk.kind = .down res) (hdst : pk.dst = me)
    {q : Nat} (hq0 : 0 < q) (hpar : parent q = me) (hq : q < s.n) (x : Bool) :
    D (pDown s k me res v) q x = D s q x + b2n (res == x) := by
  have := pDown_D (v := v) hk hkind hdst q x
  rwa [beq_false_of_ne (show me ≠ q by have := parent_lt hq0; omega), Bool.false_and, b2n_false, Nat.add_zero,
    if_pos ⟨hq0, hpar, hq⟩] at this

theorem pDown_D_other (hk : s.net[k]? = some pk) (hkind : pk.kind = .down res) (hdst : pk.dst = me)
    {q : Nat} (e1 : q ≠ me) (e2 : parent q ≠ me) (x : Bool) :
    D (pDown s k me res v) q x = D s q x := by
  have := pDown_D (v := v) hk hkind hdst q x
  rwa [beq_false_of_ne (Ne.symm e1), Bool.false_and, b2n_false, Nat.add_zero, if_neg fun h => e2 h.2.1,
    Nat.add_zero] at this

theorem pDown_app (hk : s.net[k]? = some pk) (hkind : pk.kind = .down res) :
    cnt isApp (pDown s k me res v).net = cnt isApp s.net := by
  show cnt _ (_ ++ _) = _
  rw [cnt_append, cnt_app_downs]; exact cnt_eraseIdx_of_false _ hk (by simp [isApp, hkind])

end

theorem Struct.down_finds {s : State} (h : Struct s) {pk : Packet} {res : Bool} (hm : pk ∈ s.net)
    (hkind : pk.kind = .down res) :
    cls (s.procs pk.dst).st = 2 ∧ cls (s.procs (parent pk.dst)).st = (if res then 3 else 1) ∧
      0 < pk.dst ∧ pk.dst < s.n := by
  have hpk := h.pk pk hm
  unfold PkOK at hpk; rw [hkind] at hpk
  obtain ⟨d, hd⟩ := Nat.exists_eq_succ_of_ne_zero
    (Nat.ne_of_gt (cnt_pos_of_mem (isDownTo pk.dst res) hm (by simp [isDownTo, hkind])))
  have old := h.edge _ hpk.1 hpk.2.1
  unfold Edge D at old
  cases res <;> rw [hd] at old
  · exact ⟨(edge_downF old).1, (edge_downF old).2.2.2.2.2.1, hpk.1, hpk.2.1⟩
  · exact ⟨(edge_downT old).1, (edge_downT old).2.2.2.2.2, hpk.1, hpk.2.1⟩

/-- the new monitor `v` collects again with empty accumulators (`res = false`) or has terminated (`res = true`) -/
theorem Struct.down {s : State} (h : Struct s) {k : Nat} {pk : Packet} {res : Bool} {v : Proc}
    (hk : s.net[k]? = some pk) (hkind : pk.kind = .down res)
    (hv : cls v.st = if res then 3 else 1)
    (hacc : res = false → v.accS = 0 ∧ v.accR = 0 ∧ v.ncl = (s.procs pk.dst).ncl) :
    Struct (pDown s k pk.dst res v) := by
  obtain ⟨-, -, h0, hme⟩ := h.down_finds (List.mem_of_getElem? hk) hkind
  generalize hme' : pk.dst = me at *
  have hU := pDown_U (me := me) (v := v) hk hkind
  have hg : (pDown s k me res v).gh = s.gh := rfl
  have hcls : ∀ q, q ≠ me → (pDown s k me res v).procs q = s.procs q := fun q e => setP_procs_ne _ _ e
  have hpm : (pDown s k me res v).procs me = v := setP_procs_same ..
  have hv2 : cls v.st ≠ 2 := by rw [hv]; cases res <;> decide
  have oldm := h.edge me h0 hme
  unfold Edge at oldm
  rw [← pDown_D_self (v := v) hk hkind hme' false, ← pDown_D_self (v := v) hk hkind hme' true] at oldm
  obtain ⟨a2, c0, u0, hb, newm⟩ := edge_down_self res oldm
  have hchild : ∀ q, 0 < q → parent q = me → q < s.n → b2n (s.gh q).c = 0 ∧ Edge (pDown s k me res v) q := by
    intro q hq0 hpar hq
    have old := h.edge q hq0 hq
    unfold Edge at old ⊢
    rw [hpar, a2, c0] at old
    have e' : q ≠ me := by have := parent_lt hq0; omega
    rw [hg, hU, hcls q e', hpar, hpm, hv, c0, pDown_D_child hk hkind hme' hq0 hpar hq,
      pDown_D_child hk hkind hme' hq0 hpar hq]
    exact ⟨(edge_down_parent res old).2.1, (edge_down_parent res old).2.2⟩
  -- `me` does not count among the live accumulators before, and after only with `f v = 0`
  have key : ∀ f : Proc → Nat, (res = false → f v = 0) →
      sumTo s.n (fun q => if live (pDown s k me res v) q then f ((pDown s k me res v).procs q) else 0) =
      sumTo s.n (fun q => if live s q then f (s.procs q) else 0) := by
    intro f hf
    apply sumTo_congr; intro q _
    by_cases e : q = me
    · subst e
      have l0 : ¬ live s q := by unfold live; omega
      rw [if_neg l0, hpm]
      cases res
      · rw [hf rfl]; exact ite_self 0
      · exact if_neg (by unfold live; rw [hpm, hv]; simp)
    · simp only [live, hcls q e, hU]
  refine h.update rfl rfl hcls (fun _ _ => rfl) (fun q _ _ _ => hU q)
    (fun q _ e1 e2 => pDown_D_other hk hkind hme' e1 e2) (fun e => absurd e (by omega)) ⟨rfl, rfl⟩ u0
    (fun k' hk' => (List.mem_append.1 hk').imp List.mem_of_mem_eraseIdx pkOK_downs) ?_
    (fun e => absurd e (by omega)) ?_ (fun e => absurd (hpm ▸ e) hv2)
    (by rw [pend_eq_one (by rw [hpm]; exact fun _ t => hv2 t.1), pend_eq_one (by omega)]; rfl)
    ((key Proc.accS fun e => (hacc e).1).trans h.fS) ((key Proc.accR fun e => (hacc e).2.1).trans h.fR)
  · rintro q hq0 hq (rfl | e2)
    · unfold Edge
      rw [hg, hU, hpm, hv, hcls _ (parent_ne_self hq0)]
      exact newm
    · exact (hchild q hq0 e2 hq).2
  · -- collecting again: every child waits for the message just forwarded, so all of them owe
    rw [hpm]
    intro hr1
    have hres : res = false := by cases res <;> simp_all
    rw [(hacc hres).2.2, h.ncl2 me hme a2, pend_all fun q hq0 hpar hq t => by
      have := (hchild q hq0 hpar hq).1
      rw [hg] at t; omega]
    rfl

theorem Struct.allC {s : State} (h : Struct s) (h1 : cls (s.procs 0).st = 1) (hncl : (s.procs 0).ncl = 0) :
    ∀ q, 0 < q → q < s.n →
      cls (s.procs q).st = 2 ∧ b2n (s.gh q).c = 1 ∧ U s q = 0 ∧ D s q false = 0 ∧ D s q true = 0 := by
  intro q
  induction q using Nat.strongRecOn with
  | _ q ih =>
    intro h0 hq
    have old := h.edge q h0 hq
    unfold Edge at old
    by_cases hp : parent q = 0
    · obtain ⟨a2, c1, u0⟩ := h.children_done (by omega) h1 hncl h0 hp hq
      rw [a2, c1, u0] at old
      have := edge_notpend old
      exact ⟨a2, c1, u0, this.1, this.2.1⟩
    · have hpl := parent_lt h0
      obtain ⟨a2, c1, _, _, _⟩ := ih (parent q) hpl (by omega) (by omega)
      rw [a2, c1] at old
      exact edge_parent_wfp_c old

theorem rootDecide_procs_ne (s : State) {q : Nat} (e : q ≠ 0) : (rootDecide s).procs q = s.procs q := by
  simp [rootDecide, e]

theorem cls_rootAfter (n : Nat) (p : Proc) (h1 : cls p.st = 1) :
    cls (rootAfter n (accAdd p)).st = if rootRes n (accAdd p) then 3 else 1 := by
  unfold rootAfter
  split
  · rfl
  · exact h1

theorem last_rootDecide (s : State) :
    ((rootDecide s).procs 0).lastS = (((s.procs 0).accS + (s.procs 0).ms : Nat) : Int) ∧
    ((rootDecide s).procs 0).lastR = (((s.procs 0).accR + (s.procs 0).mr : Nat) : Int) := by
  simp only [rootDecide, upd_same]; unfold rootAfter; split <;> exact ⟨rfl, rfl⟩

/-- at the root's decision; `f` = accS or accR, `m` the root's own counter, `g` = curS or curR -/
theorem Struct.root_sum {s : State} (h : Struct s) (hn : 0 < s.n) (h1 : cls (s.procs 0).st = 1)
    (hncl : (s.procs 0).ncl = 0) (f : Proc → Nat) (g : PGhost → Nat) (m : Nat)
    (hf : sumTo s.n (fun q => if live s q then f (s.procs q) else 0) =
          sumTo s.n (fun q => if (s.gh q).c then g (s.gh q) else 0)) :
    f (s.procs 0) + m = sumTo s.n (fun q => if q = 0 then m else g (s.gh q)) := by
  have hall := h.allC h1 hncl
  have e1 : sumTo s.n (fun q => if live s q then f (s.procs q) else 0) = f (s.procs 0) := by
    rw [sumTo_single hn]
    · exact if_pos (Or.inl (by omega))
    · intro q hq e
      obtain ⟨a2, _, u0, _⟩ := hall q (by omega) hq
      exact if_neg (by unfold live; omega)
  have e2 := sumTo_change (f := fun q => if (s.gh q).c then g (s.gh q) else 0)
    (g := fun q => if q = 0 then m else g (s.gh q)) hn (by
      intro q hq e
      simp only [if_neg e, b2n_eq_one.1 (hall q (by omega) hq).2.1, if_true])
  simp only [h.root.2, if_true] at e2
  have : (if false = true then g (s.gh 0) else 0) = 0 := rfl
  omega

theorem Struct.decide {s : State} (h : Struct s) (hn : 0 < s.n) (h1 : cls (s.procs 0).st = 1)
    (hncl : (s.procs 0).ncl = 0) : Struct (rootDecide s) := by
  have hall := h.allC h1 hncl
  generalize hres : rootRes s.n (accAdd (s.procs 0)) = res
  have hcls0 : cls ((rootDecide s).procs 0).st = if res then 3 else 1 := by
    simp only [rootDecide, upd_same]; rw [cls_rootAfter _ _ h1, hres]
  have hpq : ∀ q, q ≠ 0 → (rootDecide s).procs q = s.procs q := fun q e => rootDecide_procs_ne s e
  have hc : ∀ q, ((rootDecide s).gh q).c = false := fun _ => rfl
  have hN : (rootDecide s).n = s.n := rfl
  have hU : ∀ q, U (rootDecide s) q = U s q := by
    intro q; simp [U, rootDecide, cnt_up_downs]
  have hD : ∀ q x, D (rootDecide s) q x =
      D s q x + if 0 < q ∧ parent q = 0 ∧ q < s.n then b2n (res == x) else 0 := by
    intro q x; simp [D, rootDecide, cnt_down_downs, hres]
  -- after the decision nobody holds a live accumulator (`f` = accS or accR) and nobody has contributed
  have key : ∀ (f : Proc → Nat) (g : PGhost → Nat), (res = false → f ((rootDecide s).procs 0) = 0) →
      sumTo s.n (fun q => if live (rootDecide s) q then f ((rootDecide s).procs q) else 0) =
      sumTo s.n (fun q => if ((rootDecide s).gh q).c then g ((rootDecide s).gh q) else 0) := by
    intro f g hf
    rw [sumTo_zero, sumTo_zero]
    · intro q _; simp [hc]
    · intro q hq
      by_cases e : q = 0
      · subst e
        cases res with
        | true => exact if_neg (by unfold live; rw [hcls0]; simp)
        | false => rw [hf rfl]; exact ite_self 0
      · obtain ⟨a2, _, u0, _, _⟩ := hall q (by omega) hq
        exact if_neg (by unfold live; rw [hpq q e, hU]; omega)
  refine ⟨?_, ?_, ?_, ?_, ?_, ?_, ?_, ?_, ?_, ?_⟩
  · intro k hk
    simp only [rootDecide, List.mem_append] at hk
    rcases hk with hm | hm
    · exact (h.pk k hm).frame hm (h.U_zero hn (by omega)) rfl hpq
    · exact pkOK_downs hm
  · -- every edge is in a known configuration: DOWN(`res`) on its way to a child of the root, a fresh wave elsewhere
    intro q hq0 hq
    have hq : q < s.n := hq
    obtain ⟨a2, -, u0, d00, d10⟩ := hall q hq0 hq
    unfold Edge
    rw [hc, hc, hU, hD, hD, hpq q (by omega), a2, u0, d00, d10]
    by_cases hp : parent q = 0
    · simp only [if_pos (show 0 < q ∧ parent q = 0 ∧ q < s.n from ⟨hq0, hp, hq⟩)]
      rw [hp, hcls0]
      cases res
      · exact .again
      · exact .stop
    · have hpl := parent_lt hq0
      simp only [if_neg fun t : 0 < q ∧ parent q = 0 ∧ q < s.n => hp t.2.1]
      rw [hpq _ hp, (hall (parent q) (by omega) (by omega)).1]
      exact .reset
  · rw [hcls0, hc]; cases res <;> simp
  · intro r hr hr1
    by_cases e : r = 0
    · subst e
      rw [pend_all fun q _ _ _ t => by rw [hc] at t; cases t.2.1]
      simp only [rootDecide, upd_same]
      unfold rootAfter
      split <;> rfl
    · rw [hpq r e] at hr1
      have := (hall r (by omega) hr).1; omega
  · intro r hr hr2
    by_cases e : r = 0
    · subst e; rw [hcls0] at hr2; cases res <;> simp at hr2
    · rw [hpq r e] at hr2 ⊢; exact h.ncl2 r hr hr2
  · intro q hq h3
    by_cases e : q = 0
    · subst e; exact h3
    · rw [hpq q e] at h3
      have := (hall q (by omega) hq).1; omega
  · rw [hN]; exact key Proc.accS PGhost.curS fun hr => by simp [rootDecide, rootAfter, hres, hr]
  · rw [hN]; exact key Proc.accR PGhost.curR fun hr => by simp [rootDecide, rootAfter, hres, hr]
  · intro _
    rw [hN, (last_rootDecide s).1, (last_rootDecide s).2,
      h.root_sum hn h1 hncl Proc.accS PGhost.curS _ h.fS, h.root_sum hn h1 hncl Proc.accR PGhost.curR _ h.fR]
    -- `ghDecide` clears `c`, so `sKS`, `sKR` of the new ghosts are their `cur`, the summands of `root_sum`
    exact ⟨rfl, rfl⟩
  · intro hs; simp [rootDecide] at hs

end ParsecVerif.FourCounter
