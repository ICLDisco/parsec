import ParsecVerif.Proofs.MaxHeap
/-!
  `Shape n t` (the invariant used by the proofs: subtree sizes `lsz n` / `rsz n`) implies the textbook
  recursive definition of a complete (left-complete) binary tree.
-/
namespace ParsecVerif.MaxHeap

inductive Perfect : Nat → Tree → Prop
  | nil : Perfect 0 .nil
  | node {h : Nat} {l r : Tree} {x : Task} : Perfect h l → Perfect h r → Perfect (h + 1) (.node l x r)

/-- textbook left-complete tree whose deepest level is `k` (root = level 0): the last level stops inside the left
    subtree (then the right subtree is perfect, one level shorter) or continues in the right subtree -/
inductive LeftComplete : Nat → Tree → Prop
  | leaf {x : Task} : LeftComplete 0 (.node .nil x .nil)
  | left {k : Nat} {l r : Tree} {x : Task} : LeftComplete k l → Perfect k r → LeftComplete (k + 1) (.node l x r)
  | right {k : Nat} {l r : Tree} {x : Task} : Perfect (k + 1) l → LeftComplete k r → LeftComplete (k + 1) (.node l x r)

theorem shape_perfect : ∀ (t : Tree) (h : Nat), Shape (2 ^ h - 1) t → Perfect h t
  | .nil, h, hs => by
    cases h with
    | zero => exact .nil
    | succ h => have := Nat.two_pow_pos h; exact absurd (hs : 2 ^ (h + 1) - 1 = 0) (show 2 ^ (h + 1) - 1 ≠ 0 by omega)
  | .node l x r, 0, hs => absurd rfl hs.1
  | .node l x r, h + 1, ⟨_, sl, sr⟩ =>
    .node (shape_perfect l h ((lsz_rsz_perfect h).1 ▸ sl)) (shape_perfect r h ((lsz_rsz_perfect h).2 ▸ sr))

theorem shape_leftComplete : ∀ (t : Tree) (n : Nat), Shape n t → n ≠ 0 → LeftComplete n.log2 t
  | .nil, _, hs, h0 => absurd hs h0
  | .node l x r, n, ⟨_, sl, sr⟩, _ => by
    by_cases h1 : n = 1
    · subst h1
      rw [lsz_one] at sl
      rw [rsz_one] at sr
      rw [Shape_zero sl, Shape_zero sr, show (1 : Nat).log2 = 0 from Nat.log2_two_pow (n := 0)]
      exact .leaf
    · obtain ⟨j, ρ, rfl, hρ⟩ := decomp2 n (by omega)
      rw [log2_eq (j + 1) ρ hρ]
      rw [(lsz_rsz_val j ρ hρ).1] at sl
      rw [(lsz_rsz_val j ρ hρ).2] at sr
      have hp := Nat.two_pow_pos j
      by_cases hc : 2 ^ j ≤ ρ
      · rw [if_pos hc] at sl sr
        have hr := shape_leftComplete r ρ sr (by omega)
        rw [log2_of_bounds hc hρ] at hr
        exact .right (shape_perfect l (j + 1) sl) hr
      · rw [if_neg hc] at sl sr
        have hl := shape_leftComplete l _ sl (by omega)
        rw [log2_eq j ρ (by omega)] at hl
        exact .left hl (shape_perfect r j sr)

end ParsecVerif.MaxHeap
