import ParsecVerif.Proofs.Dtd
/-!
  The inductive invariant `Inv` of the DTD runtime machine, and what it says, in terms of the program alone,
  about the flow count, the reader count and the test a task has to pass before its body starts (`start_iff`).
-/
namespace ParsecVerif.Dtd

theorem lt_of_status {s : St} {t : Nat} {x : Status} (h : (s.status[t]? == some x) = true) :
    t < s.status.length := (List.getElem?_eq_some_iff.1 (beq_iff_eq.1 h)).1

theorem status_ne {s : St} {t : Nat} {x y : Status} (h : (s.status[t]? == some x) = true) (hxy : x ≠ y) :
    (s.status[t]? == some y) = false := by
  rw [beq_iff_eq.1 h]; simpa using hxy

theorem started_lt (s : St) (t : Nat) (h : started s t = true) : t < s.status.length :=
  (Bool.or_eq_true_iff.1 h).elim lt_of_status lt_of_status

theorem not_done_ge (s : St) (u : Nat) (h : s.status.length ≤ u) : isDone s u = false :=
  Bool.eq_false_iff.2 fun hd => Nat.not_lt.2 h (lt_of_status hd)

theorem isDone_started (s : St) (t : Nat) (h : isDone s t = true) : started s t = true := by
  simp [started, h]

theorem started_of_running (s : St) (t : Nat) (h : isRunning s t = true) : started s t = true := by
  simp [started, h]

theorem status_stepIns (s : St) (tk : Task) (t : Nat) (x : Status) (hx : x ≠ .waiting) :
    ((stepIns s tk).status[t]? == some x) = (s.status[t]? == some x) := by
  show ((s.status ++ [.waiting])[t]? == some x) = _
  rw [List.getElem?_append]
  split
  · rfl
  · next h =>
    rw [List.getElem?_eq_none (Nat.le_of_not_lt h), List.getElem?_singleton]
    split <;> simp [hx.symm]

theorem isDone_stepIns (s : St) (tk : Task) (t : Nat) : isDone (stepIns s tk) t = isDone s t :=
  status_stepIns s tk t .done (by decide)

theorem started_stepIns (s : St) (tk : Task) (t : Nat) : started (stepIns s tk) t = started s t := by
  simp only [started, isRunning, isDone, status_stepIns s tk t _ (by decide : Status.running ≠ .waiting),
    status_stepIns s tk t _ (by decide : Status.done ≠ .waiting)]

theorem not_done_of_waiting (s : St) (t : Nat) (h : isWaiting s t = true) : isDone s t = false :=
  status_ne h (by decide)

theorem isWaiting_of_lt (s : St) (t : Nat) (hl : t < s.status.length) (hr : Status.running ∉ s.status)
    (hd : isDone s t = false) : isWaiting s t = true := by
  simp only [isDone, isWaiting, List.getElem?_eq_getElem hl] at *
  cases hst : s.status[t] with
  | waiting => rfl
  | running => exact absurd (hst ▸ List.getElem_mem hl) hr
  | done => simp [hst] at hd

theorem not_done_of_running (s : St) (t : Nat) (h : isRunning s t = true) : isDone s t = false :=
  status_ne h (by decide)

theorem status_set_beq {s : St} {t : Nat} {x : Status} (h : (s.status[t]? == some x) = true) (y z : Status)
    (u : Nat) : ((s.status.set t y)[u]? == some z) = if u = t then y == z else (s.status[u]? == some z) := by
  rw [List.getElem?_set]
  by_cases e : t = u
  · subst e; simp [lt_of_status h]
  · simp [e, Ne.symm e]

theorem isDone_stepStart (s : St) (t : Nat) (tk : Task) (u : Nat) (hw : isWaiting s t = true) :
    isDone (stepStart s t tk) u = isDone s u := by
  simp only [isDone, stepStart, status_set_beq hw]
  split
  · next e => rw [e]; exact (not_done_of_waiting s t hw).symm
  · rfl

theorem started_stepStart (s : St) (t : Nat) (tk : Task) (u : Nat) (hw : isWaiting s t = true) :
    started (stepStart s t tk) u = (started s u || u == t) := by
  simp only [started, isRunning, isDone, stepStart, status_set_beq hw]
  split <;> simp [*]

theorem isDone_stepFinish (s : St) (t : Nat) (tk : Task) (u : Nat) (hr : isRunning s t = true) :
    isDone (stepFinish s t tk) u = (isDone s u || u == t) := by
  simp only [isDone, stepFinish, status_set_beq hr]
  split <;> simp [*]

theorem started_stepFinish (s : St) (t : Nat) (tk : Task) (u : Nat) (hr : isRunning s t = true) :
    started (stepFinish s t tk) u = started s u := by
  simp only [started, isRunning, isDone, stepFinish, status_set_beq hr]
  split
  · next e => rw [e, show (s.status[t]? == some .running) = true from hr]; rfl
  · rfl

theorem parentDone_congr {s s' : St} (h : ∀ w, isDone s' w = isDone s w) (o : Option Nat) :
    parentDone s' o = parentDone s o := by
  cases o with
  | none => rfl
  | some w => exact h w

theorem parentDone_stepIns (s : St) (tk : Task) (o : Option Nat) :
    parentDone (stepIns s tk) o = parentDone s o := parentDone_congr (isDone_stepIns s tk) o

theorem parentDone_stepStart (s : St) (t : Nat) (tk : Task) (o : Option Nat) (hw : isWaiting s t = true) :
    parentDone (stepStart s t tk) o = parentDone s o :=
  parentDone_congr (fun w => isDone_stepStart s t tk w hw) o

theorem parentDone_stepFinish (s : St) (t : Nat) (tk : Task) (o : Option Nat) (hr : isRunning s t = true) :
    parentDone (stepFinish s t tk) o = (parentDone s o || o == some t) := by
  cases o with
  | none => simp [parentDone]
  | some w => simp only [parentDone, isDone_stepFinish s t tk w hr]; simp

/- In `mem_eq`, `k` is any position that cuts the writers of `d` into those that have completed (all below `k`) and
   the others (all at or above `k`).  By `prec` the completed writers of `d` are an initial segment of its writers, so
   such a `k` exists in every state that satisfies the invariant, and no writer of `d` lies between two such positions.
   `started_ready` is not independent: it follows from `acc_sound`, `act_iff` and `prec` (the parent is an earlier
   writer of a datum the task uses, so the two conflict). -/
structure Inv (p : Prog) (s : St) : Prop where
  len_obs : s.obs.length = s.status.length
  len_le : s.status.length ≤ p.length
  acc_sound : ∀ a, a ∈ s.accs → a.t < s.status.length ∧ usesAt p a.t a.d = true ∧
      a.wr = writesAt p a.t a.d ∧ a.parent = prevWriter p a.t a.d
  acc_complete : ∀ t d, t < s.status.length → usesAt p t d = true → ∃ a, a ∈ s.accs ∧ a.t = t ∧ a.d = d
  last_writer : ∀ d, s.lastWriter d = prevWriter p s.status.length d
  act_iff : ∀ a, a ∈ s.accs → a.act = parentDone s a.parent
  readers_eq : ∀ d, s.readers d = s.accs.countP (fun a => a.d == d && !a.wr && a.act && !isDone s a.t)
  started_ready : ∀ t, started s t = true → ∀ a, a ∈ s.accs → a.t = t → a.act = true
  prec : ∀ t u d, u < t → started s t = true → conflict p u t d = true → isDone s u = true
  mem_eq : ∀ d k, k ≤ s.status.length → (∀ u, u < k → writesAt p u d = true → isDone s u = true) →
      (∀ u, k ≤ u → writesAt p u d = true → isDone s u = false) → s.mem d = seqStore p k d
  obs_eq : ∀ t, started s t = true → s.obs[t]? = some (seqObs p t)

theorem inv_init (p : Prog) : Inv p init := by
  have hs : ∀ t, started init t = true → False := fun _ h => nomatch h
  exact ⟨rfl, Nat.zero_le _, nofun, fun t _ ht => absurd ht (Nat.not_lt_zero t), fun _ => rfl,
    nofun, fun _ => rfl, fun t ht => (hs t ht).elim, fun t _ _ _ ht => (hs t ht).elim,
    fun d k hk _ _ => by cases Nat.le_zero.1 hk; rfl, fun t ht => (hs t ht).elim⟩

theorem not_done_later {p : Prog} {s : St} (h : Inv p s) {u x d : Nat} (hux : u ≤ x) (hu : isDone s u = false)
    (hc : conflict p u x d = true) : isDone s x = false := by
  rcases Nat.eq_or_lt_of_le hux with rfl | hlt
  · exact hu
  · exact Bool.eq_false_iff.2 fun hdx => Bool.false_ne_true (hu ▸ h.prec x u d hlt (isDone_started s x hdx) hc)

theorem ready_iff_act (s : St) (t : Nat) : ready s t = true ↔ ∀ a, a ∈ s.accs → a.t = t → a.act = true := by
  simp only [ready, List.all_eq_true, Bool.or_eq_true, bne_iff_ne, ne_eq, ← Decidable.imp_iff_not_or]

theorem not_blocked_iff_readers (s : St) (t : Nat) :
    blocked s t = false ↔ ∀ a, a ∈ s.accs → a.t = t → a.wr = true → s.readers a.d = 0 := by
  simp only [blocked, List.any_eq_false, Bool.and_eq_true, beq_iff_eq, bne_iff_ne, ne_eq, not_and, Decidable.not_not,
    and_imp]

variable {p : Prog} {s : St} {t : Nat}

/-- A statement about all chain nodes is a statement about all uses of a datum by an inserted task. -/
theorem Inv.forall_node_iff (h : Inv p s) {P : Nat → Nat → Bool → Bool → Prop} :
    (∀ a, a ∈ s.accs → P a.t a.d a.wr a.act) ↔
      ∀ t d, t < s.status.length → usesAt p t d = true → P t d (writesAt p t d) (parentDone s (prevWriter p t d)) := by
  constructor
  · intro H t d ht hu
    obtain ⟨a, ha, rfl, rfl⟩ := h.acc_complete t d ht hu
    obtain ⟨_, _, h3, h4⟩ := h.acc_sound a ha
    exact h3 ▸ h4 ▸ h.act_iff a ha ▸ H a ha
  · intro H a ha
    obtain ⟨h1, h2, h3, h4⟩ := h.acc_sound a ha
    rw [h3, h.act_iff a ha, h4]
    exact H a.t a.d h1 h2

theorem Inv.ready_iff (h : Inv p s) (ht : t < s.status.length) :
    ready s t = true ↔ ∀ d, usesAt p t d = true → parentDone s (prevWriter p t d) = true := by
  rw [ready_iff_act, h.forall_node_iff (P := fun t' _ _ act => t' = t → act = true)]
  exact ⟨fun H d hu => H t d ht hu rfl, by rintro H t' d _ hu rfl; exact H d hu⟩

theorem Inv.readers_zero_iff (h : Inv p s) (d : Nat) :
    s.readers d = 0 ↔ ∀ u, u < s.status.length → usesAt p u d = true → writesAt p u d = false →
      parentDone s (prevWriter p u d) = true → isDone s u = true := by
  rw [h.readers_eq d, List.countP_eq_zero,
    h.forall_node_iff (P := fun u d' wr act => ¬ (d' == d && !wr && act && !isDone s u) = true)]
  simp only [Bool.and_eq_true, beq_iff_eq, Bool.not_eq_true', not_and, Bool.not_eq_false, and_imp]
  exact ⟨fun H u hu huu => H u d hu huu rfl, by rintro H u d' hu huu rfl; exact H u hu huu⟩

theorem Inv.not_blocked_iff (h : Inv p s) (ht : t < s.status.length) :
    blocked s t = false ↔ ∀ d, writesAt p t d = true → s.readers d = 0 := by
  rw [not_blocked_iff_readers, h.forall_node_iff (P := fun t' d wr _ => t' = t → wr = true → s.readers d = 0)]
  exact ⟨fun H d hw => H t d ht (writesAt_usesAt p t d hw) rfl hw, by rintro H t' d _ _ rfl hw; exact H d hw⟩

theorem pred_done (p : Prog) (s : St) (t : Nat) (h : Inv p s) (htn : t < s.status.length)
    (hr : ready s t = true) (hb : blocked s t = false) (u d : Nat) (hut : u < t)
    (hc : conflict p u t d = true) : isDone s u = true := by
  obtain ⟨huu, htu, hwr⟩ := (conflict_iff p u t d).1 hc
  have hpd := (h.ready_iff htn).1 hr d htu
  by_cases hx : ∃ x, u ≤ x ∧ x < t ∧ writesAt p x d = true
  · -- a writer of `d` in `[u, t)` is at or before the previous writer of `t`, which is done
    obtain ⟨x, hux, hxt, hxw⟩ := hx
    obtain ⟨w, hw1, hw2, hww⟩ := prevWriter_ge p t d x hxt hxw
    rw [hw1] at hpd
    rcases Nat.eq_or_lt_of_le (Nat.le_trans hux hw2) with rfl | huw
    · exact hpd
    · exact h.prec w u d huw (isDone_started s w hpd) (conflict_right huu hww)
  · -- no writer in `[u, t)`: `u` reads and `t` writes `d`, both below the same (done) parent, so `u`
    -- is a satisfied reader; were it not done, the copy `t` writes would still have a reader
    have hno : ∀ x, u ≤ x → x < t → writesAt p x d = false := fun x h1 h2 =>
      Bool.eq_false_iff.2 fun hxw => hx ⟨x, h1, h2, hxw⟩
    have huw := hno u (Nat.le_refl _) hut
    have htw : writesAt p t d = true := hwr.resolve_left (by rw [huw]; exact Bool.false_ne_true)
    rw [prevWriter_eq_of_no_writer p d u t (Nat.le_of_lt hut) hno] at hpd
    exact (h.readers_zero_iff d).1 ((h.not_blocked_iff htn).1 hb d htw) u (Nat.lt_trans hut htn) huu huw hpd

/-- The runtime's test ("all flows satisfied and no reader on the copies it writes") is the specification's. -/
theorem start_iff (h : Inv p s) (ht : t < s.status.length) (hnd : isDone s t = false) :
    (ready s t = true ∧ blocked s t = false) ↔ ∀ u d, u < t → conflict p u t d = true → isDone s u = true := by
  refine ⟨fun ⟨hr, hb⟩ => pred_done p s t h ht hr hb, fun hall => ?_⟩
  refine ⟨(h.ready_iff ht).2 fun d hu => ?_,
    (h.not_blocked_iff ht).2 fun d hwt => (h.readers_zero_iff d).2 fun b _ hbu hbw hpd => ?_⟩
  · cases hpp : prevWriter p t d with
    | none => rfl
    | some w =>
      obtain ⟨h1, h2, _⟩ := prevWriter_some p t d w hpp
      exact hall w d h1 (conflict_left h2 hu)
  · rcases Nat.lt_trichotomy b t with hlt | rfl | hgt
    · exact hall b d hlt (conflict_right hbu hwt)
    · rw [hwt] at hbw; cases hbw
    · -- the previous writer of a later reader `b` is `t` or a later writer, which is done only after `t`
      obtain ⟨w, hw1, hw2, hww⟩ := prevWriter_ge p b d t hgt hwt
      rw [hw1, show parentDone s (some w) = isDone s w from rfl,
        not_done_later h hw2 hnd (conflict_left hwt (writesAt_usesAt p w d hww))] at hpd
      cases hpd

end ParsecVerif.Dtd
