import ParsecVerif.Proofs.ContextInvStep
/-!
  Stamp invariant of the context machine: what the recorded stamps of a taskpool say in each of its
  states (callback once, after the last task end, decrement after the callback, ...), and the two
  "wait" facts: every recorded return of parsec_context_wait is later than the decrement of every
  taskpool added before it; every recorded return of parsec_taskpool_wait(p) is later than p's decrement.
-/
namespace ParsecVerif.Context

/-- The last clause is the decrement before the increment of a taskpool added without detector. -/
def tpOK (clk : Nat) (tp : Tp) : Prop :=
  tp.addAt < clk ∧ tp.firstBegin < clk ∧ tp.lastEnd < clk ∧ tp.cbAt < clk ∧ tp.decAt < clk ∧ tp.cbs ≤ 1 ∧
  (tp.early = true → tp.total = 0) ∧
  (tp.firstBegin ≠ 0 → tp.addAt ≠ 0 ∧ tp.addAt < tp.firstBegin) ∧
  (tp.lastEnd ≠ 0 → tp.firstBegin ≠ 0 ∧ tp.firstBegin < tp.lastEnd) ∧
  (tp.started = 0 ↔ tp.firstBegin = 0) ∧ (tp.ended = 0 ↔ tp.lastEnd = 0) ∧
  match tp.st with
  | .notAdded => tp.addAt = 0 ∧ tp.cbs = 0 ∧ tp.cbAt = 0 ∧ tp.decAt = 0 ∧ tp.started = 0 ∧ tp.ended = 0
  | .adding => tp.addAt = 0 ∧ tp.cbs = 0 ∧ tp.cbAt = 0 ∧ tp.decAt = 0 ∧ tp.started = 0 ∧ tp.ended = 0
  | .earlyCb => tp.early = true ∧ tp.addAt = 0 ∧ tp.cbs = 1 ∧ tp.cbAt ≠ 0 ∧ tp.decAt = 0 ∧ tp.started = 0 ∧ tp.ended = 0
  | .earlyDec => tp.early = true ∧ tp.addAt = 0 ∧ tp.cbs = 1 ∧ tp.cbAt ≠ 0 ∧ tp.cbAt < tp.decAt ∧ tp.started = 0 ∧ tp.ended = 0
  | .added => tp.early = false ∧ tp.addAt ≠ 0 ∧ tp.cbs = 0 ∧ tp.cbAt = 0 ∧ tp.decAt = 0
  | .inCb => tp.early = false ∧ tp.addAt ≠ 0 ∧ tp.cbs = 1 ∧ tp.addAt < tp.cbAt ∧ tp.lastEnd < tp.cbAt ∧ tp.decAt = 0 ∧
             tp.ended = tp.total ∧ tp.started = tp.total
  | .inCbN => tp.early = false ∧ tp.addAt ≠ 0 ∧ tp.cbs = 1 ∧ tp.addAt < tp.cbAt ∧ tp.lastEnd < tp.cbAt ∧ tp.decAt = 0 ∧
             tp.ended = tp.total ∧ tp.started = tp.total
  | .done => tp.cbs = 1 ∧ tp.cbAt ≠ 0 ∧ tp.cbAt < tp.decAt ∧ tp.lastEnd < tp.cbAt ∧ tp.ended = tp.total ∧ tp.started = tp.total ∧
             (tp.early = false → tp.addAt ≠ 0 ∧ tp.addAt < tp.cbAt) ∧
             (tp.early = true → tp.addAt = 0 ∨ tp.decAt < tp.addAt)

structure SInv (s : St) : Prop where
  clk : 1 ≤ s.clock
  tpok : ∀ tp ∈ s.tps, tpOK s.clock tp
  wr : ∀ r ∈ s.waitRets, r < s.clock ∧ ∀ tp ∈ s.tps, tp.addAt ≠ 0 → tp.addAt < r → tp.decAt ≠ 0 ∧ tp.decAt < r
  tw : ∀ pr ∈ s.tpWaitRets, pr.2 < s.clock ∧ ∃ tp : Tp, s.tps[pr.1]? = some tp ∧ tp.st = .done ∧ tp.decAt < pr.2
  ee : s.epochEnd < s.clock

theorem tpOK_mono {c c' : Nat} {tp : Tp} (h : tpOK c tp) (hc : c ≤ c') : tpOK c' tp := by
  unfold tpOK at *
  obtain ⟨h1, h2, h3, h4, h5, h6⟩ := h
  exact ⟨by omega, by omega, by omega, by omega, by omega, h6⟩

theorem sinv_init (k : Nat) (tps : List Tp) (hf : ∀ tp ∈ tps, tp.fresh) : SInv (init k tps) := by
  refine ⟨by simp [init], ?_, by simp [init], by simp [init], by simp [init]⟩
  intro tp hm
  obtain ⟨h1, h2, h3, h4, h5, h6, h7, h8, h9, _, h11⟩ := hf tp hm
  simp only [init] at hm ⊢
  unfold tpOK
  rw [h1]
  simp only [h2, h3, h4, h5, h6, h7, h8, h9]
  refine ⟨by omega, by omega, by omega, by omega, by omega, by omega, fun e => (h11.1 e).1, ?_⟩
  simp

theorem tpOK_cb {c : Nat} {tp : Tp} (h : tpOK c tp) :
    tp.cbs ≤ 1 ∧ (tp.st = .done → tp.cbs = 1 ∧ tp.cbAt < tp.decAt) ∧
    (tp.cbs = 1 → tp.ended = tp.total ∧ tp.started = tp.total ∧ tp.cbAt ≠ 0 ∧ tp.lastEnd < tp.cbAt ∧ tp.firstBegin < tp.cbAt) ∧
    (tp.decAt ≠ 0 → tp.cbs = 1 ∧ tp.cbAt < tp.decAt ∧ (tp.addAt ≠ 0 → tp.st = .done)) := by
  cases hst : tp.st <;> simp only [tpOK, hst] at h <;> grind

/-- What a rewrite `tp ↦ tp'` of one well-stamped descriptor at clock value `c` owes the stamp invariant. -/
def TpUpd (c : Nat) (tp tp' : Tp) : Prop :=
  tpOK c tp →
    tpOK (c + 1) tp' ∧ tp.st ≠ .done ∧ (tp'.addAt = tp.addAt ∨ tp'.addAt = c) ∧ (tp'.decAt = tp.decAt ∨ tp.decAt = 0)

variable {c : Nat} {tp : Tp}

/-- of an added taskpool `tpOK` does not read `total`, `ready` and `pend` -/
theorem tpUpd_silent {m n : Nat} {r : Bool} (hst : tp.st = .added) :
    TpUpd c tp { tp with total := m, ready := r, pend := n } := by
  intro h; simp only [tpOK, hst] at h ⊢; grind

theorem tpUpd_taskBegin (hst : tp.st = .added) :
    TpUpd c tp { tp with started := tp.started + 1, firstBegin := if tp.firstBegin = 0 then c else tp.firstBegin } := by
  intro h; simp only [tpOK, hst] at h ⊢; grind

theorem tpUpd_taskEnd (hst : tp.st = .added) (hpos : tp.ended < tp.started) :
    TpUpd c tp { tp with ended := tp.ended + 1, lastEnd := c } := by
  intro h; simp only [tpOK, hst] at h ⊢; grind

/-- the completion callback starts, from termination detection (`inCb`) or nested in another one (`inCbN`) -/
theorem tpUpd_cb {t n : Nat} {st' : TpSt} (hst : tp.st = .added) (he : tp.ended = tp.total)
    (hs : tp.started = tp.total) (hst' : st' = .inCb ∨ st' = .inCbN) :
    TpUpd c tp { tp with pend := n, st := st', cbs := tp.cbs + 1, cbAt := c, by_ := t } := by
  intro h; rcases hst' with rfl | rfl <;> simp only [tpOK, hst] at h ⊢ <;> grind

theorem tpUpd_dec (hst : tp.st = .inCb ∨ tp.st = .inCbN) :
    TpUpd c tp { tp with st := .done, decAt := c } := by
  intro h; rcases hst with hst | hst <;> simp only [tpOK, hst] at h ⊢ <;> grind

theorem tpUpd_enterAdd {t : Nat} (hst : tp.st = .notAdded) :
    TpUpd c tp { tp with st := .adding, by_ := t } := by
  intro h; simp only [tpOK, hst] at h ⊢; grind

theorem tpUpd_earlyCb (hst : tp.st = .adding) (he : tp.early = true) :
    TpUpd c tp { tp with st := .earlyCb, cbs := tp.cbs + 1, cbAt := c } := by
  intro h; simp only [tpOK, hst] at h ⊢; grind

theorem tpUpd_earlyDec (hst : tp.st = .earlyCb) :
    TpUpd c tp { tp with st := .earlyDec, decAt := c } := by
  intro h; simp only [tpOK, hst] at h ⊢; grind

theorem tpUpd_addInc (hst : tp.st = .adding) (he : tp.early = false) :
    TpUpd c tp { tp with st := .added, ready := !tp.dtd, addAt := c } := by
  intro h; simp only [tpOK, hst] at h ⊢; grind

theorem tpUpd_addIncEarly (hst : tp.st = .earlyDec) :
    TpUpd c tp { tp with st := .done, addAt := c } := by
  intro h; simp only [tpOK, hst] at h ⊢; grind

theorem Upd.tpUpd {s : St} {tr : Tr} {p : Nat} {tp tp' : Tp} {d : Loc} (hi : Inv s) (htp : s.tps[p]? = some tp)
    (hw : Upd s tr p tp tp' d) : TpUpd s.clock tp tp' := by
  cases hw with
  | taskBegin hg => exact tpUpd_taskBegin hg.2.2.1
  | taskEnd hb =>
    obtain ⟨hst, hpos⟩ := hi.task_tp hb htp
    exact tpUpd_taskEnd hst hpos
  | detect hg => exact tpUpd_cb hg.2.2.1 hg.2.2.2.2.1 (by have := hi.taskCnt _ _ htp; omega) (.inl rfl)
  | dec hb => exact tpUpd_dec (.inl (of_get htp (hi.cbFwd _ _ hb)).1)
  | addCall hg => exact tpUpd_enterAdd hg.2
  | startupAdd _ hg => exact tpUpd_enterAdd hg
  | earlyCb _ hg => exact tpUpd_earlyCb hg.1 hg.2
  | earlyDec _ hg => exact tpUpd_earlyDec hg
  | addInc _ hg => exact tpUpd_addInc hg.1 hg.2
  | addIncEarly _ hg => exact tpUpd_addIncEarly hg
  | arm hg => exact tpUpd_silent hg.2.2
  | insert hg => exact tpUpd_silent hg.1
  | startupReady _ hg => exact tpUpd_silent hg.1
  | actionLast _ _ hg hf => exact tpUpd_cb hg.1 hf.2.2.1 hf.2.2.2 (.inr rfl)
  | actionDone _ _ hg => exact tpUpd_silent hg.1
  | nestDec _ hn => exact tpUpd_dec (.inr (of_get htp (hi.nFwd _ _ _ hn List.mem_cons_self)).1)

theorem sinv_frame {s : St} (h : SInv s) {a : Int} {st tk : Bool} {mm : MMode} {wm : List WMode} {U : List Sub} {e : Nat}
    (he : e = s.epochEnd ∨ e = s.clock) :
    SInv (tick { s with active := a, started := st, token := tk, mm := mm, wm := wm, subs := U, epochEnd := e }) where
  clk := Nat.le_succ_of_le h.clk
  tpok tp hm := tpOK_mono (h.tpok tp hm) (Nat.le_succ _)
  wr r hr := ⟨Nat.lt_succ_of_lt (h.wr r hr).1, (h.wr r hr).2⟩
  tw pr hpr := ⟨Nat.lt_succ_of_lt (h.tw pr hpr).1, (h.tw pr hpr).2⟩
  ee := by have := h.ee; simp only [tick]; omega

theorem sinv_tpset {s : St} {p : Nat} {tp tp' : Tp} (h : SInv s) (htp : s.tps[p]? = some tp)
    (hu : TpUpd s.clock tp tp') {a : Int} {B : List Base} {U : List Sub} {N : List (List Nat)} :
    SInv (tick { s with active := a, bases := B, subs := U, nests := N, tps := s.tps.set p tp' }) := by
  obtain ⟨hok, hnd, hadd, hdec⟩ := hu (h.tpok tp (List.mem_of_getElem? htp))
  have hin : ∀ x ∈ s.tps.set p tp', x = tp' ∨ x ∈ s.tps := fun x hx => (List.mem_or_eq_of_mem_set hx).symm
  refine ⟨Nat.le_succ_of_le h.clk, fun x hx => ?_, fun r hr => ?_, fun pr hpr => ?_, Nat.lt_succ_of_lt h.ee⟩
  · rcases hin x hx with rfl | hx
    · exact hok
    · exact tpOK_mono (h.tpok x hx) (Nat.le_succ _)
  · obtain ⟨h1, h2⟩ := h.wr r hr
    refine ⟨Nat.lt_succ_of_lt h1, fun x hx => ?_⟩
    rcases hin x hx with rfl | hx
    · have := h2 tp (List.mem_of_getElem? htp)
      -- an add stamp set now is `clock`, later than `r`; with the old one `decAt` was set already, so it is kept
      omega
    · exact h2 x hx
  · obtain ⟨h1, x, hx, hxs, hxd⟩ := h.tw pr hpr
    have hne : p ≠ pr.1 := by rintro rfl; rw [htp] at hx; cases hx; exact hnd hxs
    exact ⟨Nat.lt_succ_of_lt h1, x, by simp only [tick, List.getElem?_set_ne hne]; exact hx, hxs, hxd⟩

theorem sinv_step {s s' : St} {tr : Tr} (hi : Inv s) (h : SInv s) (hs : step? s tr = some s') : SInv s' := by
  cases Step.of_step? hs with
  | startBarrier | startToken | waitBegin | sawZero | leave | tpWaitBegin | addReturn => exact sinv_frame h (.inl rfl)
  | barrier => exact sinv_frame h (.inr rfl)
  | waitReturn hg =>
    -- past the barrier every taskpool is unadded or done (`Inv.leaving`), so its decrement precedes the return
    refine ⟨Nat.le_succ_of_le h.clk, fun tp hm => tpOK_mono (h.tpok tp hm) (Nat.le_succ _), fun r hr => ?_,
      fun pr hpr => ⟨Nat.lt_succ_of_lt (h.tw pr hpr).1, (h.tw pr hpr).2⟩, Nat.lt_succ_of_lt h.ee⟩
    rcases List.mem_cons.1 hr with rfl | hr
    · refine ⟨Nat.lt_succ_self _, fun tp hm hne _ => ?_⟩
      have hok := h.tpok tp hm
      rcases (hi.leaving hg).2 tp hm with e | e <;> simp only [tpOK, e] at hok <;> omega
    · exact ⟨Nat.lt_succ_of_lt (h.wr r hr).1, (h.wr r hr).2⟩
  | tpWaitReturn hm htp hg =>
    refine ⟨Nat.le_succ_of_le h.clk, fun tp hm => tpOK_mono (h.tpok tp hm) (Nat.le_succ _),
      fun r hr => ⟨Nat.lt_succ_of_lt (h.wr r hr).1, (h.wr r hr).2⟩, fun pr hpr => ?_, Nat.lt_succ_of_lt h.ee⟩
    rcases List.mem_cons.1 hpr with rfl | hpr
    · have hok := h.tpok _ (List.mem_of_getElem? htp)
      simp only [tpOK, hg.1] at hok
      exact ⟨Nat.lt_succ_self _, _, htp, hg.1, by omega⟩
    · exact ⟨Nat.lt_succ_of_lt (h.tw pr hpr).1, (h.tw pr hpr).2⟩
  | thread htp hw => exact sinv_tpset h htp (hw.tpUpd hi htp)

theorem inv_sinv_run (k : Nat) (tps : List Tp) (hf : ∀ tp ∈ tps, tp.fresh) (trs : List Tr) :
    Inv (run k tps trs) ∧ SInv (run k tps trs) :=
  foldl_getD_inv (P := fun s => Inv s ∧ SInv s) (fun h hs => ⟨inv_step h.1 hs, sinv_step h.1 h.2 hs⟩) trs
    ⟨inv_init k tps hf, sinv_init k tps hf⟩

theorem SInv.wait_sound {s : St} (h : SInv s) {r : Nat} (hr : r ∈ s.waitRets) {tp : Tp} (hm : tp ∈ s.tps)
    (ha : tp.addAt ≠ 0) (hlt : tp.addAt < r) :
    tp.st = .done ∧ tp.ended = tp.total ∧ tp.started = tp.total ∧ tp.cbs = 1 ∧
    tp.lastEnd < tp.cbAt ∧ tp.cbAt < tp.decAt ∧ tp.decAt < r := by
  obtain ⟨hd0, hdr⟩ := (h.wr r hr).2 tp hm ha hlt
  obtain ⟨_, _, hcb, hdec⟩ := tpOK_cb (h.tpok tp hm)
  obtain ⟨h1, h2, h3⟩ := hdec hd0
  obtain ⟨e1, e2, _, e4, _⟩ := hcb h1
  exact ⟨h3 ha, e1, e2, h1, e4, h2, hdr⟩

end ParsecVerif.Context
