import ParsecVerif.Model.Reshape
import ParsecVerif.Props.C19
import ParsecVerif.Proofs.FutureDC
/-!
  For C18: `MPI_Sendrecv` to self as pack then unpack (`sendrecv_spec`), and the invariant of the heap machine, which runs
  C29's machine and appends a copy when a future completes (`HInv`).
-/
namespace ParsecVerif.Reshape
open ParsecVerif.MatrixTypes ParsecVerif.Future

theorem unpack_length : ∀ (offs : List Nat) (vals : List Int) (m : Mem), (unpack offs vals m).length = m.length
  | [], _, _ => by simp [unpack]
  | _ :: _, [], _ => by simp [unpack]
  | o :: os, v :: vs, m => by
    simp only [unpack]
    rw [unpack_length os vs (m.set o v)]; simp

theorem rd_set_self (m : Mem) (o : Nat) (v : Int) (h : o < m.length) : rd (m.set o v) o = v := by
  simp [rd, List.getElem?_set_self h]

theorem rd_set_ne (m : Mem) (o x : Nat) (v : Int) (h : o ≠ x) : rd (m.set o v) x = rd m x := by
  simp [rd, List.getElem?_set_ne h]

theorem rd_unpack_not_mem : ∀ (offs : List Nat) (vals : List Int) (m : Mem) (x : Nat),
    x ∉ offs.take vals.length → rd (unpack offs vals m) x = rd m x
  | [], _, _, _, _ => by simp [unpack]
  | _ :: _, [], _, _, _ => by simp [unpack]
  | o :: os, v :: vs, m, x, h => by
    simp only [unpack]
    simp only [List.length_cons, List.take_succ_cons, List.mem_cons, not_or] at h
    rw [rd_unpack_not_mem os vs (m.set o v) x h.2]
    exact rd_set_ne m o x v (fun e => h.1 e.symm)

theorem rd_unpack_get : ∀ (offs : List Nat) (vals : List Int) (m : Mem), offs.Nodup → (∀ o ∈ offs, o < m.length) →
    ∀ (k : Nat) (hk : k < offs.length) (hv : k < vals.length), rd (unpack offs vals m) offs[k] = vals[k]
  | [], _, _, _, _, k, hk, _ => by simp at hk
  | _ :: _, [], _, _, _, k, _, hv => by simp at hv
  | o :: os, v :: vs, m, hnd, hb, k, hk, hv => by
    simp only [unpack]
    have hnd' := List.nodup_cons.1 hnd
    cases k with
    | zero =>
      simp only [List.getElem_cons_zero]
      rw [rd_unpack_not_mem os vs (m.set o v) o (fun h => hnd'.1 (List.mem_of_mem_take h))]
      exact rd_set_self m o v (hb o (List.mem_cons_self))
    | succ k =>
      simp only [List.getElem_cons_succ]
      exact rd_unpack_get os vs (m.set o v) hnd'.2
        (by intro o' ho'; rw [List.length_set]; exact hb o' (List.mem_cons_of_mem _ ho')) k
        (by simpa using hk) (by simpa using hv)

theorem sendrecv_spec (soffs doffs : List Nat) (src init : Mem) (hnd : doffs.Nodup) (hb : ∀ o ∈ doffs, o < init.length) :
    (sendrecv soffs doffs src init).length = init.length ∧
    (∀ (k : Nat) (hS : k < soffs.length) (hD : k < doffs.length),
      rd (sendrecv soffs doffs src init) doffs[k] = rd src soffs[k]) ∧
    (∀ x, x ∉ doffs.take soffs.length → rd (sendrecv soffs doffs src init) x = rd init x) := by
  have hlen : (pack soffs src).length = soffs.length := List.length_map _
  refine ⟨unpack_length _ _ _, fun k hS hD => ?_, fun x hx => rd_unpack_not_mem _ _ _ _ (hlen ▸ hx)⟩
  rw [sendrecv, rd_unpack_get doffs _ init hnd hb k hD (hlen ▸ hS)]
  exact List.getElem_map _

theorem typeOffs_eq (s : Shape) (m n ld : Nat) :
    typeOffs s m n ld = regionOffsets s.uplo (C19.withDiag s.diag) m n ld := by
  obtain ⟨ub, h, -⟩ := C19.closed_form s.uplo s.diag m n ld (-1)
  unfold typeOffs; rw [h]

theorem addIfNew_prefix (env : Env) (heap : List (Nat × Mem)) (fu : Fut) : heap <+: addIfNew env heap fu := by
  unfold addIfNew; split
  · exact List.prefix_append _ _
  · exact List.prefix_refl _

theorem foldl_addIfNew_prefix (env : Env) (futs : List Fut) (heap : List (Nat × Mem)) : heap <+: futs.foldl (addIfNew env) heap :=
  Interleave.foldl_inv (P := (heap <+: ·)) (fun h' fu hp => hp.trans (addIfNew_prefix env h' fu)) futs (List.prefix_refl _)

theorem hrun_prefix (cfg : Cfg) (env : Env) (b : Nat) (pre : Bool) (progs : List (List DOp)) (sched more : List Nat) :
    (hrun cfg env b pre progs sched).heap <+: (hrun cfg env b pre progs (sched ++ more)).heap := by
  rw [hrun, hrun, List.foldl_append]
  generalize sched.foldl (hstep cfg env) (hinit env b pre progs) = s
  exact Interleave.foldl_inv (P := fun s' : HState => s.heap <+: s'.heap) (fun _ _ h => h.trans (foldl_addIfNew_prefix env _ _)) more
    (List.prefix_refl _)

theorem hrun_d (cfg : Cfg) (env : Env) (b : Nat) (pre : Bool) (progs : List (List DOp)) (sched : List Nat) :
    (hrun cfg env b pre progs sched).d = drun cfg b pre progs sched :=
  (List.foldl_hom HState.d (g₂ := dstep cfg) fun _ _ => rfl).symm

def Keys (heap : List (Nat × Mem)) : List Nat := heap.map (·.1)

theorem hasKey_iff (heap : List (Nat × Mem)) (v : Nat) : hasKey heap v = true ↔ v ∈ Keys heap := by
  simp [hasKey, Keys]

theorem hasKey_of_prefix {h1 h2 : List (Nat × Mem)} (hp : h1 <+: h2) (v : Nat) (h : hasKey h1 v = true) : hasKey h2 v = true :=
  (hasKey_iff h2 v).2 ((List.IsPrefix.map _ hp).subset ((hasKey_iff h1 v).1 h))

/-- the producer's tile comes first, under handle `k0`; every other copy is the reshape for the request its handle names;
    handles are distinct -/
structure HeapOk (env : Env) (k0 : Nat) (heap : List (Nat × Mem)) : Prop where
  head : heap.head? = some (k0, env.tile)
  tail : ∀ e ∈ heap.tail, ∃ sh : Nat, e = (valOf 1 sh, copyFor env sh)
  keys : (Keys heap).Nodup

theorem addIfNew_inv (env : Env) (k0 : Nat) (heap : List (Nat × Mem)) (fu : Fut)
    (hfu : fu.compl = true → fu.data = valOf 1 fu.shape) (h : HeapOk env k0 heap) : HeapOk env k0 (addIfNew env heap fu) := by
  have hne : heap ≠ [] := fun e => by have := h.head; rw [e] at this; cases this
  unfold addIfNew; split
  next hc =>
    refine ⟨by rw [List.head?_append, h.head]; rfl, fun e he => ?_, ?_⟩
    · rw [List.tail_append_of_ne_nil hne] at he
      rcases List.mem_append.1 he with he | he
      · exact h.tail e he
      · exact ⟨fu.shape, by rw [← hfu hc.1]; exact List.mem_singleton.1 he⟩
    · have : fu.data ∉ Keys heap := fun hm => by simp [(hasKey_iff heap _).2 hm] at hc
      unfold Keys at this ⊢
      rw [List.map_append, List.nodup_append]
      exact ⟨h.keys, by simp, fun a ha b hb => by cases List.mem_singleton.1 hb; rintro rfl; exact this ha⟩
  · exact h

structure HInv (cfg : Cfg) (env : Env) (k0 : Nat) (s : HState) : Prop extends HeapOk env k0 s.heap where
  d : FutureDC.DInv cfg s.d
  compl : ∀ fu ∈ s.d.futs, fu.compl = true → hasKey s.heap fu.data = true

theorem foldl_addIfNew_keys (env : Env) : ∀ (futs : List Fut) (heap : List (Nat × Mem)),
    ∀ fu ∈ futs, fu.compl = true → hasKey (futs.foldl (addIfNew env) heap) fu.data = true
  | f :: fs, heap, fu, hfu, hc => by
    rcases List.mem_cons.1 hfu with rfl | hfu
    · apply hasKey_of_prefix (foldl_addIfNew_prefix env fs _)
      unfold addIfNew
      by_cases hk : hasKey heap fu.data = true
      · rw [if_neg (by simp [hk])]; exact hk
      · rw [if_pos ⟨hc, by simpa using hk⟩]; simp [hasKey]
    · exact foldl_addIfNew_keys env fs _ fu hfu hc

theorem lookup_of_hasKey (heap : List (Nat × Mem)) (v : Nat) (h : hasKey heap v = true) :
    ∃ e ∈ heap, e.1 = v ∧ lookup heap v = some e.2 := by
  obtain ⟨e, he⟩ := Option.isSome_iff_exists.1 (List.find?_isSome.2 (List.any_eq_true.1 h))
  exact ⟨e, List.mem_of_find?_eq_some he, by simpa using List.find?_some he, by rw [lookup, he]; rfl⟩

theorem valOf_inj {a b : Nat} : valOf 1 a = valOf 1 b ↔ a = b := by unfold valOf; omega

theorem lookup_ok {env : Env} {k0 : Nat} {heap : List (Nat × Mem)} (h : HeapOk env k0 heap) (sh : Nat)
    (hkey : hasKey heap (valOf 1 sh) = true) :
    lookup heap (valOf 1 sh) = some (if k0 = valOf 1 sh then env.tile else copyFor env sh) := by
  obtain ⟨e, he, hk, hl⟩ := lookup_of_hasKey _ _ hkey
  obtain ⟨hhd, htl, hkeys⟩ := h
  rw [hl]
  cases heap with
  | nil => cases he
  | cons e0 tl =>
    cases Option.some.inj hhd
    rcases List.mem_cons.1 he with rfl | het
    · rw [if_pos hk]
    · obtain ⟨sh', rfl⟩ := htl e het
      cases valOf_inj.1 hk
      rw [if_neg fun e0 => (List.nodup_cons.1 hkeys).1 (List.mem_map.2 ⟨_, het, e0.symm⟩)]

theorem hinv_step (cfg : Cfg) (env : Env) (k0 : Nat) (s : HState) (t : Nat) (h : HInv cfg env k0 s) :
    HInv cfg env k0 (hstep cfg env s t) := by
  have hd := FutureDC.dinv_step cfg s.d t h.d
  have hf : ∀ fu ∈ (dstep cfg s.d t).futs, fu.compl = true → fu.data = valOf 1 fu.shape := fun fu hfu => (hd.futs fu hfu).2
  exact ⟨List.foldlRecOn _ _ h.toHeapOk fun hp hHp fu hfu => addIfNew_inv env k0 hp fu (hf fu hfu) hHp, hd,
    foldl_addIfNew_keys env _ _⟩

theorem hinv_init (cfg : Cfg) (env : Env) (b : Nat) (pre : Bool) (progs : List (List DOp)) :
    HInv cfg env (if pre then valOf 1 b else 0) (hinit env b pre progs) := by
  refine ⟨⟨rfl, nofun, by simp [hinit, Keys]⟩, FutureDC.dinv_init cfg b pre progs, ?_⟩
  intro fu hfu hc
  simp only [hinit, dinit, List.mem_singleton] at hfu
  cases pre with
  | true => subst hfu; simp [hinit, hasKey]
  | false => subst hfu; simp [newFut] at hc

theorem hinv_run (cfg : Cfg) (env : Env) (b : Nat) (pre : Bool) (progs : List (List DOp)) (sched : List Nat) :
    HInv cfg env (if pre then valOf 1 b else 0) (hrun cfg env b pre progs sched) :=
  Interleave.foldl_inv (hinv_step cfg env _) sched (hinv_init cfg env b pre progs)

/-! `Bk` and `NewOk` speak of one thread before and after a step.  Only their monotonicity in the list of futures is proved,
    and no theorem of C18 uses them (`C18_shared` has that a non-NULL answer comes from a completed future from
    `FutureDC.valok_fut`). -/

def Bk (futs : List Fut) (v : Nat) : Prop := v = 0 ∨ ∃ fu ∈ futs, fu.compl = true ∧ fu.data = v

/-- every value `th'` carries (an answer in `res`, or the value it is about to return from the scan) was already carried by
    `th`, or is backed by `futs` -/
def NewOk (futs : List Fut) (th th' : DThread) : Prop :=
  (∀ r v, (DOp.trig r, v) ∈ th'.res → (DOp.trig r, v) ∈ th.res ∨ (∃ r0, th.pc = .punlockRet v r0) ∨ Bk futs v) ∧
  (∀ v r, th'.pc = .punlockRet v r → Bk futs v)

theorem bk_append (futs l : List Fut) (v : Nat) (h : Bk futs v) : Bk (futs ++ l) v := by
  rcases h with h | ⟨fu, hfu, h1, h2⟩
  · exact Or.inl h
  · exact Or.inr ⟨fu, List.mem_append_left _ hfu, h1, h2⟩

theorem newOk_futs_append (futs l : List Fut) (th th' : DThread) (h : NewOk futs th th') : NewOk (futs ++ l) th th' :=
  ⟨fun r v hm => by
    rcases h.1 r v hm with h1 | h1 | h1
    · exact Or.inl h1
    · exact Or.inr (Or.inl h1)
    · exact Or.inr (Or.inr (bk_append _ _ _ h1)),
   fun v r hp => bk_append _ _ _ (h.2 v r hp)⟩

end ParsecVerif.Reshape
