import ParsecVerif.Proofs.MaxHeapOps
import ParsecVerif.Base.Interleave
/-!
  A pool of heaps driven by an arbitrary script of heap_create / heap_insert / heap_remove /
  heap_split_and_steal calls: every live heap keeps the invariant and no task is lost or duplicated.
-/
namespace ParsecVerif.MaxHeap

theorem length_le_of_count_le {α} [DecidableEq α] : ∀ (l k : List α), (∀ a, l.count a ≤ k.count a) → l.length ≤ k.length
  | [], _, _ => Nat.zero_le _
  | x :: l, k, h => by
    have hx : x ∈ k := List.count_pos_iff.1 (Nat.lt_of_lt_of_le (List.count_pos_iff.2 List.mem_cons_self) (h x))
    have := length_le_of_count_le l (k.erase x) fun a => by
      have := h a
      rw [List.count_cons] at this
      rw [List.count_erase]
      split <;> simp_all <;> omega
    rw [List.length_erase_of_mem hx] at this
    have := List.length_pos_of_mem hx
    rw [List.length_cons]
    omega

structure PoolInv (s : St) : Prop where
  good : ∀ o ∈ s.heaps, OInv o
  conserved : ∀ a, (s.heaps.map (hcount a)).sum + s.returned.count a = s.inserted.count a

theorem poolInv_init (n : Nat) : PoolInv (init n) := by
  refine ⟨fun o ho => ?_, fun a => by simp [init, hcount]⟩
  obtain rfl := List.eq_of_mem_replicate ho
  exact oinv_none

theorem slot_some {s : St} {i : Nat} {h : Heap} (hs : slot s i = some h) : s.heaps[i]? = some (some h) :=
  Option.join_eq_some_iff.1 hs

theorem slot_none {s : St} {i : Nat} (hi : i < s.heaps.length) (hs : slot s i = none) : s.heaps[i]? = some none :=
  (Option.join_eq_none_iff.1 hs).resolve_left (by rw [List.getElem?_eq_getElem hi]; nofun)

theorem good_set {l : List (Option Heap)} (hl : ∀ o ∈ l, OInv o) (j : Nat) {new : Option Heap} (hn : OInv new) :
    ∀ o ∈ l.set j new, OInv o := fun o ho => (List.mem_or_eq_of_mem_set ho).elim (hl o) (· ▸ hn)

/-- the sizes stay within the range of `unsigned int` as long as the number of insertions does -/
theorem PoolInv.size_le {s : St} (hs : PoolInv s) {h : Nat} {hp : Heap} (hg : s.heaps[h]? = some (some hp)) :
    hp.size ≤ s.inserted.length := by
  have hm := List.mem_of_getElem? hg
  rw [← Shape_size _ _ (hs.good _ hm hp rfl).shape, ← elems_length]
  refine length_le_of_count_le _ _ fun a => ?_
  have h1 : hp.t.elems.count a ≤ _ := Interleave.le_sum_map_of_mem (hcount a) _ _ hm
  have h2 := hs.conserved a
  omega

theorem PoolInv.set {s : St} (hs : PoolInv s) {h : Nat} {old new : Option Heap} (hg : s.heaps[h]? = some old)
    (hn : OInv new) (ins ret : List Task) (hc : ∀ a, hcount a new + ret.count a = hcount a old + ins.count a) :
    PoolInv ⟨s.heaps.set h new, ins ++ s.inserted, ret ++ s.returned⟩ := by
  refine ⟨good_set hs.good h hn, fun a => ?_⟩
  have := Interleave.sum_map_set (hcount a) s.heaps h old new hg
  have := hs.conserved a
  have := hc a
  simp only [List.count_append]
  omega

/-- `g = none`: a remove, nothing goes to a second slot; `some g`: a split into the free slot `g` -/
theorem applyOut_inv {s : St} (hs : PoolInv s) {h : Nat} {hp : Heap} (hg : s.heaps[h]? = some (some hp))
    {o : Out} (ho : TopTaken hp o) (g : Option Nat)
    (hfree : match g with
      | none => o.fresh = none
      | some g => h ≠ g ∧ s.heaps[g]? = some none) :
    PoolInv (applyOut s h g o) := by
  cases g with
  | none =>
    refine hs.set hg ho.heap [] [o.ret] fun a => ?_
    have := ho.count a
    simp only [hfree, hcount_none, hcount_some, List.count_cons, List.count_nil, beq_iff_eq] at this ⊢
    omega
  | some g =>
    refine ⟨good_set (good_set hs.good h ho.heap) g ho.fresh, fun a => ?_⟩
    have h1 := Interleave.sum_map_set (hcount a) s.heaps h _ o.heap hg
    have h1' := Interleave.sum_map_set (hcount a) (s.heaps.set h o.heap) g none o.fresh
      (by rw [List.getElem?_set_ne hfree.1]; exact hfree.2)
    have h2 := hs.conserved a
    have h3 := ho.count a
    simp only [hcount_some, hcount_none] at h1 h1'
    simp only [applyOut, List.count_cons, beq_iff_eq]
    omega

/-- the second part counts the insertions: with it `run_inv` keeps every size below `2 ^ 32` (`PoolInv.size_le`),
    which `split_spec` asks for -/
theorem step_inv (s : St) (op : Op) (hs : PoolInv s) (hlen : s.inserted.length < 2 ^ 32) :
    PoolInv (step s op).1 ∧ (step s op).1.inserted.length ≤ s.inserted.length + 1 := by
  have keep : PoolInv s ∧ s.inserted.length ≤ s.inserted.length + 1 := ⟨hs, Nat.le_succ _⟩
  have hgood := hs.good
  cases op with
  | new h =>
    simp only [step]
    split
    · rename_i hc
      exact ⟨hs.set (slot_none hc.1 hc.2) (oinv_some inv_create) [] [] fun _ => rfl, Nat.le_succ _⟩
    · exact keep
  | ins h e =>
    simp only [step]
    cases hsl : slot s h with
    | none => exact keep
    | some hp =>
      simp only
      split
      · exact keep
      · have hg := slot_some hsl
        obtain ⟨i1, -, i3⟩ := insert_spec hp e (hgood _ (List.mem_of_getElem? hg) hp rfl)
        refine ⟨hs.set hg (oinv_some i1) [e] [] fun a => ?_, Nat.le_refl _⟩
        simp only [hcount_some, i3 a, List.count_cons, List.count_nil, beq_iff_eq]
        omega
  | rem h =>
    simp only [step]
    split
    · cases hsl : slot s h with
      | none => exact keep
      | some hp =>
        simp only
        have hg := slot_some hsl
        have hi0 := hgood _ (List.mem_of_getElem? hg) hp rfl
        by_cases h0 : hp.size = 0
        · simp only [remove, Shape_zero (h0 ▸ hi0.shape)]
          exact keep
        · obtain ⟨o, r1, r3, rt⟩ := remove_spec hp hi0 h0
          simp only [r1]
          exact ⟨applyOut_inv hs hg rt none r3, Nat.le_succ _⟩
    · exact keep
  | split h g =>
    simp only [step]
    split
    · rename_i hc
      cases hsl : slot s h with
      | none => exact keep
      | some hp =>
        simp only
        have hg := slot_some hsl
        have hi0 := hgood _ (List.mem_of_getElem? hg) hp rfl
        by_cases h0 : hp.size = 0
        · simp only [split, Shape_zero (h0 ▸ hi0.shape)]
          exact keep
        · obtain ⟨o, r1, rt⟩ := split_spec hp hi0 h0 (Nat.lt_of_le_of_lt (hs.size_le hg) hlen)
          simp only [r1]
          exact ⟨applyOut_inv hs hg rt (some g) ⟨hc.2.2.1, slot_none hc.2.1 hc.2.2.2⟩, Nat.le_succ _⟩
    · exact keep

theorem run_inv : ∀ (ops : List Op) (s : St), PoolInv s → s.inserted.length + ops.length < 2 ^ 32 →
    PoolInv (run s ops)
  | [], _, h, _ => h
  | op :: rest, s, h, hl => by
    rw [List.length_cons] at hl
    have ⟨h1, h2⟩ := step_inv s op h (by omega)
    exact run_inv rest (step s op).1 h1 (by omega)

end ParsecVerif.MaxHeap
