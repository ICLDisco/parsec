import ParsecVerif.Model.Argv
/-! The specification functions `fields` / `sjoin` and the correspondence of the code-shaped model
    functions of argv.c with them. -/
namespace ParsecVerif.Argv

def fields (d : Nat) : Str → List Str
  | [] => [[]]
  | c :: t => if c = d then [] :: fields d t else (c :: (fields d t).headD []) :: (fields d t).tail
def sjoin (d : Nat) : List Str → Str
  | [] => []
  | [x] => x
  | x :: y :: r => x ++ d :: sjoin d (y :: r)

/-- `fields` and `sjoin` are the library's split and join, so the round trips are library facts -/
theorem fields_eq_splitOn (d : Nat) (s : Str) : fields d s = s.splitOn d := by
  induction s with
  | nil => rfl
  | cons c t ih =>
    obtain ⟨f, fs, hf⟩ := List.exists_cons_of_ne_nil (List.splitOn_ne_nil d t)
    simp [fields, ih, List.splitOn_cons_eq_if_modifyHead, hf]

theorem sjoin_eq_intercalate (d : Nat) (l : List Str) : sjoin d l = [d].intercalate l := by
  induction l with
  | nil => rfl
  | cons x r ih =>
    cases r with
    | nil => simp [sjoin]
    | cons y r' => simp [sjoin, ih, List.intercalate_cons_cons]

theorem fields_ne_nil (d : Nat) (s : Str) : fields d s ≠ [] :=
  fields_eq_splitOn d s ▸ List.splitOn_ne_nil d s

theorem sjoin_fields (d : Nat) (s : Str) : sjoin d (fields d s) = s := by
  rw [sjoin_eq_intercalate, fields_eq_splitOn, List.intercalate_splitOn]

theorem fields_sjoin (d : Nat) (v : List Str) (hv : v ≠ []) (h : ∀ f ∈ v, d ∉ f) :
    fields d (sjoin d v) = v := by
  rw [sjoin_eq_intercalate, fields_eq_splitOn, List.splitOn_intercalate d h hv]

theorem fields_no_delim (d : Nat) (s : Str) : ∀ f ∈ fields d s, d ∉ f := by
  induction s with
  | nil => simp [fields]
  | cons c t ih =>
    obtain ⟨f, fs, hf⟩ := List.exists_cons_of_ne_nil (fields_ne_nil d t)
    rw [hf, List.forall_mem_cons] at ih
    rw [fields, hf]
    split
    · exact List.forall_mem_cons.2 ⟨List.not_mem_nil, List.forall_mem_cons.2 ih⟩
    · rename_i h
      exact List.forall_mem_cons.2 ⟨fun hm => (List.mem_cons.1 hm).elim (Ne.symm h) ih.1, ih.2⟩

theorem flatMap_delim (d : Nat) (l : List Str) (h : l ≠ []) :
    l.flatMap (fun s => s ++ [d]) = sjoin d l ++ [d] := by
  induction l with
  | nil => exact absurd rfl h
  | cons x r ih =>
    cases r with
    | nil => simp [sjoin]
    | cons y r' => simp [sjoin, ih]

theorem sjoin_snoc (d : Nat) (v : List Str) (x : Str) (h : v ≠ []) :
    sjoin d (v ++ [x]) = sjoin d v ++ d :: x := by
  have hx := flatMap_delim d (v ++ [x]) (by simp)
  rw [List.flatMap_append, flatMap_delim d v h, List.flatMap_singleton] at hx
  exact List.append_cancel_right (by rw [← hx]; simp)

theorem fields_snoc_delim (d : Nat) (s : Str) : fields d (s ++ [d]) = fields d s ++ [[]] := by
  simp only [fields_eq_splitOn, List.splitOn_append_cons_self, List.splitOn_nil]

theorem ends_delim_of_last_field_nil {d : Nat} {s : Str} (h : (fields d s).getLast? = some []) :
    s = [] ∨ s.getLast? = some d := by
  obtain ⟨v, hv⟩ := List.getLast?_eq_some_iff.1 h
  have hs := sjoin_fields d s
  rw [hv] at hs
  by_cases hn : v = []
  · left; rw [← hs, hn]; rfl
  · right; rw [← hs, sjoin_snoc d v [] hn, List.getLast?_concat]

theorem scan_append (d : Nat) (s : Str) : scanTok d s ++ scanRest d s = s := by
  unfold scanTok scanRest; exact List.takeWhile_append_dropWhile

theorem scanTok_eq_of_rest_nil (d : Nat) (s : Str) (h : scanRest d s = []) : scanTok d s = s := by
  have := scan_append d s; rw [h, List.append_nil] at this; exact this

theorem scanTok_no_delim (d : Nat) (s : Str) : d ∉ scanTok d s := fun h => by
  simpa using List.all_eq_true.1 (List.all_takeWhile (p := (· != d))) d h

theorem scanRest_head (d : Nat) (s : Str) (h : scanRest d s ≠ []) :
    scanRest d s = d :: (scanRest d s).tail := by
  unfold scanRest at h ⊢
  have hd : (s.dropWhile (· != d)).head h = d := by simpa using List.head_dropWhile_not (· != d) h
  exact (hd ▸ List.cons_head_tail h).symm

theorem fields_scan (d : Nat) (s : Str) :
    fields d s = if scanRest d s = [] then [scanTok d s]
                 else scanTok d s :: fields d (scanRest d s).tail := by
  split
  · rename_i h
    have e := scanTok_eq_of_rest_nil d s h
    rw [e, fields_eq_splitOn]
    exact List.splitOn_eq_singleton (e ▸ scanTok_no_delim d s)
  · rename_i h
    rw [fields_eq_splitOn, fields_eq_splitOn, ← List.splitOn_append_cons_self_of_not_mem (scanTok_no_delim d s),
      ← scanRest_head d s h, scan_append]

def dropLastEmpty (l : List Str) : List Str := if l.getLast? = some [] then l.dropLast else l

theorem dropLastEmpty_cons (x : Str) (l : List Str) (h : l ≠ []) :
    dropLastEmpty (x :: l) = x :: dropLastEmpty l := by
  simp only [dropLastEmpty, List.getLast?_cons_of_ne_nil h, List.dropLast_cons_of_ne_nil h]
  split <;> rfl

/-- The loop of `parsec_argv_split_inter` never yields the empty field behind a trailing delimiter:
    it ends when the source is exhausted. -/
theorem splitInter_eq (incl : Bool) (d : Nat) (s : Str) :
    splitInter incl d s =
      if incl then dropLastEmpty (fields d s) else (fields d s).filter (· ≠ []) := by
  induction s using splitInter.induct (d := d) with
  | case1 => cases incl <;> simp [splitInter, fields, dropLastEmpty]
  | case2 c t h ih =>  -- the byte at hand is the delimiter: an empty field
    have hr : scanRest d (c :: t) ≠ [] := fun hr => by
      simpa [h] using scanTok_eq_of_rest_nil d _ hr
    rw [splitInter, if_pos h, ih, fields_scan d (c :: t), if_neg hr, h]
    cases incl <;> simp [dropLastEmpty_cons _ _ (fields_ne_nil _ _)]
  | case3 c t h hr =>  -- no delimiter left: the rest is the last field
    rw [splitInter, if_neg h, if_pos hr, fields_scan d (c :: t), if_pos hr, scanTok_eq_of_rest_nil d _ hr]
    cases incl <;> simp [dropLastEmpty]
  | case4 c t h hr ih =>  -- a non-empty field followed by a delimiter
    rw [splitInter, if_neg h, if_neg hr, ih, fields_scan d (c :: t), if_neg hr]
    cases incl <;> simp [h, dropLastEmpty_cons _ _ (fields_ne_nil _ _)]

theorem dropLastEmpty_fields (d : Nat) (s : Str) :
    dropLastEmpty (fields d s) =
      if s = [] then [] else if s.getLast? = some d then fields d s.dropLast else fields d s := by
  by_cases hs : s = []
  · subst hs; rfl
  · rw [if_neg hs]
    split
    · rename_i hl
      obtain ⟨ys, rfl⟩ := List.getLast?_eq_some_iff.1 hl
      simp [fields_snoc_delim, dropLastEmpty]
    · rename_i hl
      exact if_neg fun h => (ends_delim_of_last_field_nil h).elim hs hl

theorem sjoin_dropLastEmpty_fields (d : Nat) (s : Str) :
    sjoin d (dropLastEmpty (fields d s)) = if s.getLast? = some d then s.dropLast else s := by
  rw [dropLastEmpty_fields]
  by_cases hs : s = []
  · subst hs; rfl
  · simp only [if_neg hs, apply_ite (sjoin d), sjoin_fields]

theorem splitInter_true_trailing (d : Nat) (s : Str) :
    splitInter true d s ++ trailingField d s = if s = [] then [] else fields d s := by
  rw [splitInter_eq, if_pos rfl, dropLastEmpty_fields]
  unfold trailingField
  by_cases hs : s = []
  · subst hs; rfl
  · rw [if_neg hs, if_neg hs]
    split
    · rename_i hl
      obtain ⟨ys, rfl⟩ := List.getLast?_eq_some_iff.1 hl
      rw [List.dropLast_concat, fields_snoc_delim]
    · exact List.append_nil _

/-- The fill loop of `join` / `join_range`.  The length is a variable so that the lemma applies to
    `rangeLen l a b - 1` as it stands. -/
theorem take_flatMap_delim (d : Nat) (R S : List Str) (n : Nat)
    (hn : n = (R.map (fun s => s.length + 1)).sum) :
    ((R ++ S).flatMap (fun s => s ++ [d])).take (n - 1) = sjoin d R := by
  by_cases h : R = []
  · subst h hn; rfl
  · have hl : (R.map (fun s => s.length + 1)).sum = (R.flatMap (fun s => s ++ [d])).length := by
      simp [List.length_flatMap]
    rw [hn, hl, List.flatMap_append, flatMap_delim d R h]
    simp

theorem join_some (l : List Str) (d : Nat) : join (some l) d = sjoin d l := by
  cases l with
  | nil => rfl
  | cons x r =>
    have h := take_flatMap_delim d (x :: r) [] _ rfl
    rwa [List.append_nil] at h

theorem join_ofList (l : List Str) (d : Nat) : join (ofList l) d = sjoin d l := by
  unfold ofList
  split
  · rename_i h; subst h; rfl
  · exact join_some l d

theorem joinRange_some (l : List Str) (a b d : Nat) :
    joinRange (some l) a b d = sjoin d ((l.drop a).take (b - a)) := by
  cases l with
  | nil => simp [joinRange, sjoin]
  | cons x r =>
    simp only [joinRange]
    by_cases hc : (a : Int) > count (some (x :: r))
    · rw [if_pos hc, List.drop_of_length_le (Nat.le_of_lt (Int.ofNat_lt.1 hc)), List.take_nil]; rfl
    have ht := take_flatMap_delim d _ ((List.drop a (x :: r)).drop (b - a)) (rangeLen (x :: r) a b) rfl
    rw [List.take_append_drop] at ht
    rw [if_neg hc]
    split
    · rename_i hz
      rw [← ht, hz]; rfl
    · exact ht

theorem deleteList_eq (l : List Str) (start num : Nat) :
    deleteList l start num = l.take start ++ l.drop (start + num) := by
  unfold deleteList
  congr 1
  apply List.ext_getElem
  · rw [List.length_map, List.length_range, List.length_drop]
  · intro i h1 _
    rw [List.length_map, List.length_range] at h1
    rw [List.getElem_map, List.getElem_range, List.getElem_drop, List.getD_eq_getElem?_getD,
      List.getElem?_eq_getElem (by omega), Option.getD_some]
    congr 1
    exact Nat.add_right_comm _ _ _

theorem delete_some (argc : Int) (l : List Str) (start num : Int) :
    delete argc (some l) start num =
      if num = 0 ∨ start > l.length then (SUCCESS, argc, some l)
      else if start < 0 ∨ num < 0 then (BAD_PARAM, argc, some l)
      else (SUCCESS, ((l.take start.toNat ++ l.drop (start.toNat + num.toNat)).length : Int),
            some (l.take start.toNat ++ l.drop (start.toNat + num.toNat))) := by
  simp only [delete, count, deleteList_eq]
  by_cases h1 : num = 0
  · simp [h1]
  by_cases h2 : start > l.length
  · simp [h1, h2]
  rw [if_neg h1, if_neg h2, if_neg (not_or.2 ⟨h1, h2⟩), List.length_append, List.length_drop,
    List.length_take_of_le (Int.toNat_le.2 (Int.not_lt.1 h2))]

theorem foldl_append_some (src : List Str) (t : List Str) :
    src.foldl (fun acc a => (append acc a).2) (some t) = some (t ++ src) := by
  induction src generalizing t with
  | nil => simp
  | cons a r ih =>
    rw [List.foldl_cons]
    have : (append (some t) a).2 = some (t ++ [a]) := rfl
    rw [this, ih]; simp

theorem copy_eq_self (v : Vec) : copy v = v := by
  cases v with
  | none => rfl
  | some l => simp only [copy]; rw [foldl_append_some]; simp

/-- a start beyond the end appends, which is what `take` and `drop` give there anyway -/
theorem insert_some (t src : List Str) (start : Nat) :
    insert (some t) start (some src) = (SUCCESS, some (t.take start ++ src ++ t.drop start)) := by
  simp only [insert, if_neg (Int.not_lt.2 (Int.natCast_nonneg start)), Int.toNat_natCast]
  split
  · rename_i hgt
    have hle := Nat.le_of_lt (Int.ofNat_lt.1 hgt)
    rw [foldl_append_some, List.take_of_length_le hle, List.drop_of_length_le hle, List.append_nil]
  · rfl

theorem insertElement_eq_insert (t : Vec) (loc : Int) (s : Str) :
    insertElement t loc (some s) = insert t loc (some [s]) := by
  cases t with
  | none => rfl
  | some l =>
    simp only [insertElement, insert, List.append_assoc]
    rfl

/-- `delete` is the case `m = []`, `insert` the case `a = b`. -/
theorem getElem?_take_append_drop {α : Type} {l m : List α} {a b i : Nat} (ha : a ≤ l.length) :
    (l.take a ++ m ++ l.drop b)[i]? =
      if i < a then l[i]? else if i - a < m.length then m[i - a]? else l[b + (i - a - m.length)]? := by
  rw [List.append_assoc, List.getElem?_append, List.getElem?_append, List.getElem?_drop,
    List.length_take_of_le ha]
  split
  · rename_i h
    rw [List.getElem?_take_of_lt h]
  · rfl

theorem add_sub_add_eq_sub_min (l s n : Nat) (hs : s ≤ l) :
    s + (l - (s + n)) = l - min n (l - s) := by
  rcases Nat.le_total (s + n) l with h | h
  · rw [Nat.min_eq_left (Nat.le_sub_of_add_le' h), Nat.add_comm s n, Nat.sub_add_eq,
      Nat.add_sub_of_le (Nat.le_sub_of_add_le h)]
  · rw [Nat.sub_eq_zero_of_le h, Nat.min_eq_right (Nat.sub_le_iff_le_add'.2 h), Nat.sub_sub_self hs]
    rfl

end ParsecVerif.Argv
