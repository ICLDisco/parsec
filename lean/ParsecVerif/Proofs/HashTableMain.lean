/-
  The global inductive invariant of the hash-table model and its preservation by every micro step of
  every thread.  Forward simulation to the sequential map: every micro step either leaves the ghost map
  unchanged or is the linearization point of the stepping thread's operation and performs exactly that
  operation of the sequential specification.
-/
import ParsecVerif.Proofs.HashTableStepQuiet
import ParsecVerif.Proofs.HashTableStepChain

namespace ParsecVerif.HashTable

/-- The forms the outcome of a micro step of thread `u` at time `now` takes as far as the thread record and the
    linearization record go; the store is arbitrary.  What `ThOk` says besides `TInv` (`linsOf`, `TimeOk`, `ProgOk`) is
    carried across a step by cases on this form and not on the program point. -/
inductive Shape (u now : Nat) (th : Thread) : Out → Prop
  | stay (m : Store) : Shape u now th ⟨m, th, none⟩
  | goto (m : Store) (pc' : Pc) (h1 : pc'.linRes = th.pc.linRes) (h2 : pc' ≠ .idle) (h3 : th.pc ≠ .idle) :
      Shape u now th ⟨m, th.goto pc', none⟩
  | lin (m : Store) (pc' : Pc) (r : Nat) (h1 : pc'.linRes = some r) (h2 : th.pc.linRes = none) (h3 : pc' ≠ .idle) (h4 : th.pc ≠ .idle) :
      Shape u now th ⟨m, { th with pc := pc', tLin := now }, some ⟨u, th.op, th.op.res r, th.tInv, now⟩⟩
  | fin (m : Store) (r : Nat) (h1 : th.pc.linRes = some r) :
      Shape u now th ⟨m, { th with pc := .idle, hist := th.hist ++ [⟨th.op, th.op.res r, th.tInv, th.tLin, now⟩] }, none⟩
  | inv (m : Store) (op : Op) (rest : List Op) (h1 : th.pc = .idle) (h2 : th.todo = op :: rest) :
      Shape u now th ⟨m, { th with op := op, todo := rest, tInv := now, pc := .rd }, none⟩
  | rej (m : Store) (op : Op) (rest : List Op) (h1 : th.pc = .idle) (h2 : th.todo = op :: rest) :
      Shape u now th ⟨m, { th with op := op, todo := rest, tInv := now, tLin := now, pc := .idle,
                                    hist := th.hist ++ [⟨op, .rejected, now, now, now⟩] },
                      some ⟨u, op, .rejected, now, now⟩⟩

theorem stepPc_shape (s : Store) (thr : List Thread) (u now : Nat) (th : Thread) (pc : Pc) (hpc : th.pc = pc) :
    Shape u now th (stepPc s thr u now th pc) := by
  obtain ⟨_, op, todo, hist, tInv, tLin⟩ := th
  cases hpc
  rename_i pc
  cases pc with
  | idle =>
    simp only [stepPc]; unfold invoke
    split
    · exact Shape.stay _
    · rename_i op rest heq
      split
      · exact Shape.inv _ op rest rfl heq
      · exact Shape.rej _ op rest rfl heq
  | rd =>
    simp only [stepPc]; unfold stepRd
    split
    · exact Shape.stay _
    · exact Shape.goto _ _ rfl nofun nofun
  | lt =>
    simp only [stepPc]; unfold stepLt
    split
    · by_cases hni : NoIns op
      · rw [ltBody_of_noIns hni]; split
        · exact Shape.lin _ _ _ rfl rfl nofun nofun
        · exact Shape.goto _ _ rfl nofun nofun
      · obtain ⟨k, i, rfl⟩ := ins_of_not_noIns hni
        exact Shape.lin _ _ _ rfl rfl nofun nofun
    · exact Shape.stay _
  | nx cur =>
    simp only [stepPc]; unfold stepNx
    split
    · split <;> exact Shape.lin _ _ _ rfl rfl nofun nofun
    · exact Shape.goto _ _ rfl nofun nofun
  | lo hd pv =>
    simp only [stepPc]; unfold stepLo
    split
    · split
      · exact Shape.goto _ _ rfl nofun nofun
      · unfold loFound
        split <;> exact Shape.lin _ _ _ rfl rfl nofun nofun
    · exact Shape.stay _
  | du hd pv it =>
    simp only [stepPc]; unfold stepDu
    split <;> exact Shape.goto _ _ rfl nofun nofun
  | cn hd pv nv it =>
    simp only [stepPc]; unfold stepCn
    exact Shape.goto _ _ rfl nofun nofun
  | ulo hd r =>
    simp only [stepPc]; unfold stepUlo
    cases r <;> exact Shape.goto _ _ rfl nofun nofun
  | ult r =>
    simp only [stepPc]; unfold stepUlt
    exact Shape.goto _ _ rfl nofun nofun
  | rul r rz ch =>
    simp only [stepPc]; unfold stepRul
    split
    · exact Shape.goto _ _ rfl nofun nofun
    · exact Shape.fin _ r rfl
  | wr ch r =>
    simp only [stepPc]; unfold stepWr
    split
    · exact Shape.stay _
    · exact Shape.goto _ _ rfl nofun nofun
  | wul r =>
    simp only [stepPc]
    exact Shape.fin _ r rfl

/-- the linearized but not yet returned operation of a thread -/
def pending (t : Nat) (th : Thread) : List LinRec :=
  match th.pc.linRes with
  | some r => [⟨t, th.op, th.op.res r, th.tInv, th.tLin⟩]
  | none => []

def linsOf (t : Nat) (th : Thread) : List LinRec := th.hist.map (OpRec.lin t) ++ pending t th

theorem linRes_idle : Pc.idle.linRes = none := rfl

theorem shape_lins {u now : Nat} {th : Thread} {o : Out} (h : Shape u now th o) :
    linsOf u o.th = linsOf u th ++ o.lin.toList := by
  cases h with
  | stay m => simp
  | goto m pc' h1 h2 h3 => simp [linsOf, pending, Thread.goto, h1]
  | lin m pc' r h1 h2 h3 h4 => simp [linsOf, pending, h1, h2]
  | fin m r h1 => simp [linsOf, pending, h1, linRes_idle, OpRec.lin]
  | inv m op rest h1 h2 => simp [linsOf, pending, h1, Pc.linRes]
  | rej m op rest h1 h2 => simp [linsOf, pending, h1, Pc.linRes, OpRec.lin]

structure TimeOk (t now : Nat) (th : Thread) : Prop where
  hist : ∀ r ∈ th.hist, r.tInv ≤ r.tLin ∧ r.tLin ≤ r.tRet ∧ r.tRet < now
  run : th.pc ≠ .idle → th.tInv < now
  pend : ∀ l ∈ pending t th, l.tInv ≤ l.tLin ∧ l.tLin < now

theorem TimeOk.mono {t now : Nat} {th : Thread} (h : TimeOk t now th) : TimeOk t (now + 1) th :=
  ⟨fun r hr => by have := h.hist r hr; omega, fun hp => by have := h.run hp; omega,
   fun l hl => by have := h.pend l hl; omega⟩

theorem shape_time {u now : Nat} {th : Thread} {o : Out} (hs : Shape u now th o) (h : TimeOk u now th) :
    TimeOk u (now + 1) o.th := by
  have h' := h.mono
  cases hs with
  | stay m => exact h'
  | goto m pc' h1 h2 h3 =>
    exact ⟨h'.hist, fun _ => h'.run h3, fun l hl => h'.pend l (by simpa [pending, Thread.goto, h1] using hl)⟩
  | lin m pc' r h1 h2 h3 h4 =>
    refine ⟨h'.hist, fun _ => h'.run h4, fun l hl => ?_⟩
    simp only [pending, h1, List.mem_singleton] at hl
    subst hl
    exact ⟨Nat.le_of_lt (h.run h4), Nat.lt_succ_self now⟩
  | fin m r h1 =>
    have hp := h.pend ⟨u, th.op, th.op.res r, th.tInv, th.tLin⟩ (by simp [pending, h1])
    exact ⟨List.forall_mem_append.2 ⟨h'.hist, List.forall_mem_singleton.2 ⟨hp.1, Nat.le_of_lt hp.2, Nat.lt_succ_self now⟩⟩,
      fun hp => absurd rfl hp, nofun⟩
  | inv m op rest h1 h2 => exact ⟨h'.hist, fun _ => Nat.lt_succ_self now, nofun⟩
  | rej m op rest h1 h2 =>
    exact ⟨List.forall_mem_append.2 ⟨h'.hist, List.forall_mem_singleton.2 ⟨Nat.le_refl now, Nat.le_refl now, Nat.lt_succ_self now⟩⟩,
      fun hp => absurd rfl hp, nofun⟩

theorem shape_lin_stamp {u now : Nat} {th : Thread} {o : Out} (hs : Shape u now th o) (h : TimeOk u now th) :
    ∀ l ∈ o.lin.toList, l.tInv ≤ l.tLin ∧ l.tid = u ∧ l.tLin = now := by
  intro l hl
  have hl := Option.mem_toList.1 hl
  cases hs with
  | lin m pc' r h1 h2 h3 h4 => cases hl; exact ⟨Nat.le_of_lt (h.run h4), rfl, rfl⟩
  | rej m op rest h1 h2 => cases hl; exact ⟨Nat.le_refl _, rfl, rfl⟩
  | _ => cases hl

def running (th : Thread) : List Op := if th.pc = .idle then [] else [th.op]

def ProgOk (prog : List Op) (th : Thread) : Prop :=
  th.hist.map (fun r => r.op) ++ running th ++ th.todo = prog

theorem shape_prog {u now : Nat} {th : Thread} {o : Out} (hs : Shape u now th o) (prog : List Op) (h : ProgOk prog th) :
    ProgOk prog o.th := by
  unfold ProgOk at h ⊢
  cases hs with
  | stay m => exact h
  | goto m pc' h1 h2 h3 => simpa [running, Thread.goto, h2, h3] using h
  | lin m pc' r h1 h2 h3 h4 => simpa [running, h3, h4] using h
  | fin m r h1 =>
    have : th.pc ≠ .idle := fun hc => by rw [hc] at h1; cases h1
    simpa [running, this] using h
  | inv m op rest h1 h2 => simpa [running, h1, h2] using h
  | rej m op rest h1 h2 => simpa [running, h1, h2] using h

theorem Spec.replay_append (σ : List Item) (l : List (Op × Res)) (e : Op × Res) :
    Spec.replay σ (l ++ [e]) = (Spec.replay σ l).bind fun σ' => Spec.step σ' e.1 e.2 := by
  induction l generalizing σ with
  | nil => cases h : Spec.step σ e.1 e.2 <;> simp [Spec.replay, h]
  | cons a t ih =>
    simp only [List.cons_append, Spec.replay]
    cases Spec.step σ a.1 a.2 with
    | none => rfl
    | some σ' => exact ih σ'

theorem SpecOk.replay {σ σ' : List Item} {lin : Option LinRec} {S : List LinRec} (h : SpecOk σ σ' lin)
    (hS : Spec.replay [] (S.map LinRec.ev) = some σ) : Spec.replay [] ((S ++ lin.toList).map LinRec.ev) = some σ' := by
  cases lin with
  | none => rw [show σ' = σ from h]; simpa using hS
  | some l =>
    simp only [Option.toList_some, List.map_append, List.map_cons, List.map_nil]
    rw [Spec.replay_append, hS]
    exact h

theorem stepPc_ok {s : Store} {thr : List Thread} {u now : Nat} {th : Thread} (hS : SInv s thr)
    (hAll : ∀ (t : Nat) (a : Thread), thr[t]? = some a → TInv s t a.op a.pc) (hu : thr[u]? = some th)
    (pc : Pc) (hpc : th.pc = pc) : StepOk s thr u (stepPc s thr u now th pc) := by
  have hT := hAll u th hu
  cases pc with
  | idle => exact stepOk_invoke hS hu hpc
  | rd => exact stepOk_rd hS hu hpc hT
  | lt => exact stepOk_lt hS hu hpc hT
  | nx cur => exact stepOk_nx hS hu hAll hpc
  | lo hd pv => exact stepOk_lo hS hu hpc hT
  | du hd pv it => exact stepOk_du hS hu hpc hT
  | cn hd pv nv it => exact stepOk_cn hS hu hpc hT
  | ulo hd r => exact stepOk_ulo hS hu hpc hT
  | ult r => exact stepOk_ult hS hu hpc hT
  | rul r rz ch => exact stepOk_rul hS hu hpc
  | wr ch r => exact stepOk_wr hS hu hpc hT
  | wul r =>
    exact stepOk_finish hS hu (by rw [hpc]; rfl) (by rw [hpc]; rfl)

structure ThOk (c : Config) (s : State) (t : Nat) (th : Thread) : Prop where
  tinv : TInv s.m t th.op th.pc
  time : TimeOk t s.time th
  lins : s.lins.filter (fun l => l.tid == t) = linsOf t th
  prog : ProgOk (c.progs.getD t []) th

/-- `sorted`, `bound` and `stamp` serve the real-time clause of `C32.Linearization`: `lins` grows by records stamped
    with the current time, so a record with the smaller `tLin` stands first. -/
structure Inv (c : Config) (s : State) : Prop where
  g : SInv s.m s.thr
  th : ∀ t th, s.thr[t]? = some th → ThOk c s t th
  len : s.thr.length = c.progs.length
  sorted : s.lins.Pairwise (fun a b => a.tLin < b.tLin)
  bound : ∀ l ∈ s.lins, l.tLin < s.time
  stamp : ∀ l ∈ s.lins, l.tInv ≤ l.tLin
  spec : Spec.replay [] (s.lins.map LinRec.ev) = some s.m.abs

theorem Inv.init (c : Config) (hc : c.WF) : Inv c (init c) := by
  have hth : ∀ (t : Nat) (th : Thread), (HashTable.init c).thr[t]? = some th →
      ∃ p, c.progs[t]? = some p ∧ ⟨.idle, .find 0, p, [], 0, 0⟩ = th := by
    intro t th h
    simpa only [HashTable.init, List.getElem?_map, Option.map_eq_some_iff] using h
  have hidle : ∀ (t : Nat) (th : Thread), (HashTable.init c).thr[t]? = some th → th.pc = .idle := by
    intro t th h; obtain ⟨p, _, rfl⟩ := hth t th h; rfl
  refine ⟨⟨⟨hc.1, Nat.le_refl _, hc.2, ?nxt, ?len, ?place, ?skip, ?nodup, ?once⟩, ?used, ⟨?absIn, ?absOut, ?absKeys⟩, ?excl,
      ⟨?uPlain, ?uAbs, ?uIns, ?uRm⟩⟩, ?th,
    by simp [HashTable.init], by simp [HashTable.init], by simp [HashTable.init], by simp [HashTable.init],
    by simp [HashTable.init, Spec.replay]⟩
  case nxt =>
    intro T hT
    have : T = c.nb0 := Nat.le_antisymm hT.2 hT.1
    show (blankTable).next < T ∧ _
    rw [this]
    exact ⟨hc.1, Or.inl rfl⟩
  case len => intro T b _; rfl
  case place => intro T b it _ hit; cases hit
  case skip =>
    intro T T' hT _ h2 h3
    have : T ≤ c.nb0 := hT.2
    have : c.nb0 ≤ T' := h3
    omega
  case nodup => intro T b _; exact List.nodup_nil
  case once => intro T T' b b' it _ _ hit; cases hit
  case used =>
    intro T h1 h2
    have : c.nb0 ≤ T := h1
    have : T < c.nb0 := h2
    omega
  case absIn => rintro it ⟨T, b, _, hit⟩; cases hit
  case absOut => intro it hit; cases hit
  case absKeys => exact List.Pairwise.nil
  case excl =>
    intro t t' th th' h1 _ hw
    rw [hidle t th h1] at hw; cases hw
  case uPlain => intro k hk; cases hk
  case uAbs => intro it hit; cases hit
  case uIns =>
    intro t th k h hp
    rcases hp.1 with e | e <;> rw [hidle t th h] at e <;> cases e
  case uRm =>
    intro t th k h hp
    obtain ⟨_, _, r, hr, _⟩ := hp
    rw [hidle t th h] at hr; cases hr
  case th =>
    intro t th h
    obtain ⟨p, hp, rfl⟩ := hth t th h
    refine ⟨trivial, ⟨by simp, by simp, by simp [pending, Pc.linRes]⟩, by simp [HashTable.init, linsOf, pending, Pc.linRes], ?_⟩
    simp [ProgOk, running, List.getD, hp]

theorem Inv.step {c : Config} {s : State} (h : Inv c s) (t : Nat) : Inv c (step s t) := by
  unfold HashTable.step
  cases hth : s.thr[t]? with
  | none => exact h
  | some th =>
    simp only
    have ht := h.th t th hth
    have hAll : ∀ (t' : Nat) (a : Thread), s.thr[t']? = some a → TInv s.m t' a.op a.pc := fun t' a ha => (h.th t' a ha).tinv
    have hok : StepOk s.m s.thr t (stepTh s t th) := stepPc_ok h.g hAll hth th.pc rfl
    have hsh : Shape t s.time th (stepTh s t th) := stepPc_shape s.m s.thr t s.time th th.pc rfl
    have hlins := shape_lins hsh
    have htime := shape_time hsh ht.time
    have hstamp := shape_lin_stamp hsh ht.time
    have hprog := shape_prog hsh _ ht.prog
    clear hsh
    generalize stepTh s t th = o at *
    -- `StepOk` gives the store's invariant, the stepping thread's `TInv` and the others' rely; `Shape` gives the ghost
    -- record of the stepping thread; the other threads keep their records, and no new record bears their id
    refine ⟨hok.sinv, ?_, by simp [h.len], ?_,
      List.forall_mem_append.2 ⟨fun l hl => Nat.lt_succ_of_lt (h.bound l hl), fun l hl => (hstamp l hl).2.2 ▸ Nat.lt_succ_self _⟩,
      List.forall_mem_append.2 ⟨h.stamp, fun l hl => (hstamp l hl).1⟩, hok.spec.replay h.spec⟩
    · refine Interleave.forall_getElem?_set ⟨hok.tinv, htime, ?_, hprog⟩ fun u thu hne hu => ?_
      · rw [List.filter_append, ht.lins, hlins, List.filter_eq_self.2 fun l hl => by simp [(hstamp l hl).2.1]]
      · have hu' := h.th u thu hu
        refine ⟨hu'.tinv.stable (hok.rely u hne thu hu), hu'.time.mono, ?_, hu'.prog⟩
        rw [List.filter_append, hu'.lins, List.filter_eq_nil_iff.2 fun l hl => by simp [(hstamp l hl).2.1, Ne.symm hne],
          List.append_nil]
    · rw [List.pairwise_append]
      refine ⟨h.sorted, ?_, fun a ha b hb => (hstamp b hb).2.2 ▸ h.bound a ha⟩
      cases o.lin <;> simp

theorem Inv.run (c : Config) (hc : c.WF) (sched : List Nat) : Inv c (run c sched) :=
  Interleave.foldl_inv (fun _ t h => h.step t) sched (Inv.init c hc)

def Before (S : List LinRec) (a b : LinRec) : Prop := ∃ l1 l2 l3, S = l1 ++ a :: l2 ++ b :: l3

end ParsecVerif.HashTable
