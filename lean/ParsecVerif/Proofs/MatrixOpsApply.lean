import ParsecVerif.Model.MatrixOps
import ParsecVerif.Base.List
/-!
  The three task classes of apply.jdf are the strictly lower, the strictly upper and the diagonal
  part of the requested region, so together they visit each of its tiles once.
-/
namespace ParsecVerif.MatrixOps

theorem mem_irangeAux (lo : Int) (k : Nat) (x : Int) : x ∈ irangeAux lo k ↔ lo ≤ x ∧ x < lo + k := by
  induction k generalizing lo with
  | zero =>
    simp only [irangeAux, List.not_mem_nil, false_iff]
    omega
  | succ k ih =>
    simp only [irangeAux, List.mem_cons, ih]
    omega

theorem mem_irange (lo hi x : Int) : x ∈ irange lo hi ↔ lo ≤ x ∧ x ≤ hi := by
  unfold irange
  rw [mem_irangeAux]
  omega

theorem pairwise_irangeAux (lo : Int) (k : Nat) : (irangeAux lo k).Pairwise (· < ·) := by
  induction k generalizing lo with
  | zero => simp [irangeAux]
  | succ k ih =>
    simp only [irangeAux, List.pairwise_cons]
    refine ⟨?_, ih (lo + 1)⟩
    intro a ha
    rw [mem_irangeAux] at ha
    omega

theorem pairwise_irange (lo hi : Int) : (irange lo hi).Pairwise (· < ·) := pairwise_irangeAux _ _

theorem nodup_pairs (l : List Int) (g : Int → List Int) (hl : l.Pairwise (· < ·))
    (hg : ∀ m, (g m).Pairwise (· < ·)) :
    (l.flatMap fun m => (g m).map fun n => (m, n)).Nodup :=
  Base.nodup_flatMap_map (f := Prod.mk) (hl.imp Int.ne_of_lt) (fun m => (hg m).imp Int.ne_of_lt)
    fun _ _ _ _ => Prod.mk.inj

theorem mem_pairs {α β : Type} (l : List α) (g : α → List β) (m : α) (n : β) :
    (m, n) ∈ (l.flatMap fun a => (g a).map fun b => (a, b)) ↔ m ∈ l ∧ n ∈ g m := by
  simp only [List.mem_flatMap, List.mem_map, Prod.mk.injEq]
  constructor
  · rintro ⟨a, ha, b, hb, rfl, rfl⟩
    exact ⟨ha, hb⟩
  · rintro ⟨h1, h2⟩
    exact ⟨m, h1, n, h2, rfl, rfl⟩

/-- a JDF upper bound written `c ? a : b` -/
theorem le_ite (c : Prop) [Decidable c] (x a b : Int) :
    x ≤ (if c then a else b) ↔ (c → x ≤ a) ∧ (¬ c → x ≤ b) := by
  split <;> simp [*]

theorem upper_ne_lower : UPPER ≠ LOWER := by decide

variable (mt nt uplo m n : Int)

theorem mem_applyL :
    (m, n) ∈ applyL mt nt uplo ↔ inRegion mt nt uplo m n ∧ n < m := by
  unfold applyL inRegion
  rw [mem_pairs _ (fun m => irange 0 (if m < nt then m - 1 else nt - 1))]
  simp only [mem_irange, le_ite]
  have := upper_ne_lower
  omega

theorem mem_applyU :
    (m, n) ∈ applyU mt nt uplo ↔ inRegion mt nt uplo m n ∧ m < n := by
  unfold applyU inRegion
  rw [mem_pairs _ (fun m => irange (m + 1) (if uplo = LOWER then 0 else nt - 1))]
  simp only [mem_irange, le_ite]
  have := upper_ne_lower
  omega

theorem mem_applyDiag :
    (m, n) ∈ applyDiag mt nt ↔ inRegion mt nt uplo m n ∧ m = n := by
  unfold applyDiag inRegion
  simp only [List.mem_map, mem_irange, le_ite, Prod.mk.injEq]
  constructor
  · rintro ⟨k, hk, rfl, rfl⟩; omega
  · rintro ⟨h, rfl⟩; exact ⟨m, by omega, rfl, rfl⟩

theorem mem_applyTiles :
    (m, n) ∈ applyTiles mt nt uplo ↔ inRegion mt nt uplo m n := by
  unfold applyTiles
  rw [List.mem_append, List.mem_append, mem_applyL, mem_applyU, mem_applyDiag mt nt uplo]
  constructor
  · rintro ((h | h) | h) <;> exact h.1
  · intro h
    rcases Int.lt_trichotomy m n with x | x | x
    · exact .inl (.inr ⟨h, x⟩)
    · exact .inr ⟨h, x⟩
    · exact .inl (.inl ⟨h, x⟩)

theorem nodup_applyTiles : (applyTiles mt nt uplo).Nodup := by
  unfold applyTiles
  rw [List.nodup_append, List.nodup_append]
  refine ⟨⟨nodup_pairs _ _ (pairwise_irange _ _) fun _ => pairwise_irange _ _,
    nodup_pairs _ _ (pairwise_irange _ _) fun _ => pairwise_irange _ _, ?_⟩, ?_, ?_⟩
  · rintro ⟨m, n⟩ ha _ hb rfl
    have := ((mem_applyL ..).1 ha).2
    have := ((mem_applyU ..).1 hb).2
    omega
  · exact List.pairwise_map.2 ((pairwise_irange _ _).imp fun h heq => absurd (Prod.mk.inj heq).1 (Int.ne_of_lt h))
  · rintro ⟨m, n⟩ ha _ hb rfl
    have := ((mem_applyDiag mt nt uplo m n).1 hb).2
    rcases List.mem_append.1 ha with ha | ha
    · have := ((mem_applyL ..).1 ha).2; omega
    · have := ((mem_applyU ..).1 ha).2; omega

theorem applyCalls_tiles :
    (applyCalls mt nt uplo).map (fun c => (c.1, c.2.1)) = applyTiles mt nt uplo := by
  simp [applyCalls, applyTiles, Function.comp_def]

end ParsecVerif.MatrixOps
