import ParsecVerif.Proofs.RwLockLive
/-!
  (1) The three identities by which `stepT` writes the bit operations of the C code arithmetically (`x & WBITS`,
      `PRES | (ticket & PHID)`, `x & 0xFFFFFF00`).  `stepT` has the right-hand sides; that the C text has the left-hand
      sides is by reading, and no theorem uses the three lemmas.
  (2) The machine over words of `M` values, `256 ∣ M`, is a refinement of the machine over the naturals as long
      as fewer than `M / 256` threads use the lock (2^24 for the 32-bit fields of the C structure, which are `int32_t`:
      a signed value is identified with its residue modulo 2^32): only equality tests are made on the wrapped
      counters, and the low byte of `rin` does not feel the reduction.
  (3) The coarse steps of the cooperative scheduler are sequences of fine steps.
-/
namespace ParsecVerif.RwLock

theorem and3 (x : Nat) : x &&& 3 = x % 4 :=
  Nat.and_two_pow_sub_one_eq_mod x 2

theorem pres_or_phid (t : Nat) : 2 ||| (t &&& 1) = 2 + t % 2 := by
  rw [Nat.and_one_is_mod]
  rcases Nat.mod_two_eq_zero_or_one t with h | h <;> rw [h] <;> rfl

theorem andFFFFFF00 (x : Nat) (hx : x < 4294967296) : x &&& 0xFFFFFF00 = x - x % 256 := by
  -- the mask is `(2 ^ 24 - 1) * 2 ^ 8`: the low byte of the result is 0, its quotient by 256 that of `x` below `2 ^ 24`
  have lo : (x &&& 0xFFFFFF00) % 2 ^ 8 = 0 := Nat.and_mod_two_pow.trans (Nat.and_zero _)
  have hi : (x &&& 0xFFFFFF00) / 2 ^ 8 = x / 2 ^ 8 % 2 ^ 24 :=
    Nat.and_div_two_pow.trans (Nat.and_two_pow_sub_one_eq_mod _ 24)
  omega

/-- local data of a thread, reduced modulo `M` (the spin phase bits `w < 4` are never wrapped) -/
def wrapPc (M : Nat) : Pc → Pc
  | .wSpin1 t => .wSpin1 (t % M)
  | .wAdd t => .wAdd (t % M)
  | .wSpin2 t rt => .wSpin2 (t % M) (rt % M)
  | .wFence t => .wFence (t % M)
  | .wIn t => .wIn (t % M)
  | .wWmb t => .wWmb (t % M)
  | .wAnd t => .wAnd (t % M)
  | .wLoad t => .wLoad (t % M)
  | .wStore t v => .wStore (t % M) (v % M)
  | pc => pc

def wrapT (M : Nat) (th : Thread) : Thread := ⟨wrapPc M th.pc, th.prog⟩

/-- the contents of the C structure and of the C locals when the counters of `s` are stored in
    `M`-valued machine words -/
def wrapS (M : Nat) (s : State) : State :=
  { rin := s.rin % M, rout := s.rout % M, win := s.win % M, wout := s.wout % M, th := s.th.map (wrapT M) }

theorem length_filter_wrap (M : Nat) (p : Thread → Bool) (hp : ∀ t, p (wrapT M t) = p t) (l : List Thread) :
    ((l.map (wrapT M)).filter p).length = (l.filter p).length := by
  rw [List.filter_map, List.length_map]
  exact congrArg (fun q => (l.filter q).length) (funext hp)

theorem wrap_writersIn (M : Nat) (s : State) : writersIn (wrapS M s) = writersIn s :=
  length_filter_wrap M _ (fun ⟨pc, _⟩ => by cases pc <;> rfl) _

theorem wrap_readersIn (M : Nat) (s : State) : readersIn (wrapS M s) = readersIn s :=
  length_filter_wrap M _ (fun ⟨pc, _⟩ => by cases pc <;> rfl) _

section
variable {M : Nat}

theorem wrap_eq {a b : Nat} (h1 : a ≤ b) (h2 : b < a + M) : a % M = b % M ↔ a = b := by
  refine ⟨fun h => ?_, fun h => h ▸ rfl⟩
  have := Nat.sub_mod_eq_zero_of_mod_eq h.symm
  rw [Nat.mod_eq_of_lt (by omega)] at this
  omega

/-- Where `M / 256` comes from: a waiting writer's ticket is less than `#threads` ahead of `wout`, a drain target less
    than `256 * #threads` ahead of `rout`. -/
theorem wrap_test (s : State) (h : Inv s) (hn : s.th.length < M / 256) :
    (∀ t, PT s (.wSpin1 t) → (s.wout % M = t % M ↔ s.wout = t)) ∧
    ∀ t rt, PT s (.wSpin2 t rt) → (s.rout % M = rt % M ↔ s.rout = rt) := by
  have hl := gn_total s
  obtain ⟨_, _, _, -, -, -, hc, -⟩ := h.core
  rw [PT_eq]
  simp only [PTg, PTv] at hc ⊢
  exact ⟨fun t ht => wrap_eq ht.1 (by omega), fun t rt ht => wrap_eq (by omega) (by omega)⟩

variable (hM : 256 ∣ M)
include hM

theorem wrap_low (x : Nat) : x % M % 4 = x % 4 ∧ x % M % 2 = x % 2 ∧ x % M % 256 = x % 256 :=
  ⟨Nat.mod_mod_of_dvd _ (Nat.dvd_trans (by decide) hM), Nat.mod_mod_of_dvd _ (Nat.dvd_trans (by decide) hM),
    Nat.mod_mod_of_dvd _ hM⟩

theorem wrap_clear (x : Nat) : x % M - x % 256 = (x - x % 256) % M := by
  obtain ⟨m, rfl⟩ := hM
  rw [Nat.mod_mul, show x - x % 256 = 256 * (x / 256) by omega, Nat.mul_mod_mul_left]
  omega

theorem wrapS_step (s : State) (k : Nat) (h : Inv s) (hn : s.th.length < M / 256) :
    step M (wrapS M s) k = wrapS M (step 0 s k) := by
  unfold step
  have e : (wrapS M s).th[k]? = (s.th[k]?).map (wrapT M) := by simp only [wrapS, List.getElem?_map]
  rw [e]
  cases hk : s.th[k]? with
  | none => rfl
  | some th =>
    obtain ⟨pc, prog⟩ := th
    show stepT M (wrapS M s) k (wrapPc M pc) prog = wrapS M (stepT 0 s k pc prog)
    have hme := h.pt k _ hk
    obtain ⟨t1, t2⟩ := wrap_test s h hn
    cases pc
    case idle => rcases prog with _ | ⟨_ | _, p⟩ <;> simp only [wrapPc, stepT, setT, wrapS, List.map_set, wrapT]
    case rSpin w =>
      simp only [wrapPc, stepT, wrapS, wrap_low hM]; split <;> simp only [setT, List.map_set, wrapT, wrapPc]
    case wSpin1 t => simp only [wrapPc, stepT, wrapS, t1 t hme]; split <;> simp only [setT, List.map_set, wrapT, wrapPc]
    case wSpin2 t rt =>
      simp only [wrapPc, stepT, wrapS, t2 t rt hme]; split <;> simp only [setT, List.map_set, wrapT, wrapPc]
    all_goals
      simp only [wrapPc, stepT, setT, wrapS, List.map_set, wrapT, wrap_low hM, wrap_clear hM, Nat.mod_add_mod,
        Nat.mod_zero]
    case rAdd => split <;> rfl

theorem wrapS_run (s : State) (sched : List Nat) (h : Inv s) (hn : s.th.length < M / 256) :
    run M (wrapS M s) sched = wrapS M (run 0 s sched) := by
  unfold run
  induction sched generalizing s with
  | nil => rfl
  | cons t ts ih =>
    rw [List.foldl_cons, List.foldl_cons, wrapS_step hM s t h hn]
    exact ih _ (inv_step s t h) (by rw [length_step]; exact hn)

end

theorem macroFuel_eq_run (M : Nat) (f : Nat) (s : State) (i : Nat) :
    ∃ n, macroFuel M f s i = run M s (List.replicate n i) := by
  induction f generalizing s with
  | zero => exact ⟨0, rfl⟩
  | succ f ih =>
    unfold macroFuel
    split
    · obtain ⟨n, he⟩ := ih (step M s i)
      exact ⟨n + 1, he⟩
    · exact ⟨1, rfl⟩

theorem macroRun_eq_run (M : Nat) (s : State) (sched : List Nat) :
    ∃ l : List Nat, macroRun M s sched = run M s l := by
  unfold macroRun
  induction sched generalizing s with
  | nil => exact ⟨[], rfl⟩
  | cons t ts ih =>
    obtain ⟨n, h1⟩ := macroFuel_eq_run M 6 s t
    obtain ⟨l2, h2⟩ := ih (macroStep M s t)
    refine ⟨List.replicate n t ++ l2, ?_⟩
    rw [List.foldl_cons, h2, run_append]
    unfold macroStep
    rw [h1]

end ParsecVerif.RwLock
