import ParsecVerif.Proofs.ContextInv
/-!
  Every step preserves `Inv`.  The transitions of the master/worker modes touch only the mode clauses; every
  transition executed by a thread is an instance of `Inv.thread_step`, except the return from add_taskpool, which
  rewrites no descriptor.
-/
namespace ParsecVerif.Context

def Live (s : St) (t : Nat) : Prop :=
  t < s.bases.length ∧ ¬ (s.mm = .leaving ∨ (s.mm = .atBarrier ∧ ∀ m ∈ s.wm, m = .exited)) ∧
  (∀ w m, s.wm[w]? = some m → m ≠ .looping → t ≠ w + 1) ∧
  ((s.mm = .atBarrier ∨ s.mm = .leaving ∨ s.mm = .starting) → t ≠ 0)

theorem inv_tick {s : St} (h : Inv s) : Inv (tick s) := { h with }

/-- A live thread `t` rewrites its own activity (`b'`, `u'`, `l'`) and one descriptor (`tp ↦ tp'` at `p`); the
    invariant survives if the rewrite is locally consistent: the counter moves with `contrib`, `h1`–`h3` are read
    as in `Owner.set`, `hrun`–`hadd` as in `Tasks.set`. -/
theorem Inv.thread_step {s : St} (h : Inv s) {t p : Nat} {tp tp' : Tp} {a : Int} {b' : Base} {u' : Sub} {l' : List Nat}
    {B : List Base} {U : List Sub} {N : List (List Nat)}
    (hlive : Live s t) (htp : s.tps[p]? = some tp)
    (hB : B = s.bases.set t b') (hU : U = s.subs.set t u') (hN : N = s.nests.set t l')
    (ha : a = s.active + contrib tp'.st - contrib tp.st)
    (h1 : ∀ k, (claims b' u' l' k p ↔
        claims ((s.bases[t]?).getD .idle) ((s.subs[t]?).getD .none) ((s.nests[t]?).getD []) k p) ↔
      ((holdOf tp'.st = some k ∧ tp'.by_ = t) ↔ (holdOf tp.st = some k ∧ tp.by_ = t)))
    (h2 : ∀ k p', p' ≠ p → (claims b' u' l' k p' ↔
      claims ((s.bases[t]?).getD .idle) ((s.subs[t]?).getD .none) ((s.nests[t]?).getD []) k p'))
    (h3 : ∀ k t', t' ≠ t → ((holdOf tp'.st = some k ∧ tp'.by_ = t') ↔ (holdOf tp.st = some k ∧ tp.by_ = t')))
    (hrun : ∀ p', p' ≠ p → (b' = .task p' ↔ (s.bases[t]?).getD .idle = .task p'))
    (hcnt : tp'.started + tp.ended + (if (s.bases[t]?).getD .idle = .task p then 1 else 0) =
      tp.started + tp'.ended + (if b' = .task p then 1 else 0))
    (hle : tp.started ≤ tp.total → tp'.started ≤ tp'.total) (hadd : tp'.st = .added ∨ tp'.started = tp'.ended)
    (hNI : l' ≠ [] → ∃ m, b' = .cb m) (hND : l'.Nodup) :
    Inv (tick { s with active := a, bases := B, subs := U, nests := N, tps := s.tps.set p tp' }) := by
  subst hB hU hN
  obtain ⟨htl, hq, hw, hm⟩ := hlive
  have htU : t < s.subs.length := h.len1 ▸ htl
  have htN : t < s.nests.length := h.len3 ▸ htl
  have o := h.owner.set htl htU htN htp h1 h2 h3
  have c := o .cb
  have a := o .add
  have n := o .nest
  simp only [claims, holdOf_eq_some, Option.getD_eq_iff, reduceCtorEq, and_false, or_false, mem_getD_nil] at c a n
  obtain ⟨t1, t2⟩ := Tasks.set ⟨h.taskSt, h.taskCnt⟩ htl htp hrun hcnt (hle (h.taskCnt _ _ htp).2) hadd
  exact inv_tick { h with
    len1 := by simpa using h.len1
    len2 := by simpa using h.len2
    len3 := by simpa using h.len3
    cnt := by have := h.cnt; simp only [csum_set _ _ _ _ htp, ha]; omega
    wIdle := fun w m hw' hm' => by
      have hne := hw w m hw' hm'
      simp only [List.getElem?_set_ne hne]
      exact h.wIdle w m hw' hm'
    mIdle := fun hm' => by
      have hne := hm hm'
      simp only [List.getElem?_set_ne hne]
      exact h.mIdle hm'
    taskSt := t1, taskCnt := t2
    cbFwd := fun t p => (c t p).1, cbBack := fun p tp htp hs => (c _ p).2 ⟨tp, htp, hs, rfl⟩
    addFwd := fun t q => (a t q).1, addBack := fun q tp htp hs => (a _ q).2 ⟨tp, htp, hs, rfl⟩
    nFwd := fun t l q hl hq => (n t q).1 ⟨l, hl, hq⟩, nBack := fun q tp htp hs => (n _ q).2 ⟨tp, htp, hs, rfl⟩
    nIdle := fun t' l hl hne => by
      rcases Interleave.getElem?_set_cases hl with ⟨rfl, rfl⟩ | ⟨hne', hl'⟩
      · obtain ⟨m, rfl⟩ := hNI hne
        exact ⟨m, List.getElem?_set_self htl⟩
      · obtain ⟨m, hb⟩ := h.nIdle t' l hl' hne
        exact ⟨m, by simp only [List.getElem?_set_ne hne'.symm]; exact hb⟩
    nNodup := fun t' l hl => by
      rcases Interleave.getElem?_set_cases hl with ⟨_, rfl⟩ | ⟨_, hl'⟩
      · exact hND
      · exact h.nNodup t' l hl'
    allOut := fun hm' hw' => (hq (.inr ⟨hm', hw'⟩)).elim
    leaving := fun hm' => (hq (.inl hm')).elim }

theorem Inv.tp_step {s : St} (h : Inv s) {t p : Nat} {tp tp' : Tp} {a : Int}
    (hlive : Live s t) (htp : s.tps[p]? = some tp)
    (ha : a = s.active + contrib tp'.st - contrib tp.st)
    (hh : holdOf tp'.st = holdOf tp.st) (hby : tp'.by_ = tp.by_)
    (hcnt : tp'.started + tp.ended = tp.started + tp'.ended)
    (hle : tp.started ≤ tp.total → tp'.started ≤ tp'.total) (hadd : tp'.st = .added ∨ tp'.started = tp'.ended) :
    Inv (tick { s with active := a, tps := s.tps.set p tp' }) :=
  h.thread_step hlive htp (eq_set_getD .idle) (eq_set_getD .none) (eq_set_getD [])
    ha (fun _ => ⟨fun _ => by rw [hh, hby], fun _ => Iff.rfl⟩) (fun _ _ _ => Iff.rfl) (fun _ _ _ => by rw [hh, hby])
    (fun _ _ => Iff.rfl) (by omega) hle hadd (h.nest_cb t) (h.nest_nodup t)

theorem started_of_mm {s : St} (h : Inv s) (hm : s.mm ≠ .out) : s.started = true := by
  cases hs : s.started with
  | true => rfl
  | false => exact absurd (h.notSt hs).1 hm

theorem all_idle {s : St} (h : Inv s)
    (hm : s.mm = .leaving ∨ (s.mm = .atBarrier ∧ ∀ m ∈ s.wm, m = .exited)) (t : Nat) (ht : t < s.bases.length) :
    s.bases[t]? = some .idle ∧ s.subs[t]? = some .none := by
  cases t with
  | zero => exact h.mIdle (by rcases hm with hm | ⟨hm, _⟩ <;> simp [hm])
  | succ w =>
    have hlt : w < s.wm.length := by have := h.len2; omega
    refine h.wIdle w _ (List.getElem?_eq_getElem hlt) ?_
    rcases hm with hm | ⟨_, hw⟩
    · rw [(h.leaving hm).1 _ (List.getElem_mem hlt)]; simp
    · rw [hw _ (List.getElem_mem hlt)]; simp

theorem live_of_canExec {s : St} (h : Inv s) {t : Nat} (hc : canExec s t = true) : Live s t := by
  unfold canExec at hc
  refine ⟨?_, fun hm => ?_, fun w m hw hm ht => ?_, fun hm ht => ?_⟩
  · have := h.len2
    split at hc
    · omega
    · have := (List.getElem?_eq_some_iff.1 (by simpa using hc)).1
      omega
  · split at hc
    · rcases hm with hm | ⟨hm, _⟩ <;> rw [hm] at hc <;> simp [isTpWait] at hc
    · have hl : WMode.looping ∈ s.wm := List.mem_of_getElem? (by simpa using hc)
      rcases hm with hm | ⟨_, hw⟩
      · cases (h.leaving hm).1 _ hl
      · cases hw _ hl
  · subst ht
    simp [hw] at hc
    exact hm hc
  · subst ht
    rcases hm with hm | hm | hm <;> rw [hm] at hc <;> simp [isTpWait] at hc

/-- a thread that is not idle is not one the invariant forces to be idle -/
theorem Inv.busy {s : St} (h : Inv s) {t : Nat} (htl : t < s.bases.length)
    (hni : ¬ (s.bases[t]? = some .idle ∧ s.subs[t]? = some .none)) : Live s t :=
  ⟨htl, fun ho => hni (all_idle h ho t htl), fun w m hw hm e => hni (e ▸ h.wIdle w m hw hm),
   fun hm e => hni (e ▸ h.mIdle hm)⟩

theorem Inv.busy_base {s : St} (h : Inv s) {t : Nat} {b : Base} (hb : s.bases[t]? = some b) (hne : b ≠ .idle) :
    Live s t :=
  h.busy (List.getElem?_eq_some_iff.1 hb).1 fun e => hne (Option.some.inj (hb.symm.trans e.1))

theorem Inv.busy_sub {s : St} (h : Inv s) {t : Nat} {u : Sub} (hu : s.subs[t]? = some u) (hne : u ≠ .none) :
    Live s t :=
  h.busy (h.len1 ▸ (List.getElem?_eq_some_iff.1 hu).1) fun e => hne (Option.some.inj (hu.symm.trans e.2))

theorem live_master_out {s : St} (h : Inv s) (ho : s.mm = .out) : Live s 0 := by
  have := h.len2
  simp [Live, ho]
  omega

theorem mayAdd_live {s : St} (h : Inv s) {t : Nat} (hm : mayAdd s t = true) :
    s.subs[t]? = some .none ∧ Live s t := by
  unfold mayAdd at hm
  simp only [Bool.and_eq_true, beq_iff_eq] at hm
  obtain ⟨hsu, hb⟩ := hm
  refine ⟨hsu, ?_⟩
  split at hb
  next hbt => exact h.busy_base hbt nofun
  next hbt => exact h.busy_base hbt nofun
  · obtain ⟨rfl, ho⟩ : t = 0 ∧ s.mm = .out := by simpa using hb
    exact live_master_out h ho
  · cases hb

theorem inv_enterAdd {s : St} {t q : Nat} {u : Sub} {tp : Tp} (h : Inv s) (hlive : Live s t)
    (hu : s.subs[t]? = some u) (hnu : ∀ q', u ≠ .adding q') (htp : s.tps[q]? = some tp) (hst : tp.st = .notAdded) :
    Inv (tick { s with subs := s.subs.set t (.adding q), tps := s.tps.set q { tp with st := .adding, by_ := t } }) := by
  have hz := h.no_task htp (by simp [hst])
  exact h.thread_step hlive htp (eq_set_getD .idle) rfl (eq_set_getD [])
    (by simp [hst, contrib])
    (fun k => by cases k <;> simp [claims, holdOf, hst, hu, hnu q])
    (fun k p' hp => by cases k <;> simp [claims, hu, Ne.symm hp, hnu p'])
    (fun k t' ht => by simp [holdOf, hst, Ne.symm ht])
    (fun _ _ => Iff.rfl) (by simp) id (.inr hz) (h.nest_cb _) (h.nest_nodup _)

theorem Upd.inv {s : St} {tr : Tr} {p : Nat} {tp tp' : Tp} {d : Loc} (h : Inv s) (htp : s.tps[p]? = some tp)
    (hw : Upd s tr p tp tp' d) :
    Inv (tick { s with active := d.active, bases := d.bases, subs := d.subs, nests := d.nests, tps := s.tps.set p tp' }) := by
  -- the arguments of `thread_step`, in this order: hlive htp hB hU hN ha h1 h2 h3 hrun hcnt hle hadd hNI hND
  cases hw with
  | taskBegin hg =>
    obtain ⟨hc, hid, hst, hlt⟩ := hg
    obtain ⟨hb, hu⟩ := (idleT_iff s _).1 hid
    exact h.thread_step (live_of_canExec h hc) htp rfl
      (eq_set_getD .none) (eq_set_getD []) (by simp)
      (fun k => by cases k <;> simp [claims, holdOf, hst, hb])
      (fun k p' hp => by cases k <;> simp [claims, hb])
      (fun k t' _ => Iff.rfl)
      (fun p' hp => by simp [hb, Ne.symm hp])
      (by simp [hb]; omega) (fun _ => by simp; omega) (.inl hst)
      (fun hne => by obtain ⟨m, e⟩ := h.nest_cb _ hne; simp [hb] at e) (h.nest_nodup _)
  | taskEnd hb =>
    have hst := (h.task_tp hb htp).1
    exact h.thread_step (h.busy_base hb nofun) htp rfl
      (eq_set_getD .none) (eq_set_getD []) (by simp)
      (fun k => by cases k <;> simp [claims, holdOf, hst, hb])
      (fun k p' hp => by cases k <;> simp [claims, hb])
      (fun k t' _ => Iff.rfl)
      (fun p' hp => by simp [hb, Ne.symm hp])
      (by simp [hb]; omega) id (.inl hst)
      (fun hne => by obtain ⟨m, e⟩ := h.nest_cb _ hne; simp [hb] at e) (h.nest_nodup _)
  | detect hg =>
    obtain ⟨hc, hid, hst, _, hend, _⟩ := hg
    obtain ⟨hb, hu⟩ := (idleT_iff s _).1 hid
    have hcn := h.taskCnt _ _ htp
    exact h.thread_step (live_of_canExec h hc) htp rfl
      (eq_set_getD .none) (eq_set_getD []) (by simp [hst, contrib])
      (fun k => by cases k <;> simp [claims, holdOf, hst, hb])
      (fun k p' hp => by cases k <;> simp [claims, hb, Ne.symm hp])
      (fun k t' ht => by simp [holdOf, hst, Ne.symm ht])
      (fun p' hp => by simp [hb])
      (by simp [hb]) id (.inr (by simp only []; omega))
      (fun _ => ⟨_, rfl⟩) (h.nest_nodup _)
  | dec hb _ hn =>
    obtain ⟨hst, hby⟩ := of_get htp (h.cbFwd _ _ hb)
    have hz := h.no_task htp (by simp [hst])
    exact h.thread_step (h.busy_base hb nofun) htp rfl
      (eq_set_getD .none) (eq_set_getD []) (by simp [hst, contrib])
      (fun k => by cases k <;> simp [claims, holdOf, hst, hby, hb])
      (fun k p' hp => by cases k <;> simp [claims, hb, Ne.symm hp])
      (fun k t' ht => by simp [holdOf, hst, hby, Ne.symm ht])
      (fun p' hp => by simp [hb])
      (by simp [hb]) id (.inr hz)
      (fun hne => by simp [hn] at hne) (h.nest_nodup _)
  | addCall hg =>
    obtain ⟨hu, hlive⟩ := mayAdd_live h hg.1
    exact inv_enterAdd h hlive hu (fun _ => Sub.noConfusion) htp hg.2
  | startupAdd hu hg =>
    exact inv_enterAdd h (h.busy_sub hu nofun) hu (fun _ => Sub.noConfusion) htp hg
  | earlyCb hu hg =>
    have hz := h.no_task htp (by simp [hg.1])
    exact h.tp_step (h.busy_sub hu nofun) htp (by simp [hg.1, contrib])
      (by simp [holdOf, hg.1]) rfl rfl id (.inr hz)
  | earlyDec hu hg =>
    have hz := h.no_task htp (by simp [hg])
    exact h.tp_step (h.busy_sub hu nofun) htp (by simp [hg, contrib]; omega)
      (by simp [holdOf, hg]) rfl rfl id (.inr hz)
  | addInc hu hg =>
    obtain ⟨_, hby⟩ := of_get htp (h.addFwd _ _ hu)
    exact h.thread_step (h.busy_sub hu nofun) htp (eq_set_getD .idle) rfl
      (eq_set_getD []) (by simp [hg.1, contrib])
      (fun k => by cases k <;> simp [claims, holdOf, hg.1, hby, hu])
      (fun k p' hp => by cases k <;> simp [claims, hu, Ne.symm hp])
      (fun k t' ht => by simp [holdOf, hg.1, hby, Ne.symm ht])
      (fun _ _ => Iff.rfl) (by simp) id (.inl rfl) (h.nest_cb _) (h.nest_nodup _)
  | addIncEarly hu hg =>
    obtain ⟨_, hby⟩ := of_get htp (h.addFwd _ _ hu)
    have hz := h.no_task htp (by simp [hg])
    exact h.thread_step (h.busy_sub hu nofun) htp (eq_set_getD .idle) rfl
      (eq_set_getD []) (by simp [hg, contrib])
      (fun k => by cases k <;> simp [claims, holdOf, hg, hby, hu])
      (fun k p' hp => by cases k <;> simp [claims, hu, Ne.symm hp])
      (fun k t' ht => by simp [holdOf, hg, hby, Ne.symm ht])
      (fun _ _ => Iff.rfl) (by simp) id (.inr hz) (h.nest_cb _) (h.nest_nodup _)
  | arm hg =>
    exact h.tp_step (live_of_canExec h (t := 0) (by simpa [canExec] using hg.1)) htp (by simp) rfl rfl rfl
      id (.inl hg.2.2)
  | @insert t _ _ hg =>
    obtain ⟨hst, _, _, hb⟩ := hg
    have hlive : Live s t := by
      rcases hb with hb | ⟨rfl, _, ho⟩
      · exact h.busy_base hb nofun
      · exact live_master_out h ho
    exact h.tp_step hlive htp (by simp) rfl rfl rfl Nat.le_succ_of_le (.inl hst)
  | startupReady hu hg =>
    exact h.tp_step (h.busy_sub hu nofun) htp (by simp) rfl rfl rfl id
      (.inl hg.1)
  | @actionLast t _ m _ hb _ hg hf =>
    obtain ⟨_, _, hend, hsta⟩ := hf
    have hqold : p ∉ (s.nests[t]?).getD [] := fun hq => by
      have hs := (of_get htp ((h.owner .nest t p).1 hq)).1
      simp [hg.1, holdOf] at hs
    exact h.thread_step (h.busy_base hb nofun) htp (eq_set_getD .idle)
      (eq_set_getD .none) rfl (by simp [hg.1, contrib])
      (fun k => by cases k <;> simp [claims, holdOf, hg.1, hqold])
      (fun k p' hp => by cases k <;> simp [claims, hp])
      (fun k t' ht => by simp [holdOf, hg.1, Ne.symm ht])
      (fun _ _ => Iff.rfl) (by simp) (fun _ => Nat.le_of_eq hsta) (.inr (hsta.trans hend.symm))
      (fun _ => ⟨m, by simp [hb]⟩) (List.nodup_cons.2 ⟨hqold, h.nest_nodup _⟩)
  | actionDone hb _ hg =>
    exact h.tp_step (h.busy_base hb nofun) htp (by simp) rfl rfl rfl id
      (.inl hg.1)
  | @nestDec t _ rest _ _ hn =>
    obtain ⟨hst, hby⟩ := of_get htp (h.nFwd _ _ _ hn List.mem_cons_self)
    obtain ⟨m, hb⟩ := h.nIdle t _ hn (by simp)
    have hnd := List.nodup_cons.1 (h.nNodup t _ hn)
    have hz := h.no_task htp (by simp [hst])
    exact h.thread_step (h.busy_base hb nofun) htp (eq_set_getD .idle)
      (eq_set_getD .none) rfl (by simp [hst, contrib])
      (fun k => by cases k <;> simp [claims, holdOf, hst, hby, hn, hnd.1])
      (fun k p' hp => by cases k <;> simp [claims, hn, hp])
      (fun k t' ht => by simp [holdOf, hst, hby, Ne.symm ht])
      (fun _ _ => Iff.rfl) (by simp) id (.inr hz) (fun _ => ⟨m, by simp [hb]⟩) hnd.2

theorem inv_step {s s' : St} {tr : Tr} (h : Inv s) (hs : step? s tr = some s') : Inv s' := by
  cases Step.of_step? hs with
  | startBarrier hg =>
    have htok := h.no_token (by simp [hg.2.1])
    exact inv_tick { h with
      len2 := by simpa using h.len2
      tokM := by simp [htok, isTpWait]
      notSt := by simp
      wIdle := fun w m hw hm => by
        obtain ⟨_, _, rfl⟩ := List.mem_map.1 (List.mem_of_getElem? hw)
        exact absurd rfl hm
      mIdle := fun _ => (idleT_iff s 0).1 hg.2.2
      allOut := by simp
      leaving := by simp }
  | startToken hg =>
    have htok := h.no_token (by simp [hg, isTpWait])
    have hst := started_of_mm h (by rw [hg]; simp)
    exact inv_tick { h with
      cnt := by have := h.cnt; simp [htok] at *; omega
      tokM := by simp [hst]
      notSt := fun hs => ⟨rfl, (h.notSt hs).2⟩
      mIdle := by simp
      allOut := by simp
      leaving := by simp }
  | waitBegin hg =>
    have htok : s.token = true := h.tokM.2 ⟨hg.2.1, Or.inl hg.1⟩
    exact inv_tick { h with
      cnt := by have := h.cnt; simp [htok] at *; omega
      tokM := by simp [isTpWait]
      notSt := by simp [hg.2.1]
      mIdle := by simp
      allOut := by simp
      leaving := by simp }
  | sawZero hg =>
    have htok := h.no_token (by simp [hg.1, isTpWait])
    exact inv_tick { h with
      tokM := by simp [htok, isTpWait]
      notSt := fun hs => absurd (h.notSt hs).1 (by simp [hg.1])
      mIdle := fun _ => (idleT_iff s 0).1 hg.2.1
      allOut := fun _ _ => hg.2.2
      leaving := by simp }
  | @leave w hg =>
    have hmem : WMode.looping ∈ s.wm := List.mem_of_getElem? hg.1
    exact inv_tick { h with
      len2 := by simpa using h.len2
      notSt := fun hs => nomatch (h.notSt hs).2 _ hmem
      wIdle := fun w' m hw hm => by
        rcases Interleave.getElem?_set_cases hw with ⟨rfl, _⟩ | ⟨_, hw'⟩
        · exact (idleT_iff s (w' + 1)).1 hg.2.1
        · exact h.wIdle w' m hw' hm
      allOut := fun _ _ => hg.2.2
      leaving := fun hl => nomatch (h.leaving hl).1 _ hmem }
  | barrier hg =>
    have htok := h.no_token (by simp [hg.1, isTpWait])
    have hidle := all_idle h (.inr hg)
    exact inv_tick { h with
      len2 := by simpa using h.len2
      tokM := by simp [htok, isTpWait]
      notSt := fun hs => absurd (h.notSt hs).1 (by simp [hg.1])
      wIdle := fun w m hw _ => by
        have hlt := (List.getElem?_eq_some_iff.1 hw).1
        simp only [List.length_map] at hlt
        exact hidle _ (by have := h.len2; omega)
      mIdle := fun _ => h.mIdle (Or.inl hg.1)
      allOut := by simp
      leaving := fun _ => by
        refine ⟨by simp, ?_⟩
        have hcnt := h.cnt
        rw [htok, h.allOut hg.1 hg.2] at hcnt
        -- every thread is idle, so no taskpool is held; with `active = 0` none is counted either
        have hfree : ∀ tp ∈ s.tps, holdOf tp.st = none := fun tp hm => by
          obtain ⟨q, hq⟩ := List.getElem?_of_mem hm
          refine Option.eq_none_iff_forall_ne_some.2 fun k hk => ?_
          obtain ⟨hlt, hnb⟩ := h.holder_busy hq hk
          exact hnb (hidle _ hlt)
        have hz := (csum_nonneg s.tps fun tp hm => (contrib_of_free (hfree tp hm)).1).2 (by simpa using hcnt.symm)
        exact fun tp hm => (contrib_of_free (hfree tp hm)).2 (hz tp hm) }
  | waitReturn hg =>
    have htok := h.no_token (by simp [hg, isTpWait])
    exact inv_tick { h with
      tokM := by simp [htok]
      notSt := fun _ => ⟨rfl, (h.leaving hg).1⟩
      mIdle := by simp
      allOut := by simp
      leaving := by simp }
  | tpWaitBegin _ hg =>
    have htok : s.token = true := h.tokM.2 ⟨hg.2.1, Or.inl hg.1⟩
    exact inv_tick { h with
      tokM := by simp [htok, hg.2.1, isTpWait]
      notSt := by simp [hg.2.1]
      mIdle := by simp
      allOut := by simp
      leaving := by simp }
  | tpWaitReturn hg =>
    have hst := started_of_mm h (by rw [hg]; simp)
    have htok : s.token = true := h.tokM.2 ⟨hst, Or.inr (by rw [hg]; rfl)⟩
    exact inv_tick { h with
      tokM := by simp [htok, hst]
      notSt := by simp [hst]
      mIdle := by simp
      allOut := by simp
      leaving := by simp }
  | @addReturn t q0 hu =>
    exact inv_tick { h with
      len1 := by simpa using h.len1
      wIdle := fun w m hw hm => (h.wIdle w m hw hm).imp_right set_keep
      mIdle := fun hm => (h.mIdle hm).imp_right set_keep
      addFwd := fun t' q' hq => by
        rcases Interleave.getElem?_set_cases hq with ⟨_, hx⟩ | ⟨_, hq'⟩
        · cases hx
        · exact h.addFwd t' q' hq'
      addBack := fun q' x hx hxs => by
        have hb := h.addBack q' x hx hxs
        have hne : t ≠ x.by_ := by intro e; rw [← e, hu] at hb; cases hb
        rw [List.getElem?_set_ne hne]; exact hb }
  | thread htp hw => exact hw.inv h htp

theorem foldl_getD_inv {σ α} {P : σ → Prop} {f : σ → α → Option σ} (hstep : ∀ {s a s'}, P s → f s a = some s' → P s')
    (l : List α) {s : σ} (h : P s) : P (l.foldl (fun s a => (f s a).getD s) s) :=
  Interleave.foldl_inv (fun s a h => by
    cases hs : f s a with
    | none => exact h
    | some s' => exact hstep h hs) l h

theorem inv_run (k : Nat) (tps : List Tp) (hf : ∀ tp ∈ tps, tp.fresh) (trs : List Tr) : Inv (run k tps trs) :=
  foldl_getD_inv inv_step trs (inv_init k tps hf)

end ParsecVerif.Context
