import ParsecVerif.Model.VpMap
/-!
  The flat and hwloc maps are arithmetic on `List.range`.  The parsers are loops, and each loop lemma is an
  invariant of the table the loop fills: `TabOk` for `core_tab` of the list mode, `BMInv` for the placements
  of bind_map, and its `PlaceOk` again for the default placement.
-/
namespace ParsecVerif.VpMap
open CpuSet

theorem setRange_nat (lo len : Nat) (h : 1 ≤ len) :
    CpuSet.setRange lo (((lo + len : Nat) : Int) - 1) = ⟨List.range' lo len, none⟩ := by
  unfold CpuSet.setRange
  rw [if_neg (by omega), if_neg (by omega)]
  congr 2
  omega

theorem flatThr_cpuset (step id : Nat) (hs : 1 ≤ step) :
    (flatThr step id).cpuset = some ⟨List.range' (id * step) step, none⟩ := by
  unfold flatThr
  rw [Nat.add_one_mul, setRange_nat _ _ hs]

theorem flatThr_zero (id : Nat) : (flatThr 0 id).cpuset = some ⟨[], some 0⟩ := by
  unfold flatThr
  simp [CpuSet.setRange]

theorem flatVp_length (R : Nat) (sing n : Int) : (flatVp R sing n).length = flatN R n := by
  simp [flatVp]

theorem flatN_pos (R : Nat) (n : Int) (hn : 1 ≤ n) : flatN R n = n.toNat := by
  unfold flatN; rw [if_neg (by omega)]

theorem flat_eq (R : Nat) (sing n : Int) (hn : 1 ≤ n) :
    flat R sing n = .ok [flatVp R sing n] n ∧ (flatVp R sing n).length = n.toNat := by
  rw [flatVp_length, flat, flatN_pos R n hn]
  exact ⟨by congr 1; omega, rfl⟩

theorem flatStep_bounds (R : Nat) (sing n : Int) (h1 : 1 ≤ n) (h2 : n ≤ R) :
    1 ≤ flatStep R sing n ∧ n.toNat * flatStep R sing n ≤ R := by
  unfold flatStep
  rw [flatN_pos R n h1]
  split
  · omega
  · exact ⟨(Nat.le_div_iff_mul_le (by omega)).2 (by omega), Nat.mul_div_le R n.toNat⟩

theorem flatStep_over (R : Nat) (sing n : Int) (hs : sing ≠ -1) (hn : (R : Int) < n) : flatStep R sing n = 0 := by
  unfold flatStep
  rw [if_neg hs, flatN_pos R n (by omega)]
  exact Nat.div_eq_of_lt (by omega)

theorem flatStep_early (R : Nat) (n : Int) : flatStep R (-1) n = 1 := if_pos rfl

theorem mem_flatVp (R : Nat) (sing n : Int) (t : Thr) :
    t ∈ flatVp R sing n ↔ ∃ id, id < flatN R n ∧ t = flatThr (flatStep R sing n) id := by
  simp [flatVp, eq_comm]

theorem flatThr_disjoint (step i j : Nat) (hs : 1 ≤ step) (hij : i < j) (ci cj : CpuSet)
    (hi : (flatThr step i).cpuset = some ci) (hj : (flatThr step j).cpuset = some cj) : Disjoint ci cj := by
  rw [flatThr_cpuset step i hs] at hi
  rw [flatThr_cpuset step j hs] at hj
  cases hi; cases hj
  intro n ⟨h1, h2⟩
  have hm := Nat.mul_le_mul_right step hij
  rw [Nat.add_one_mul] at hm
  simp only [CpuSet.Mem, List.mem_range'_1, reduceCtorEq, false_and, exists_false, or_false] at h1 h2
  omega

theorem flatVp_pairwise (R : Nat) (sing n : Int) (hs : 1 ≤ flatStep R sing n) :
    (flatVp R sing n).Pairwise (fun a b => ∀ ca cb, a.cpuset = some ca → b.cpuset = some cb → Disjoint ca cb) := by
  unfold flatVp
  rw [List.pairwise_map]
  exact List.pairwise_lt_range.imp fun {i j} hij => flatThr_disjoint _ i j hs hij

/-- the number of threads `hwGoVps socks _ rem` creates; every core for `rem ≤ 0` too: the test
    `0 == --nbthreads` is then never met -/
def hwCount (socks : List Nat) (rem : Int) : Nat :=
  if 1 ≤ rem ∧ rem ≤ (socks.sum : Nat) then rem.toNat else socks.sum

theorem hwCount_nil (rem : Int) : hwCount [] rem = 0 := by
  unfold hwCount
  rw [List.sum_nil]
  split <;> omega

theorem hwCount_cons (cnt : Nat) (rest : List Nat) (rem : Int) (h : ¬ (1 ≤ rem ∧ rem ≤ (cnt : Int))) :
    hwCount (cnt :: rest) rem = cnt + hwCount rest (rem - cnt) := by
  unfold hwCount
  rw [List.sum_cons]
  split <;> split <;> omega

theorem hwCount_first (cnt : Nat) (rest : List Nat) (rem : Int) (h : 1 ≤ rem ∧ rem ≤ (cnt : Int)) :
    hwCount (cnt :: rest) rem = rem.toNat := by
  unfold hwCount
  rw [List.sum_cons]
  split <;> omega

theorem hwCount_le (socks : List Nat) (rem : Int) : hwCount socks rem ≤ socks.sum := by
  unfold hwCount
  split <;> omega

theorem hwCount_of_pos (socks : List Nat) {rem : Int} (h : 1 ≤ rem) : hwCount socks rem = min rem.toNat socks.sum := by
  unfold hwCount
  split <;> omega

theorem hwVp_cpusets (core cnt : Nat) :
    (hwVp core cnt).map (·.cpuset) = (List.range cnt).map (fun k => some (CpuSet.single (core + k))) := by
  simp [hwVp, hwThr, Function.comp_def]

theorem hwVp_append (core a b : Nat) : hwVp core a ++ hwVp (core + a) b = hwVp core (a + b) := by
  simp [hwVp, List.range_add, Nat.add_assoc]

theorem hwGoVps_flatten (socks : List Nat) : ∀ (core : Nat) (rem : Int),
    (hwGoVps socks core rem).flatten = hwVp core (hwCount socks rem) := by
  induction socks with
  | nil => intro core rem; rw [hwCount_nil]; rfl
  | cons cnt rest ih =>
    intro core rem
    unfold hwGoVps
    split
    · rename_i h
      rw [hwCount_first cnt rest rem h, List.flatten_singleton]
    · rename_i h
      rw [hwCount_cons cnt rest rem h, List.flatten_cons, ih, hwVp_append]

theorem hwGoVps_length_le (socks : List Nat) : ∀ (core : Nat) (rem : Int),
    (hwGoVps socks core rem).length ≤ socks.length := by
  induction socks with
  | nil => intro core rem; simp [hwGoVps]
  | cons cnt rest ih =>
    intro core rem
    unfold hwGoVps
    split
    · simp
    · exact Nat.succ_le_succ (ih _ _)

theorem maskThreads_length (R mask : Nat) : ∀ (k : Nat) (prev : Int), (maskThreads R mask k prev).length = k := by
  intro k
  induction k with
  | zero => intro prev; rfl
  | succ k ih => intro prev; simp [maskThreads, ih]

theorem rangeThreads_length (R : Nat) (start en step : Int) (k t : Nat) (w skip : Int) :
    (rangeThreads R start en step k t w skip).length = k := by
  induction k generalizing t w skip with
  | zero => rfl
  | succ k ih =>
    unfold rangeThreads
    split
    · split
      · simp
      · split
        · cases k <;> simp
        · simp [ih]
    · simp [ih]

theorem single_within (R : Nat) (w : Int) (h0 : 0 ≤ w) (h1 : w < R) : (CpuSet.single w.toNat).Within R := by
  refine ⟨rfl, fun b hb => ?_⟩
  simp [CpuSet.single] at hb
  omega

theorem empty_within (R : Nat) : CpuSet.empty.Within R := ⟨rfl, nofun⟩

theorem singlify_within (R : Nat) : ∀ c : CpuSet, c.Within R → c.bits ≠ [] →
    c.singlify.bits ≠ [] ∧ c.singlify.Within R ∧ ∀ n, Mem n c.singlify → Mem n c
  | ⟨[], _⟩, _, hne => absurd rfl hne
  | ⟨b :: t, _⟩, h, _ => by
    have hb : b ∈ b :: t := List.mem_cons_self
    refine ⟨List.cons_ne_nil b [], ⟨rfl, fun x hx => List.mem_singleton.1 hx ▸ h.2 b hb⟩, ?_⟩
    rintro n (hn | ⟨k, hk, _⟩)
    · exact .inl (List.mem_singleton.1 hn ▸ hb)
    · cases hk

theorem rangeThreads_within (R : Nat) (start en step : Int) (h0 : 0 ≤ start) (h2 : en < R) (h3 : 0 ≤ step)
    (k t : Nat) (w skip : Int) (hw1 : start ≤ w) (hw2 : w ≤ en) (hs : 1 ≤ skip) :
    ∀ th ∈ rangeThreads R start en step k t w skip, ∀ c, th.cpuset = some c → c.Within R := by
  induction k generalizing t w skip with
  | zero => nofun
  | succ k ih =>
    have hcur : ∀ c, (⟨1, some (CpuSet.single w.toNat), -1⟩ : Thr).cpuset = some c → c.Within R := by
      rintro _ ⟨⟩; exact single_within R w (by omega) (by omega)
    unfold rangeThreads
    split
    · split
      · exact List.forall_mem_cons.2 ⟨hcur, List.forall_mem_replicate.2 (.inr nofun)⟩
      · split
        · refine List.forall_mem_cons.2 ⟨hcur, ?_⟩
          cases k with
          | zero => nofun
          | succ k' => exact List.forall_mem_cons.2 ⟨by rintro _ ⟨⟩; exact empty_within R, List.forall_mem_replicate.2 (.inr nofun)⟩
        · exact List.forall_mem_cons.2 ⟨hcur, ih _ _ _ (by omega) (by omega) (by omega)⟩
    · exact List.forall_mem_cons.2 ⟨hcur, ih _ _ _ (by omega) (by omega) hs⟩

theorem inRange_iff (R : Nat) (a : Int) : inRange R a = true ↔ 0 ≤ a ∧ a < R := by
  unfold inRange
  simp only [Bool.and_eq_true, decide_eq_true_eq]
  omega

theorem inRange_ite (R : Nat) (a d : Int) (hd : 0 ≤ d ∧ d < R) :
    0 ≤ (if inRange R a then a else d) ∧ (if inRange R a then a else d) < R := by
  split
  · rename_i h; exact (inRange_iff R a).1 h
  · exact hd

theorem rgStart_bounds (R : Nat) (hR : 1 ≤ R) (s : Str) : 0 ≤ rgStart R s ∧ rgStart R s < R := by
  unfold rgStart
  split
  · omega
  · exact inRange_ite R _ 0 (by omega)

theorem rgEnd_bounds (R : Nat) (hR : 1 ≤ R) (p1 : Str) : 0 ≤ rgEnd R p1 ∧ rgEnd R p1 < R := by
  unfold rgEnd
  split
  · omega
  · exact inRange_ite R _ _ (by omega)

theorem rgStep_nonneg (R : Nat) (p1 : Str) : 0 ≤ rgStep R p1 := by
  unfold rgStep
  split
  · omega
  · omega
  · split
    · rename_i h; exact ((inRange_iff R _).1 h).1
    · omega

theorem rangeMode_within (R nbth : Nat) (hR : 1 ≤ R) (s : Str) (ts : List Thr)
    (h : rangeMode R nbth s = .ok ts) : ∀ th ∈ ts, ∀ c, th.cpuset = some c → c.Within R := by
  unfold rangeMode at h
  split at h
  · cases h
  · cases h
  · rename_i p1 _ _
    cases h
    have hs := rgStart_bounds R hR s
    have he := rgEnd_bounds R hR p1
    apply rangeThreads_within R _ _ _ hs.1 _ (rgStep_nonneg R p1) nbth 0 _ 1 (Int.le_refl _) _ (Int.le_refl _)
    · split <;> omega
    · split <;> omega

theorem rangeMode_length (R nbth : Nat) (s : Str) (ts : List Thr)
    (h : rangeMode R nbth s = .ok ts) : ts.length = nbth := by
  unfold rangeMode at h
  split at h
  · cases h
  · cases h
  · cases h
    exact rangeThreads_length ..

def TabOk (R : Nat) (tab : List Int) : Prop := ∀ x ∈ tab, 0 ≤ x ∧ x < (R : Int)

theorem tabOk_snoc {R : Nat} {tab : List Int} (h : TabOk R tab) (a : Int) (ha : 0 ≤ a ∧ a < (R : Int)) :
    TabOk R (tab ++ [a]) :=
  List.forall_mem_append.2 ⟨h, List.forall_mem_singleton.2 ha⟩

theorem tabOk_push {R : Nat} {tab : List Int} (h : TabOk R tab) (a : Int) :
    TabOk R (if inRange R a then tab ++ [a] else tab) := by
  split
  · rename_i hr; exact tabOk_snoc h a ((inRange_iff R a).1 hr)
  · exact h

theorem rangeCands_ok (R : Nat) (lo hi : Int) : TabOk R (rangeCands R lo hi) := by
  intro x hx
  unfold rangeCands at hx
  simp only [List.mem_map, List.mem_filter, List.mem_range] at hx
  rcases hx with ⟨t, ⟨ht, _⟩, rfl⟩
  omega

theorem forall_some {α} {P : α → Prop} {a : α} (h : P a) : ∀ b ∈ some a, P b := by
  rintro _ ⟨⟩; exact h

theorem fillRange_ok (R nbth : Nat) (cands tab : List Int) (hc : TabOk R cands) (ht : TabOk R tab) :
    ∀ tab' ∈ fillRange nbth cands tab, TabOk R tab' := by
  induction cands generalizing tab with
  | nil => exact forall_some ht
  | cons t ts ih =>
    obtain ⟨h1, h2⟩ := List.forall_mem_cons.1 hc
    unfold fillRange
    split
    · nofun
    · split
      · exact forall_some (tabOk_snoc ht t h1)
      · exact ih _ h2 (tabOk_snoc ht t h1)

theorem listLoop_ok (R nbth f : Nat) (opt : Str) (tab : List Int) (ht : TabOk R tab) :
    ∀ tab' ∈ listLoop R nbth f opt tab, TabOk R tab' := by
  induction f generalizing opt tab with
  | zero => exact forall_some ht
  | succ f ih =>
    have hp := tabOk_push ht (atoiVal opt)
    unfold listLoop
    split
    · exact forall_some ht
    · split
      · split
        · nofun
        · split
          · nofun
          · rename_i tab2 hfill
            have h2 := fillRange_ok R nbth _ _ (rangeCands_ok R _ _) hp tab2 hfill
            split
            · exact forall_some h2
            · exact ih _ _ h2
      · split
        · exact forall_some hp
        · exact ih _ _ hp

theorem getD_mem_or {l : List Int} {t : Nat} {d : Int} : l.getD t d = d ∨ l.getD t d ∈ l := by
  rw [List.getD_eq_getElem?_getD]
  cases h : l[t]? with
  | none => exact .inl rfl
  | some v => exact .inr (List.mem_of_getElem? h)

theorem listThr_spec (R : Nat) (c : Int) (h : c = -1 ∨ 0 ≤ c ∧ c < R) :
    ∃ n : Nat, (listThr c).cpuset = some (CpuSet.single n) ∧ (n < R ∨ n = UNBOUND_BIT) := by
  unfold listThr
  split
  · exact ⟨_, rfl, .inr rfl⟩
  · exact ⟨_, rfl, .inl (by omega)⟩

theorem listMode_spec (R nbth : Nat) (s : Str) (ts : List Thr) (h : listMode R nbth s = .ok ts) :
    ts.length = nbth ∧ ∀ th ∈ ts, ∃ c : Nat, th.cpuset = some (CpuSet.single c) ∧ (c < R ∨ c = UNBOUND_BIT) := by
  unfold listMode at h
  split at h
  · cases h
  · rename_i tab hl
    have hok := listLoop_ok R nbth _ _ _ (List.forall_mem_nil _) tab hl
    cases h
    exact ⟨by simp, List.forall_mem_map.2 fun t _ => listThr_spec R _ (getD_mem_or.imp_right (hok _))⟩

theorem maskMode_ok {R nbth : Nat} {ax : Str} {ts : List Thr} (h : maskMode R nbth ax = .ok ts) :
    ts = maskThreads R (strtoul16 ax) nbth (-1) := by
  unfold maskMode at h
  split at h
  · cases h
  · exact (BindOut.ok.inj h).symm

theorem maskPick_spec (R mask : Nat) (prev : Int) :
    maskPick R mask prev ≤ R ∨ maskPick R mask prev = nextBit mask (-1) := by
  unfold maskPick
  split
  · exact .inr rfl
  · exact .inl (by omega)

theorem maskThreads_spec (R mask : Nat) : ∀ (k : Nat) (prev : Int), ∀ th ∈ maskThreads R mask k prev,
    ∃ c : Int, th.cpuset = some (CpuSet.single c.toNat) ∧ (c ≤ R ∨ c = nextBit mask (-1)) := by
  intro k
  induction k with
  | zero => nofun
  | succ k ih => exact fun prev => List.forall_mem_cons.2 ⟨⟨_, rfl, maskPick_spec R mask prev⟩, ih _⟩

/-- a placement is "unbound" or one of the allowed cores -/
def PlaceOk (allowed : List Nat) (b : Int) : Prop := b = -1 ∨ (0 ≤ b ∧ b.toNat ∈ allowed)

/-- what the bind_map loops keep of the placements; nothing is stated about `st.idx` and `st.used` -/
def BMInv (allowed : List Nat) (n : Nat) (st : BM) : Prop :=
  st.binds.length = n ∧ ∀ b ∈ st.binds, PlaceOk allowed b

theorem findCore_ok (allowed : List Nat) (w : Int) (hw : 0 ≤ w) : PlaceOk allowed (findCore allowed w) := by
  unfold findCore
  rw [if_neg (by omega)]
  cases h : allowed[w.toNat]? with
  | none => exact .inl rfl
  | some p => exact .inr ⟨Int.natCast_nonneg p, List.mem_of_getElem? h⟩

theorem setLoc_inv {allowed : List Nat} {n : Nat} {st : BM} {w : Int} (hi : BMInv allowed n st) (hw : 0 ≤ w) :
    ∀ st' ∈ setLoc allowed st w, BMInv allowed n st' := by
  unfold setLoc
  split
  · nofun
  · refine forall_some ⟨by simp [hi.1], fun b hb => ?_⟩
    rcases List.mem_or_eq_of_mem_set hb with h1 | rfl
    · exact hi.2 b h1
    · exact findCore_ok allowed w hw

theorem bmStart_nonneg (R : Nat) (opt : Str) : 0 ≤ bmStart R opt := by
  unfold bmStart
  split
  · omega
  · split <;> omega

theorem bmEnd_nonneg (R : Nat) (p1 : Str) : 0 ≤ bmEnd R p1 := by
  unfold bmEnd
  split
  · omega
  · split <;> omega

section loops
/- The bind_map loops change the state through `setLoc` at non-negative indices only, so they preserve
   whatever that preserves (`hP`; for `BMInv` it is `setLoc_inv`). -/
variable {allowed : List Nat} {P : BM → Prop} (hP : ∀ {st w}, P st → 0 ≤ w → ∀ st' ∈ setLoc allowed st w, P st')
include hP

theorem nibbleBits_inv (m k : Nat) (w : Int) (st : BM) (hi : P st) (hw : 0 ≤ w) :
    ∀ st' ∈ nibbleBits allowed m k w st, P st' := by
  induction k generalizing w st with
  | zero => exact forall_some hi
  | succ k ih =>
    unfold nibbleBits
    split
    · split
      · nofun
      · rename_i st1 hs
        exact ih _ st1 (hP hi hw st1 hs) (by omega)
    · exact ih _ st hi (by omega)

theorem maskScan_inv (l : Str) (w : Int) (st : BM) (hi : P st) (hw : 0 ≤ w) :
    ∀ st' ∈ maskScan allowed l w st, P st' := by
  induction l generalizing w st with
  | nil => exact forall_some hi
  | cons c t ih =>
    unfold maskScan
    split
    · exact forall_some hi
    · split
      · nofun
      · rename_i st1 hs
        exact ih _ st1 (nibbleBits_inv hP _ 4 w st hi hw st1 hs) (by omega)

theorem bmRangeLoop_inv (en step : Int) (hen : 0 ≤ en) (f : Nat) (w : Int) (st : BM)
    (hi : P st) (hw : 0 < step → 0 ≤ w) : ∀ st' ∈ bmRangeLoop allowed en step f w st, P st' := by
  induction f generalizing w st with
  | zero => exact forall_some hi
  | succ f ih =>
    unfold bmRangeLoop
    split
    · rename_i hc
      have hw0 : 0 ≤ w := by
        rcases hc with ⟨h1, _⟩ | ⟨_, h2⟩
        · exact hw h1
        · omega
      split
      · nofun
      · rename_i st1 hs
        split
        · nofun
        · exact ih _ st1 (hP hi hw0 st1 hs) (by omega)
    · exact forall_some hi

theorem bmLoop_inv (R f : Nat) (opt : Str) (st : BM) (hi : P st) : ∀ st' ∈ bmLoop R allowed f opt st, P st' := by
  induction f generalizing opt st with
  | zero => exact forall_some hi
  | succ f ih =>
    unfold bmLoop
    split
    · -- hex mask
      split
      · nofun
      · rename_i st1 hs
        have h1 := maskScan_inv hP _ 0 st hi (Int.le_refl 0) st1 hs
        split
        · exact forall_some h1
        · exact ih _ st1 h1
    · split
      · nofun
      · -- range
        split
        · nofun
        · rename_i st1 hs
          have h1 := bmRangeLoop_inv hP _ _ (bmEnd_nonneg R _) _ _ st hi (fun _ => bmStart_nonneg R opt) st1 hs
          split
          · exact forall_some h1
          · exact ih _ st1 h1
      · -- single number
        split
        · rename_i hr
          split
          · nofun
          · rename_i st1 hs
            have h1 := hP hi ((inRange_iff R _).1 hr).1 st1 hs
            split
            · exact forall_some h1
            · exact ih _ st1 h1
        · split
          · exact forall_some hi
          · exact ih _ st hi

end loops

theorem parseBindMap_inv {R : Nat} {allowed : List Nat} {n : Nat} {comm comm' : Int} {opt : Str}
    {binds : List Int} {used : List Nat} (h : parseBindMap R allowed n comm opt = .ok comm' binds used) :
    BMInv allowed n ⟨binds, 0, used⟩ := by
  unfold parseBindMap at h
  split at h
  · cases h
  · rename_i st hs
    have := bmLoop_inv (P := BMInv allowed n) setLoc_inv R _ _ _
      ⟨List.length_replicate, fun b hb => Or.inl (List.mem_replicate.1 hb).2⟩ st hs
    simp only [BMOut.ok.injEq] at h
    obtain ⟨_, rfl, _⟩ := h
    exact this

theorem selectGo_ok (allowed used cands : List Nat) (first : Int) (h : PlaceOk allowed first) :
    PlaceOk allowed (selectGo allowed used cands first) := by
  induction cands generalizing first with
  | nil => exact h
  | cons w ws ih =>
    have hf := findCore_ok allowed (w : Int) (Int.natCast_nonneg w)
    unfold selectGo
    split
    · exact ih first h
    · split
      · apply ih
        split
        · exact hf
        · exact h
      · exact hf

theorem selectCore_ok (allowed used : List Nat) (cs : Option CpuSet) (c : Int)
    (h : selectCore allowed used cs = .core c) : PlaceOk allowed c := by
  unfold selectCore at h
  split at h
  · cases h; exact .inl rfl
  · split at h
    · cases h; exact selectGo_ok _ _ _ _ (.inl rfl)
    · simp only at h
      split at h
      · cases h; exact selectGo_ok _ _ _ _ (.inl rfl)
      · cases h

theorem applyGo_ok (allowed : List Nat) : ∀ (ts : List Thr) (acc : List Int) (used : List Nat) (binds : List Int) (used' : List Nat),
    (∀ b ∈ acc, PlaceOk allowed b) → applyGo allowed ts acc used = .ok binds used' →
    binds.length = acc.length + ts.length ∧ ∀ b ∈ binds, PlaceOk allowed b := by
  intro ts
  induction ts with
  | nil =>
    intro acc used binds used' hacc h
    unfold applyGo at h
    cases h
    exact ⟨by simp, fun b hb => hacc b (List.mem_reverse.1 hb)⟩
  | cons t ts ih =>
    intro acc used binds used' hacc h
    unfold applyGo at h
    split at h
    · cases h
    · rename_i c hc
      have := ih (c :: acc) _ binds used' (List.forall_mem_cons.2 ⟨selectCore_ok allowed used t.cpuset c hc, hacc⟩) h
      exact ⟨by rw [this.1]; simp; omega, this.2⟩

/-- a string that starts with one keyword of `vpmapInit` starts with no other -/
theorem isPrefixOf_excl {p q s : Str} (hp : p.isPrefixOf s = true) (h1 : p.isPrefixOf q = false)
    (h2 : q.isPrefixOf p = false) : q.isPrefixOf s = false := by
  cases hq : q.isPrefixOf s with
  | false => rfl
  | true =>
    rcases List.prefix_or_prefix_of_prefix (List.isPrefixOf_iff_prefix.1 hp) (List.isPrefixOf_iff_prefix.1 hq) with h | h
    · rw [List.isPrefixOf_iff_prefix.2 h] at h1; cases h1
    · rw [List.isPrefixOf_iff_prefix.2 h] at h2; cases h2

end ParsecVerif.VpMap
