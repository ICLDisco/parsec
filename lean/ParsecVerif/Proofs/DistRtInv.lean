import ParsecVerif.Proofs.DistRt
import ParsecVerif.Proofs.RemoteDepMachine
/-! The inductive invariant `DInv` of the distributed runtime (C05) says where copies are (on the node's own rank and
    wherever its collective has delivered) and which dependencies towards other ranks are still pending: those the
    collective has not released (`owed`).  With C13's forest invariant it gives that a sender holds what it sends
    (`DInv.snd`); by itself, that a running node finds its inputs on its own rank (`localInputs_eq`). -/
namespace ParsecVerif.DistRt
open ParsecVerif.Dataflow
open ParsecVerif.RemoteDep hiding St

theorem mem_outsOf (g : DGraph) (cf : Conf) (a : Nat) (o : Out) :
    o ∈ outsOf g cf a ↔ o.1 < g.nout ∧ o.2 = remoteRanks g cf a o.1 ∧ o.2 ≠ [] := by
  simp only [outsOf, List.mem_filterMap, List.mem_range, Option.ite_none_left_eq_some, Option.some.injEq,
    List.isEmpty_iff]
  constructor
  · rintro ⟨k, hk, hne, rfl⟩; exact ⟨hk, rfl, hne⟩
  · rintro ⟨h1, h2, h3⟩; exact ⟨o.1, h1, h2 ▸ h3, by rw [← h2]⟩

theorem outsOf_pairwise (g : DGraph) (cf : Conf) (a : Nat) : ((outsOf g cf a).map Prod.fst).Pairwise (· < ·) := by
  rw [List.pairwise_map]
  unfold outsOf
  rw [List.pairwise_filterMap]
  refine List.pairwise_lt_range.imp fun hlt o ho o' ho' => ?_
  simp only [Option.ite_none_left_eq_some, Option.some.injEq] at ho ho'
  rw [← ho.2, ← ho'.2]; exact hlt

theorem mem_remoteRanks (g : DGraph) (cf : Conf) (a k r : Nat) :
    r ∈ remoteRanks g cf a k ↔ ∃ e ∈ g.E, e.1 = a ∧ e.2.2 = k ∧ cf.place e.2.1 ≠ cf.place a ∧ cf.place e.2.1 = r := by
  simp only [remoteRanks, List.mem_map, List.mem_filter, Bool.and_eq_true, beq_iff_eq, bne_iff_ne, ne_eq, and_assoc]

theorem cfgOf_WF {g : DGraph} {cf : Conf} (hwf : g.WF) (hcf : cf.WF g) (a : Nat) (ha : a < g.n) : (cfgOf g cf a).WF := by
  refine ⟨hcf.2.2 a ha, hcf.2.1, outsOf_pairwise g cf a, ?_⟩
  intro o ho r hr
  rw [((mem_outsOf g cf a o).1 ho).2.1] at hr
  obtain ⟨e, he, _, _, _, h4⟩ := (mem_remoteRanks g cf a o.1 r).1 hr
  exact h4 ▸ hcf.2.2 _ (hwf e he).2.1

theorem cfgOf_wanted {g : DGraph} {cf : Conf} (hwf : g.WF) (a : Nat) (e : Nat × Nat × Nat) (he : e ∈ g.E)
    (h1 : e.1 = a) (hr : cf.place e.2.1 ≠ cf.place a) : (cfgOf g cf a).wanted (cf.place e.2.1) e.2.2 = true := by
  have hm : cf.place e.2.1 ∈ remoteRanks g cf a e.2.2 := (mem_remoteRanks _ _ _ _ _).2 ⟨e, he, h1, rfl, hr, rfl⟩
  exact (mem_wanted _ _).2 ⟨hr, (e.2.2, remoteRanks g cf a e.2.2),
    (mem_outsOf g cf a _).2 ⟨(hwf e he).2.2, rfl, List.ne_nil_of_mem hm⟩, rfl, hm⟩

/-- has the dependency fed by output `k` of `a` towards a node on rank `r` been released by the collective?
    (A message that reached `r` releases the outputs it carries and the control outputs.) -/
def got (g : DGraph) (a : Nat) (log : List Msg) (r k : Nat) : Bool :=
  log.any fun m => m.dst == r && (m.keys.contains k || g.isCtl a k)

theorem got_iff {g : DGraph} {a : Nat} {log : List Msg} {r k : Nat} :
    got g a log r k = true ↔ ∃ m ∈ log, m.dst = r ∧ (k ∈ m.keys ∨ g.isCtl a k = true) := by
  simp only [got, List.any_eq_true, Bool.and_eq_true, beq_iff_eq, Bool.or_eq_true, List.contains_iff_mem]

def logOf (coll : List (Nat × RemoteDep.St)) (a : Nat) : List Msg :=
  match look coll a with
  | some st => st.log
  | none => []

theorem logOf_of_look {coll : List (Nat × RemoteDep.St)} {a : Nat} {st : RemoteDep.St} (h : look coll a = some st) :
    logOf coll a = st.log := by
  unfold logOf; rw [h]

theorem logOf_cons_ne {a x : Nat} (st : RemoteDep.St) (coll : List (Nat × RemoteDep.St)) (h : a ≠ x) :
    logOf ((a, st) :: coll) x = logOf coll x := by
  unfold logOf; rw [look_cons_ne st coll h]

theorem inflightOf_of_look {s : DSt} {a : Nat} {st : RemoteDep.St} (h : look s.coll a = some st) :
    inflightOf s a = st.inflight := by
  unfold inflightOf; rw [h]

theorem mem_inflightOf {s : DSt} {a : Nat} {m : Msg} :
    m ∈ inflightOf s a ↔ ∃ st, look s.coll a = some st ∧ m ∈ st.inflight := by
  unfold inflightOf; cases look s.coll a <;> simp

section
variable {g : DGraph} {cf : Conf} {F : Nat → List (Option Nat) → Nat} {again : List Nat}

/-- The other cases of `complete` (`complete_of_not_mem`) are reached by `recvData`, whose guard does not look at
    `inflight`.  The case `none` of the store does not occur under the invariant (`DInv.snd`). -/
theorem complete_of_mem {s : DSt} {a : Nat} {m : Msg} {st : RemoteDep.St} (hl : look s.coll a = some st)
    (hm : m ∈ st.inflight) :
    complete g cf F s a m =
      { core := relFold g.graph F a (releasedBy g cf a m) s.core,
        store := match look s.store (m.src, a) with
                 | some v => ((m.dst, a), v) :: s.store
                 | none => s.store,
        coll := (a, (cfgOf g cf a).deliver st m) :: s.coll, xfer := s.xfer } := by
  unfold complete
  rw [hl]
  exact if_pos (List.contains_iff_mem.2 hm)

theorem complete_of_not_mem {s : DSt} {a : Nat} {m : Msg} (h : m ∉ inflightOf s a) : complete g cf F s a m = s := by
  unfold complete
  split
  · rfl
  · next st hl => exact if_neg fun hc => h (mem_inflightOf.2 ⟨st, hl, List.contains_iff_mem.1 hc⟩)

structure DInv (g : DGraph) (cf : Conf) (F : Nat → List (Option Nat) → Nat) (again : List Nat) (s : DSt) : Prop where
  /-- the core is the end of a run of the single-process machine: more than `Dataflow.Inv` (which follows, `DInv.ginv`),
      so that a distributed run projects onto such a run (`C05.dist_run_is_run`) -/
  gen   : ∃ ts, s.core = Dataflow.run g.graph F again ts
  stv   : ∀ k v, look s.store k = some v → (seqRun g.graph F)[k.2]? = some (some v)
  /-- with the first part of `act`: a node has a collective exactly when it has completed -/
  own   : ∀ i : Nat, s.core.status[i]? = some Status.ended → (look s.coll i).isSome
  /-- last part: the value is held by C13's "the root or has received" -/
  act   : ∀ a st, look s.coll a = some st →
            s.core.status[a]? = some Status.ended ∧ (∃ ms, st = (cfgOf g cf a).run ms) ∧
            ∀ r ∈ cf.place a :: dsts st.log, (look s.store (r, a)).isSome
  owed  : ∀ a b, cf.place b ≠ cf.place a → s.core.pending.count (a, b) =
            g.E.countP (fun e => e.1 == a && e.2.1 == b && !got g a (logOf s.coll a) (cf.place b) e.2.2)

theorem DInv.ginv (hwf : g.WF) {s : DSt} (h : DInv g cf F again s) : Inv g.graph F s.core := by
  obtain ⟨ts, hts⟩ := h.gen
  rw [hts]; exact inv_run (graph_WF g hwf) again ts

theorem DInv.coll_inv (hwf : g.WF) (hcf : cf.WF g) {s : DSt} (h : DInv g cf F again s) {a : Nat}
    {st : RemoteDep.St} (hl : look s.coll a = some st) :
    (cfgOf g cf a).WF ∧ RemoteDep.Inv (cfgOf g cf a) st := by
  obtain ⟨haE, ⟨ms, rfl⟩, _⟩ := h.act a st hl
  have hcw := cfgOf_WF hwf hcf a ((h.ginv hwf).lt haE)
  exact ⟨hcw, inv_run hcw (topo_tree cf.topo) ms⟩

theorem DInv.values_ok (hwf : g.WF) {s : DSt} (h : DInv g cf F again s) :
    (∀ i : Nat, s.core.status[i]? = some Status.ended → s.core.val[i]? = (seqRun g.graph F)[i]?) ∧
    (∀ r i v, look s.store (r, i) = some v → (seqRun g.graph F)[i]? = some (some v)) :=
  ⟨ended_vals_eq_seqRun (graph_fw g hwf) (h.ginv hwf), fun r i => h.stv (r, i)⟩

theorem DInv.not_pending_iff {s : DSt} (h : DInv g cf F again s) {a b : Nat} (hpl : cf.place b ≠ cf.place a) :
    (a, b) ∉ s.core.pending ↔
      ∀ e ∈ g.E, e.1 = a → e.2.1 = b → got g a (logOf s.coll a) (cf.place b) e.2.2 = true := by
  rw [← List.count_eq_zero, h.owed a b hpl, List.countP_eq_zero]
  simp only [Bool.and_eq_true, beq_iff_eq, Bool.not_eq_true', Bool.not_eq_false, not_and, and_imp]

theorem DInv.snd (hwf : g.WF) (hcf : cf.WF g) {s : DSt} (h : DInv g cf F again s) {a : Nat}
    {st : RemoteDep.St} (hl : look s.coll a = some st) {m : Msg} (hm : m ∈ st.inflight) :
    (look s.store (m.src, a)).isSome := by
  have hC := (h.coll_inv hwf hcf hl).2
  have hm' := List.mem_append_left st.log hm
  exact (h.act a st hl).2.2 _ (List.mem_cons.2 ((hC.closed _ _ (hC.edge m hm').1).1 (mem_dsts.2 ⟨m, hm', rfl⟩)))

theorem gen_step {s : Dataflow.St} (h : ∃ ts, s = Dataflow.run g.graph F again ts) (t : Tr) :
    ∃ ts, Dataflow.step g.graph F s t = Dataflow.run g.graph F again ts := by
  obtain ⟨ts, rfl⟩ := h
  exact ⟨ts ++ [t], by simp [Dataflow.run, List.foldl_append]⟩

theorem gen_relFold {s : Dataflow.St} (h : ∃ ts, s = Dataflow.run g.graph F again ts) (a : Nat) (rel : List Nat) :
    ∃ ts, relFold g.graph F a rel s = Dataflow.run g.graph F again ts := by
  induction rel generalizing s with
  | nil => exact h
  | cons b rel ih => exact ih (gen_step h _)

theorem dinv_init : DInv g cf F again (dinit g again) := by
  refine ⟨⟨[], rfl⟩, nofun, fun i hi => absurd hi (init_not_started g.graph again i).2, nofun, fun a b _ => ?_⟩
  show g.graph.E.count (a, b) = _
  rw [count_graph_E]
  exact List.countP_congr fun e _ => by simp [logOf, look, dinit, got]

theorem dinv_xfer {s : DSt} (h : DInv g cf F again s) (x : List (Nat × Msg)) :
    DInv g cf F again { s with xfer := x } :=
  ⟨h.gen, h.stv, h.own, h.act, h.owed⟩

/-- `start`, `again`, `releaseLocal`: the same nodes are ended, and no dependency towards another rank leaves
    `pending` -/
theorem dinv_core_step (hwf : g.WF) {s : DSt} (h : DInv g cf F again s) (t : Tr) (hf : ∀ i, t ≠ .finish i)
    (hloc : ∀ a b, t = .release a b → cf.place a = cf.place b) :
    DInv g cf F again { s with core := Dataflow.step g.graph F s.core t } := by
  have he := step_ended_iff (graph_WF g hwf) (h.ginv hwf) t hf
  refine ⟨gen_step h.gen t, h.stv, fun i hi => h.own i ((he i).1 hi),
    fun a st hl => ⟨(he a).2 (h.act a st hl).1, (h.act a st hl).2⟩, fun a b hb => ?_⟩
  · have := PtgRt.step_pending g.graph F s.core t (a, b)
    rw [if_neg fun hc => hb (hloc a b hc.1).symm, Nat.add_zero] at this
    exact this.trans (h.owed a b hb)

theorem localInputs_eq (hwf : g.WF) {s : DSt} (h : DInv g cf F again s) (i : Nat)
    (hst : s.core.status[i]? = some Status.running) : localInputs g cf s i = inputs g.graph s.core i := by
  have hG := h.ginv hwf
  have hi : i < g.graph.n := hG.lt hst
  unfold localInputs inputs
  apply List.map_congr_left
  intro p hp
  have hpi := (mem_predsOf g.graph i p).1 hp
  obtain ⟨e, he, rfl, rfl⟩ := (mem_graph_E g p i).1 hpi
  have hnw : s.core.status[e.2.1]? ≠ some .waiting := by rw [hst]; decide
  have hpE := preds_ended hG _ hpi hi hnw
  obtain ⟨st, hl⟩ := Option.isSome_iff_exists.1 (h.own e.1 hpE)
  -- the consumer is on the producer's rank, or on a rank reached by the message that released the dependency
  have hsome : (look s.store (cf.place e.2.1, e.1)).isSome := by
    refine (h.act _ st hl).2.2 _ (List.mem_cons.2 ?_)
    by_cases hpl : cf.place e.2.1 = cf.place e.1
    · exact .inl hpl
    · obtain ⟨m, hm, hd, _⟩ := got_iff.1 <| (h.not_pending_iff hpl).1
        (fun hm => hnw ((hG.wait _ hi).2 ((hasIn_iff _ _).2 ⟨_, hm, rfl⟩))) e he rfl rfl
      exact .inr (mem_dsts.2 ⟨m, logOf_of_look hl ▸ hm, hd⟩)
  obtain ⟨v, hl⟩ := Option.isSome_iff_exists.1 hsome
  rw [hl, (h.values_ok hwf).1 _ hpE, h.stv _ _ hl]; rfl

/-- last part: the core that `dstep` writes out for `finish` (its value comes from `localInputs`) is the step of the
    single-process machine, which is what `DInv.gen` needs -/
theorem finish_facts (hwf : g.WF) {s : DSt} (h : DInv g cf F again s) {i : Nat} (hen : enabled s.core (.finish i) = true) :
    s.core.status[i]? = some Status.running ∧ look s.coll i = none ∧
    Dataflow.step g.graph F s.core (.finish i) =
      { s.core with status := s.core.status.set i .ended, val := s.core.val.set i (some (F i (localInputs g cf s i))),
                    log := s.core.log ++ [.end_ i] } := by
  have hst : s.core.status[i]? = some Status.running := (enabled_iff.1 hen).1
  refine ⟨hst, ?_, by unfold Dataflow.step; simp [hen, localInputs_eq hwf h i hst]⟩
  cases hl : look s.coll i with
  | none => rfl
  | some st => have := (h.act i st hl).1; rw [hst] at this; cases this

theorem dinv_finish (hwf : g.WF) {s : DSt} (h : DInv g cf F again s) (i : Nat) (hen : enabled s.core (.finish i) = true) :
    DInv g cf F again
      { s with core := { s.core with status := s.core.status.set i .ended,
                                     val := s.core.val.set i (some (F i (localInputs g cf s i))),
                                     log := s.core.log ++ [.end_ i] },
               store := ((cf.place i, i), F i (localInputs g cf s i)) :: s.store,
               coll := (i, (cfgOf g cf i).init) :: s.coll } := by
  obtain ⟨hst, hnone, e⟩ := finish_facts hwf h hen
  have hG := h.ginv hwf
  have hiv : i < s.core.val.length := hG.vlen ▸ hG.lt hst
  have hse : ∀ j : Nat, j ≠ i → (s.core.status.set i Status.ended)[j]? = s.core.status[j]? :=
    fun j hj => List.getElem?_set_ne (fun e => hj e.symm)
  have hsi : (s.core.status.set i Status.ended)[i]? = some Status.ended := List.getElem?_set_self (List.getElem?_eq_some_iff.1 hst).1
  -- no collective before, none of its messages delivered after: the logs are those of before
  have hlog : ∀ a, logOf ((i, (cfgOf g cf i).init) :: s.coll) a = logOf s.coll a := fun a => by
    by_cases hai : i = a
    · subst hai; unfold logOf; rw [look_cons_self, hnone]; rfl
    · exact logOf_cons_ne _ _ hai
  refine ⟨e ▸ gen_step h.gen _, look_cons_forall ?_ h.stv, ?_,
    look_cons_forall ⟨hsi, ⟨[], rfl⟩, fun r hr => by rw [List.mem_singleton.1 hr, look_cons_self]; rfl⟩ ?_,
    fun a b hb => hlog a ▸ h.owed a b hb⟩
  · -- the state after the step satisfies the invariant of the single-process machine, and `i` has completed in it
    exact (ended_vals_eq_seqRun (graph_fw g hwf) (e ▸ inv_step (graph_WF g hwf) _ hG (.finish i)) i hsi).symm.trans
      (List.getElem?_set_self hiv)
  · intro j hj
    by_cases hji : j = i
    · subst hji; rw [look_cons_self]; rfl
    · exact look_cons_isSome (h.own j (hse j hji ▸ hj))
  · intro a st hl
    have := h.act a st hl
    have hai : a ≠ i := fun e => by rw [e, hst] at this; cases this.1
    exact ⟨hse a hai ▸ this.1, this.2.1, fun r hr => look_cons_isSome (this.2.2 r hr)⟩

theorem inflight_facts {c : Cfg} {st : RemoteDep.St} (hC : RemoteDep.Inv c st) :
    st.inflight.Nodup ∧ ∀ m ∈ st.inflight, m.dst ∉ dsts st.log := by
  have hnd := hC.nodup
  rw [dsts_append, List.nodup_append] at hnd
  exact ⟨List.Pairwise.of_map Msg.dst (fun x y hne e => hne (e ▸ rfl)) hnd.1,
    fun m hm hd => hnd.2.2 m.dst (mem_dsts.2 ⟨m, hm, rfl⟩) m.dst hd rfl⟩

theorem got_of_not_mem (a : Nat) {log : List Msg} {r : Nat} (h : r ∉ dsts log) (k : Nat) : got g a log r k = false :=
  Bool.eq_false_iff.2 fun hc => let ⟨m, hm, hd, _⟩ := got_iff.1 hc; h (mem_dsts.2 ⟨m, hm, hd⟩)

theorem dinv_complete (hwf : g.WF) (hcf : cf.WF g) {s : DSt} (h : DInv g cf F again s) (a : Nat) (m : Msg) :
    DInv g cf F again (complete g cf F s a m) := by
  by_cases hmi : m ∈ inflightOf s a
  case neg => rw [complete_of_not_mem hmi]; exact h
  obtain ⟨st, hl, hmem⟩ := mem_inflightOf.1 hmi
  have hG := h.ginv hwf
  obtain ⟨haE, ⟨ms, hms⟩, hst⟩ := h.act a st hl
  have hC := (h.coll_inv hwf hcf hl).2
  have hnd := (inflight_facts hC).2 m hmem
  obtain ⟨v, hv⟩ := Option.isSome_iff_exists.1 (h.snd hwf hcf hl hmem)
  rw [complete_of_mem hl hmem, hv]
  have hend := (relFold_frame (F := F) (graph_WF g hwf) a (releasedBy g cf a m) hG).1
  have hdl := (cfgOf g cf a).deliver_of_mem hmem
  refine ⟨gen_relFold h.gen a _, look_cons_forall (h.stv (m.src, a) v hv) h.stv, ?_, look_cons_forall ?_ ?_, ?_⟩
  · exact fun i hi => look_cons_isSome (h.own i ((hend i).1 hi))
  · refine ⟨(hend a).2 haE, ⟨ms ++ [m], by rw [hms]; simp [Cfg.run, List.foldl_append]⟩, fun r hr => ?_⟩
    by_cases hrd : r = m.dst
    · rw [hrd, look_cons_self]; rfl
    · rw [hdl, dsts_cons, List.mem_cons, List.mem_cons, or_left_comm] at hr
      exact look_cons_isSome (hst r (List.mem_cons.2 (hr.resolve_left hrd)))
  · intro x st' hl'
    have := h.act x st' hl'
    exact ⟨(hend x).2 this.1, this.2.1, fun r hr => look_cons_isSome (this.2.2 r hr)⟩
  · intro x y hy
    rw [relFold_count (graph_WF g hwf) a _ hG haE, h.owed x y hy]
    by_cases hax : a = x
    · subst hax
      rw [if_pos rfl, count_releasedBy, logOf_of_look hl, logOf_of_look (look_cons_self _ _ _), hdl]
      -- what was owed towards `y` splits into what `m` releases and what is still owed
      rw [countP_not_split g.E _ (fun e => m.dst == cf.place y && (m.keys.contains e.2.2 || g.isCtl a e.2.2)) _
        fun e hq => beq_iff_eq.1 (Bool.and_eq_true_iff.1 hq).1 ▸ got_of_not_mem a hnd _]
      exact Nat.add_sub_cancel_left _ _
    · rw [if_neg (Ne.symm hax), Nat.sub_zero, logOf_cons_ne _ _ hax]

theorem dinv_step (hwf : g.WF) (hcf : cf.WF g) {s : DSt} (h : DInv g cf F again s) (t : DTr) :
    DInv g cf F again (dstep g cf F s t) := by
  unfold dstep
  by_cases hen : denabled cf s t = true
  · simp only [hen, Bool.not_true, Bool.false_eq_true, if_false]
    cases t with
    | start i => exact dinv_core_step hwf h _ nofun nofun
    | again i => exact dinv_core_step hwf h _ nofun nofun
    | finish i => exact dinv_finish hwf h i hen
    | releaseLocal a b => exact dinv_core_step hwf h _ nofun fun _ _ e => by cases e; exact (denabled_iff.1 hen).2
    | recvAct a m eager =>
      simp only
      split
      · exact dinv_complete hwf hcf h a m
      · exact dinv_xfer h _
    | recvData a m => exact dinv_complete hwf hcf (dinv_xfer h _) a m
  · simp [hen]; exact h

theorem dinv_run (hwf : g.WF) (hcf : cf.WF g) (ts : List DTr) : DInv g cf F again (drun g cf F again ts) :=
  List.foldlRecOn ts _ dinv_init fun _ h t _ => dinv_step hwf hcf h t

end
end ParsecVerif.DistRt
