/-
  C14 — the whole engine: its invariant between passes (`Inv`) and inside a pass (`Mid`), kept by every step of a pass.
-/
import ParsecVerif.Proofs.CommPool
import ParsecVerif.Proofs.CommDyn

namespace ParsecVerif.CommEngine
open ParsecVerif.Interleave (lt_of_getElem? getElem?_set_cases map_set_of_eq)

def Ref.dynOf : Ref → Option Dyn
  | .dyn x => some x
  | _ => none

def servedDyn (s : St) : List Dyn := s.served.filterMap Ref.dynOf

structure Static (s s' : St) : Prop where
  shapes : s'.pools.map Pool.shape = s.pools.map Pool.shape
  base : s'.dyn.base = s.dyn.base
  cap : s'.dyn.cap = s.dyn.cap
  quota : s'.dyn.quota = s.dyn.quota

theorem Static.refl (s : St) : Static s s := ⟨rfl, rfl, rfl, rfl⟩
theorem Static.trans {a b c : St} (h1 : Static a b) (h2 : Static b c) : Static a c :=
  ⟨h2.shapes.trans h1.shapes, h2.base.trans h1.base, h2.cap.trans h1.cap, h2.quota.trans h1.quota⟩

/-- What a stretch of a pass does to the ghost logs. -/
structure Adv (s s' : St) (ins : List Dyn) (rs : List Ref) : Prop where
  static : Static s s'
  issued : s'.issued = s.issued ++ ins
  served : s'.served = s.served ++ rs

theorem Adv.silent {s s' : St} (h : Static s s') (hi : s'.issued = s.issued) (hs : s'.served = s.served) :
    Adv s s' [] [] :=
  ⟨h, hi.trans (List.append_nil _).symm, hs.trans (List.append_nil _).symm⟩

theorem Adv.refl (s : St) : Adv s s [] [] := .silent (Static.refl s) rfl rfl

theorem Adv.trans {a b c : St} {i i' : List Dyn} {r r' : List Ref} (h1 : Adv a b i r) (h2 : Adv b c i' r') :
    Adv a c (i ++ i') (r ++ r') :=
  ⟨h1.static.trans h2.static, by rw [h2.issued, h1.issued, List.append_assoc],
    by rw [h2.served, h1.served, List.append_assoc]⟩

theorem Adv.trans_silent {a b c : St} {i : List Dyn} {r : List Ref} (h1 : Adv a b i r) (h2 : Adv b c [] []) :
    Adv a c i r := by
  simpa using h1.trans h2

theorem Adv.fresh {s s' : St} {ins more : List Dyn} {rs : List Ref} (h : Adv s s' ins rs)
    (hf : ∀ x, x ∈ ins ++ more → x ∉ s.issued) (hnd : (ins ++ more).Nodup) : ∀ x, x ∈ more → x ∉ s'.issued := by
  intro x hx
  rw [h.issued, List.mem_append]
  rintro (h1 | h1)
  · exact hf x (List.mem_append_right _ hx) h1
  · exact (List.nodup_append.mp hnd).2.2 x h1 x hx rfl

structure Inv (s : St) : Prop where
  pools : ∀ (k : Nat) p, s.pools[k]? = some p → PQuiet p
  dyn : DInv s.dyn
  ok : s.bad = false
  ledger : (s.dyn.refs ++ servedDyn s).Perm s.issued
  nodup : s.issued.Nodup

/-- `todo` = reported indices whose callback has not run yet, `all` = all reported ones.  It is read through
    `mid_iff`: `pools`, `u1`, `t1` make `PoolsMid`, and `dyn`, `u2`, `u3`, `u4`, `t2` are the fields of `DynMid` in
    their order. -/
structure Mid (s : St) (todo all : List Loc) : Prop where
  pools : ∀ (k : Nat) p, s.pools[k]? = some p → PInv p
  dyn : DMid s.dyn
  ok : s.bad = false
  ledger : (s.dyn.refs ++ servedDyn s).Perm s.issued
  nodup : s.issued.Nodup
  u1 : ∀ (k : Nat) p r, s.pools[k]? = some p → r < p.n → p.act.getD r true = false →
         ∃ j, p.win[j]? = some (amSlot p.id r (p.base + j)) ∧ Loc.win k j ∈ todo
  u2 : ∀ (j : Nat) sl, s.dyn.slots[j]? = some sl → sl.fin = true → Loc.dyn j ∈ todo ∧ sl.req = none
  u3 : ∀ (j : Nat) sl, s.dyn.slots[j]? = some sl → sl.req = none → Loc.dyn j ∈ all
  u4 : ∀ j, Loc.dyn j ∈ all → j < s.dyn.slots.length
  t1 : ∀ k j, Loc.win k j ∈ todo → ∃ p r, s.pools[k]? = some p ∧ r < p.n ∧
         p.win[j]? = some (amSlot p.id r (p.base + j)) ∧ p.act.getD r true = false
  t2 : ∀ j, Loc.dyn j ∈ todo → ∃ sl, s.dyn.slots[j]? = some sl ∧ sl.fin = true
  t3 : Loc.out ∉ todo

def PoolsMid (ps : List Pool) (todo : List Loc) : Prop :=
  (∀ k p, ps[k]? = some p → PMid p (fun j => Loc.win k j ∈ todo)) ∧ ∀ k j, Loc.win k j ∈ todo → k < ps.length

theorem mid_iff {s : St} {todo all : List Loc} : Mid s todo all ↔
    PoolsMid s.pools todo ∧ DynMid s.dyn (Loc.dyn · ∈ todo) (Loc.dyn · ∈ all) ∧ s.bad = false ∧
    (s.dyn.refs ++ servedDyn s).Perm s.issued ∧ s.issued.Nodup ∧ Loc.out ∉ todo := by
  constructor
  · intro h
    refine ⟨⟨fun k p hk => ⟨h.pools k p hk, fun j hj => ?_, fun r hr ha => ?_⟩, fun k j hm => ?_⟩,
      ⟨h.dyn, h.u2, h.u3, h.u4, h.t2⟩, h.ok, h.ledger, h.nodup, h.t3⟩
    · obtain ⟨p', r, h1, h2, h3, h4⟩ := h.t1 k j hj
      rw [hk] at h1; cases h1; exact ⟨r, h2, h3, h4⟩
    · exact (h.u1 k p r hk hr ha).imp fun j hj => ⟨hj.2, hj.1⟩
    · obtain ⟨p', _, h1, _⟩ := h.t1 k j hm
      exact lt_of_getElem? h1
  · rintro ⟨⟨hp, hk⟩, hd, ok, ledger, nodup, t3⟩
    refine ⟨fun k p h => (hp k p h).inv, hd.dyn, ok, ledger, nodup, fun k p r h hr ha => ?_, hd.fin_pending,
      hd.hole_reported, hd.reported_lt, fun k j hm => ?_, hd.pending_fin, t3⟩
    · exact ((hp k p h).inactive_pending r hr ha).imp fun j hj => ⟨hj.2, hj.1⟩
    · obtain ⟨r, h1, h2, h3⟩ := (hp k _ (List.getElem?_eq_getElem (hk k j hm))).pending_inactive j hm
      exact ⟨_, r, List.getElem?_eq_getElem (hk k j hm), h1, h2, h3⟩

theorem PoolsMid.congr {ps : List Pool} {t t' : List Loc} (h : PoolsMid ps t)
    (he : ∀ k j, Loc.win k j ∈ t ↔ Loc.win k j ∈ t') : PoolsMid ps t' :=
  ⟨fun k p hk => (h.1 k p hk).congr (he k), fun k j hm => h.2 k j ((he k j).mpr hm)⟩

theorem PoolsMid.set {ps : List Pool} {t t' : List Loc} (h : PoolsMid ps t) {k : Nat} {p q : Pool}
    (hk : ps[k]? = some p) (hq : PMid q (fun j => Loc.win k j ∈ t'))
    (he : ∀ k' j, k' ≠ k → (Loc.win k' j ∈ t ↔ Loc.win k' j ∈ t')) : PoolsMid (ps.set k q) t' := by
  refine ⟨fun k' p' hk' => ?_, fun k' j hm => ?_⟩
  · rcases getElem?_set_cases hk' with ⟨rfl, rfl⟩ | ⟨hne, e⟩
    · exact hq
    · exact (h.1 k' p' e).congr (he k' · hne)
  · rw [List.length_set]
    by_cases hkk : k' = k
    · rw [hkk]; exact lt_of_getElem? hk
    · exact h.2 k' j ((he k' j hkk).mpr hm)

/-- A location `MPI_Testsome` may still report: a slot holding a request. -/
def LiveNow (s : St) : Loc → Prop
  | .win k j => ∃ p r, s.pools[k]? = some p ∧ r < p.n ∧ p.win[j]? = some (amSlot p.id r (p.base + j))
  | .dyn j => ∃ sl, s.dyn.slots[j]? = some sl ∧ sl.req ≠ none
  | .out => False

theorem Inv.toMid {s : St} (h : Inv s) (all : List Loc) (hall : ∀ j, Loc.dyn j ∈ all → j < s.dyn.slots.length) :
    Mid s [] all :=
  mid_iff.mpr ⟨⟨fun k p hk => (h.pools k p hk).toMid (by simp), by simp⟩, h.dyn.toMid (by simp) hall, h.ok, h.ledger,
    h.nodup, by simp⟩

/-- `MPI_Testsome` reports `l`.  The third conjunct is what `LiveNow` is for: with it `Mid_test` completes the rest of
    a duplicate-free list of reports one after the other. -/
theorem Mid_complete {s : St} {todo all : List Loc} (h : Mid s todo all) (l : Loc) (hall : l ∈ all)
    (hlive : LiveNow s l) :
    Mid (s.completeL l) (todo ++ [l]) all ∧ Adv s (s.completeL l) [] [] ∧
    (∀ l', l' ≠ l → LiveNow s l' → LiveNow (s.completeL l) l') := by
  obtain ⟨hp, hd, ok, ledger, nodup, t3⟩ := mid_iff.mp h
  cases l with
  | win k j =>
    obtain ⟨p, r, hk, hr, hw⟩ := hlive
    have hs' : s.completeL (.win k j) = { s with pools := s.pools.set k (p.complete j) } := by
      simp only [St.completeL, modPool, hk]
    rw [hs']
    refine ⟨mid_iff.mpr ⟨hp.set hk (((hp.1 k p hk).complete hr hw).congr (by simp)) (by intro k' j' hne; simp [hne]),
      (hd.congr (by simp) fun _ => Iff.rfl), ok, ledger, nodup, by simpa using t3⟩,
      Adv.silent ⟨map_set_of_eq hk (by rw [complete_act hw]; rfl), rfl, rfl, rfl⟩ rfl rfl, fun l' hne hl' => ?_⟩
    cases l' with
    | win k' j' =>
      obtain ⟨p1, r1, h1, h2, h3⟩ := hl'
      by_cases hkk : k = k'
      · subst hkk
        rw [hk] at h1; cases h1
        refine ⟨_, r1, List.getElem?_set_self (lt_of_getElem? hk), ?_⟩
        rw [complete_act hw]; exact ⟨h2, h3⟩
      · exact ⟨p1, r1, (List.getElem?_set_ne hkk).trans h1, h2, h3⟩
    | dyn j' => exact hl'
    | out => exact hl'
  | dyn j =>
    obtain ⟨sl, hj, hreq⟩ := hlive
    obtain ⟨g1, g2⟩ := DMid_complete hd.dyn hj hreq
    have e : (s.completeL (.dyn j)).dyn = _ := complete_eq hj
    refine ⟨mid_iff.mpr ⟨hp.congr (by simp), hd.set (sl' := sl.finish) g1 (by rw [e]) (lt_of_getElem? hj)
      (fun j' hne => by simp [hne]) (by simp [Slot.finish]) rfl hall, ok, by show ((s.dyn.complete j).refs ++ _).Perm _; rw [g2]; exact ledger,
      nodup, by simpa using t3⟩, Adv.silent ⟨rfl, by rw [e], by rw [e], by rw [e]⟩ rfl rfl, fun l' hne hl' => ?_⟩
    cases l' with
    | win k' j' => exact hl'
    | dyn j' =>
      obtain ⟨sl1, h1, h2⟩ := hl'
      exact ⟨sl1, by rw [e]; exact (List.getElem?_set_ne fun e => hne (congrArg Loc.dyn e.symm)).trans h1, h2⟩
    | out => exact hl'
  | out => exact hlive.elim

theorem Mid_test {all : List Loc} (ls : List Loc) {s : St} {todo : List Loc} (h : Mid s todo all)
    (hall : ∀ l, l ∈ ls → l ∈ all) (hnd : ls.Nodup) (hlive : ∀ l, l ∈ ls → LiveNow s l) :
    Mid (ls.foldl St.completeL s) (todo ++ ls) all ∧ Adv s (ls.foldl St.completeL s) [] [] := by
  induction ls generalizing s todo with
  | nil => exact ⟨(List.append_nil _).symm ▸ h, Adv.refl s⟩
  | cons l rest ih =>
    rw [List.nodup_cons] at hnd
    obtain ⟨g1, g2, g3⟩ := Mid_complete h l (hall l List.mem_cons_self) (hlive l List.mem_cons_self)
    obtain ⟨k1, k2⟩ := ih g1 (fun l' hl' => hall l' (List.mem_cons_of_mem _ hl')) hnd.2
      (fun l' hl' => g3 l' (fun e => hnd.1 (e ▸ hl')) (hlive l' (List.mem_cons_of_mem _ hl')))
    exact ⟨List.append_assoc todo [l] rest ▸ k1, g2.trans k2⟩

theorem servedDyn_install (s : St) (x : Dyn) : servedDyn (s.install x) = servedDyn s := rfl

theorem Mid_install {s : St} {todo all : List Loc} (h : Mid s todo all) (x : Dyn) (hx : x ∉ s.issued) :
    Mid (s.install x) todo all ∧ Adv s (s.install x) [x] [] := by
  obtain ⟨hp, hd, ok, ledger, nodup, t3⟩ := mid_iff.mp h
  obtain ⟨_, f1, f2, f3⟩ := install_slots s.dyn x
  refine ⟨mid_iff.mpr ⟨hp, hd.install x, ok, ?_, ?_, t3⟩, ⟨rfl, f1, f2, f3⟩, rfl, (List.append_nil _).symm⟩
  · show ((s.dyn.install x).refs ++ servedDyn s).Perm (s.issued ++ [x])
    exact (((DMid_install hd.dyn x).2.append_right _).trans (ledger.cons x)).trans (List.perm_append_singleton x _).symm
  · show (s.issued ++ [x]).Nodup
    exact nodup_concat.mpr ⟨hx, nodup⟩

theorem Mid_installs {todo all : List Loc} (ins : List Dyn) {s : St} (h : Mid s todo all)
    (hf : ∀ x, x ∈ ins → x ∉ s.issued) (hnd : ins.Nodup) :
    Mid (ins.foldl St.install s) todo all ∧ Adv s (ins.foldl St.install s) ins [] := by
  induction ins generalizing s with
  | nil => exact ⟨h, Adv.refl s⟩
  | cons x rest ih =>
    obtain ⟨g1, g2⟩ := Mid_install h x (hf x List.mem_cons_self)
    obtain ⟨k1, k2⟩ := ih g1 (g2.fresh hf hnd) hnd.of_cons
    exact ⟨k1, g2.trans k2⟩

/-- `todo` keeps the location: the receive stays pending until its restart (`Mid_doneL_win`). -/
theorem Mid_serveL_win {s : St} {k j : Nat} {todo all : List Loc} (h : Mid s todo all) (hm : Loc.win k j ∈ todo) :
    ∃ rf, Mid (s.serveL (.win k j)) todo all ∧ Adv s (s.serveL (.win k j)) [] [rf] := by
  obtain ⟨p, r, hk, _, hw, _⟩ := h.t1 k j hm
  have e : s.serveL (.win k j) = { s with served := s.served ++ [.am p.id r] } := by
    simp [St.serveL, St.slotL, hk, hw, amSlot]
  rw [e]
  refine ⟨_, { h with ledger := ?_ }, ⟨rfl, rfl, rfl, rfl⟩, (List.append_nil _).symm, rfl⟩
  show (s.dyn.refs ++ List.filterMap Ref.dynOf (s.served ++ [.am p.id r])).Perm s.issued
  rw [List.filterMap_append, show List.filterMap Ref.dynOf [.am p.id r] = [] from rfl, List.append_nil]
  exact h.ledger

theorem Mid_serveL_dyn {s : St} {j : Nat} {rest all : List Loc} (h : Mid s (.dyn j :: rest) all)
    (hl : Loc.dyn j ∉ rest) :
    ∃ rf, Mid (s.serveL (.dyn j)) rest all ∧ Adv s (s.serveL (.dyn j)) [] [rf] := by
  obtain ⟨hp, hd, ok, ledger, nodup, t3⟩ := mid_iff.mp h
  obtain ⟨sl, hj, hfin⟩ := hd.pending_fin j List.mem_cons_self
  obtain ⟨_, hreq⟩ := hd.fin_pending j sl hj hfin
  obtain ⟨x, hcb, _⟩ := hd.dyn.slots j sl hj
  obtain ⟨g1, g2⟩ := DMid_serve hd.dyn hj hcb hfin hreq
  have e : s.serveL (.dyn j) = { s with dyn := s.dyn.serve j, served := s.served ++ [.dyn x] } := by
    simp only [St.serveL, St.slotL, hj, hcb]
  have ed := serve_eq hj
  rw [e]
  refine ⟨_, mid_iff.mpr ⟨hp.congr (by simp), hd.set (sl' := sl.unfin) g1 (by rw [ed]) (lt_of_getElem? hj) (fun j' hne => by simp [hne])
    (by simp [Slot.unfin, hl]) hreq (hd.hole_reported j sl hj hreq), ok, ?_, nodup, fun hm => t3 (List.mem_cons_of_mem _ hm)⟩,
    ⟨rfl, by rw [ed], by rw [ed], by rw [ed]⟩, (List.append_nil _).symm, rfl⟩
  show ((s.dyn.serve j).refs ++ List.filterMap Ref.dynOf (s.served ++ [.dyn x])).Perm s.issued
  rw [List.filterMap_append, ← List.append_assoc]
  exact (List.perm_append_singleton x _).trans ((g2.append_right _).trans ledger)

theorem Mid_doneL_win {s : St} {k j : Nat} {rest all : List Loc} (h : Mid s (.win k j :: rest) all)
    (hl : Loc.win k j ∉ rest) :
    Mid (s.doneL (.win k j)) rest all ∧ Adv s (s.doneL (.win k j)) [] [] := by
  obtain ⟨p, r, hk, hr, hw, ha⟩ := h.t1 k j List.mem_cons_self
  obtain ⟨hp, hd, ok, ledger, nodup, t3⟩ := mid_iff.mp h
  have e : s.doneL (.win k j) = { s with pools := s.pools.set k (p.restart j r (amSlot p.id r (p.base + j))) } := by
    simp only [St.doneL, hk, done_eq hr hw ha, ok]; rfl
  rw [e]
  exact ⟨mid_iff.mpr ⟨hp.set hk (((hp.1 k p hk).congr (by simp)).restart hl hw) (by intro k' j' hne; simp [hne]),
    (hd.congr (by simp) fun _ => Iff.rfl), ok, ledger, nodup, fun hm => t3 (List.mem_cons_of_mem _ hm)⟩,
    Adv.silent ⟨map_set_of_eq hk (a := p.restart j r _) rfl, rfl, rfl, rfl⟩ rfl rfl⟩

theorem Mid_serveOne {s : St} {l : Loc} {rest all : List Loc} (h : Mid s (l :: rest) all)
    (hl : l ∉ rest) (ins : List Dyn) (hf : ∀ x, x ∈ ins → x ∉ s.issued) (hnd : ins.Nodup) :
    Mid (s.serveOneL (l, ins)) rest all ∧ ∃ rf, Adv s (s.serveOneL (l, ins)) ins [rf] := by
  cases l with
  | win k j =>
    obtain ⟨rf, m1, a1⟩ := Mid_serveL_win h List.mem_cons_self
    obtain ⟨m2, a2⟩ := Mid_installs ins m1 (a1.fresh hf hnd) hnd
    obtain ⟨m3, a3⟩ := Mid_doneL_win m2 hl
    exact ⟨m3, rf, (a1.trans a2).trans_silent a3⟩
  | dyn j =>
    obtain ⟨rf, m1, a1⟩ := Mid_serveL_dyn h hl
    obtain ⟨m2, a2⟩ := Mid_installs ins m1 (a1.fresh hf hnd) hnd
    exact ⟨m2, rf, a1.trans a2⟩
  | out => exact absurd List.mem_cons_self h.t3

theorem Mid_serveAll {all : List Loc} (c : List (Loc × List Dyn)) {s : St} (h : Mid s (c.map (·.1)) all)
    (hnd : (c.map (·.1)).Nodup) (hfn : (c.flatMap (·.2)).Nodup) (hf : ∀ x, x ∈ c.flatMap (·.2) → x ∉ s.issued) :
    Mid (c.foldl St.serveOneL s) [] all ∧
    ∃ rs, rs.length = c.length ∧ Adv s (c.foldl St.serveOneL s) (c.flatMap (·.2)) rs := by
  induction c generalizing s with
  | nil => exact ⟨h, [], rfl, Adv.refl s⟩
  | cons e rest ih =>
    rw [List.map_cons, List.nodup_cons] at hnd
    rw [List.flatMap_cons] at hfn hf
    have hfn' := List.nodup_append.mp hfn
    obtain ⟨g1, rf, g2⟩ := Mid_serveOne (l := e.1) h hnd.1 e.2 (fun x hx => hf x (List.mem_append_left _ hx)) hfn'.1
    obtain ⟨k1, rs, k2, k3⟩ := ih g1 hnd.2 hfn'.2.1 (g2.fresh hf hfn)
    exact ⟨k1, rf :: rs, congrArg Nat.succ k2, g2.trans k3⟩

theorem fill1_shape (p : Pool) : p.fill1.shape = p.shape := rfl

theorem mem_dynOffs (ls : List Loc) (j : Nat) : j ∈ dynOffs ls ↔ Loc.dyn j ∈ ls := by
  induction ls with
  | nil => simp [dynOffs]
  | cons l rest ih => cases l <;> simp [dynOffs, ih]

theorem Mid_finish {s : St} {all : List Loc} (h : Mid s [] all) (hasc : (dynOffs all).Pairwise (fun a b => a < b)) :
    Inv (s.finishL all) ∧ Adv s (s.finishL all) [] [] ∧ ¬ (s.finishL all).dyn.starved ∧
    (∃ a b, s.dyn.sendq = a ++ (s.finishL all).dyn.sendq ∧ s.dyn.recvq = b ++ (s.finishL all).dyn.recvq) := by
  obtain ⟨hp, hd, ok, ledger, nodup, _⟩ := mid_iff.mp h
  obtain ⟨r1, r2⟩ := DynMid.removeAll (List.pairwise_reverse.mpr hasc)
    (hd.congr (by simp) fun j => by rw [List.mem_reverse, mem_dynOffs])
  obtain ⟨f1, f2, f3⟩ := DInv_feed s.dyn.cap r1
  have st := r2.trans f2
  refine ⟨⟨fun k p' hk => ?_, f1, ok, (st.refs.append_right _).trans ledger, nodup⟩,
    Adv.silent ⟨?_, st.base, st.cap, st.quota⟩ rfl rfl, f3 (by rw [r2.cap]; omega), st.fifo⟩
  · obtain ⟨p, hp', rfl⟩ : ∃ p, s.pools[k]? = some p ∧ p.refill = p' := by
      simpa [St.finishL, List.getElem?_map] using hk
    exact (hp.1 k p hp').refill (by simp)
  · show (s.pools.map Pool.refill).map Pool.shape = s.pools.map Pool.shape
    rw [List.map_map]
    exact congrArg (List.map · s.pools) (funext fun p => (refill_frame p).1)

/-- What `MPI_Testsome` may report in a state between passes. -/
def Reportable (s : St) : Loc → Prop
  | .win k j => ∃ p, s.pools[k]? = some p ∧ j < p.t
  | .dyn j => j < s.dyn.slots.length
  | .out => False

theorem reportableB_sound {s : St} {l : Loc} (h : reportableB s l = true) : Reportable s l := by
  cases l with
  | win k j =>
    simp only [reportableB] at h
    split at h
    · exact ⟨_, ‹_›, of_decide_eq_true h⟩
    · cases h
  | dyn j => simpa [reportableB, Reportable] using h
  | out => cases h

theorem passOkB_sound {s : St} {ls : List Loc} (h : passOkB s ls = true) :
    ls.Nodup ∧ (∀ l, l ∈ ls → Reportable s l) ∧ (dynOffs ls).Pairwise (fun a b => a < b) := by
  simp only [passOkB, Bool.and_eq_true, decide_eq_true_eq, List.all_eq_true] at h
  exact ⟨h.1.1, fun l hl => reportableB_sound (h.1.2 l hl), h.2⟩

theorem Inv.liveNow {s : St} (h : Inv s) {l : Loc} (hl : Reportable s l) : LiveNow s l := by
  cases l with
  | win k j =>
    obtain ⟨p, hk, hj⟩ := hl
    obtain ⟨r, hr, hw⟩ := (h.pools k p hk).slot hj
    exact ⟨p, r, hk, hr, hw⟩
  | dyn j => exact ⟨_, List.getElem?_eq_getElem hl, h.dyn.live _ (List.getElem_mem hl)⟩
  | out => exact hl

/-- Creation of a request between passes (put / get from the upper layer). -/
theorem Inv_install {s : St} (h : Inv s) (x : Dyn) (hx : x ∉ s.issued) :
    Inv (s.install x) ∧ Static s (s.install x) := by
  obtain ⟨g1, g2⟩ := Mid_install (h.toMid [] (by simp)) x hx
  exact ⟨⟨h.pools, (mid_iff.mp g1).2.1.toInv (by simp), g1.ok, g1.ledger, g1.nodup⟩, g2.static⟩

/-- The windows tile `[b, e)` in tag order: `start_idx` of a tag = end of the previous window. -/
def Contig : Nat → List Pool → Nat → Prop
  | b, [], e => b = e
  | b, p :: rest, e => p.base = b ∧ Contig (b + p.t) rest e

/-- `Static.shapes` is enough for the tiling. -/
theorem contig_of_shapes : ∀ (cfg : List (Nat × Nat × Nat)) (b : Nat) (ps : List Pool),
    ps.map Pool.shape = (mkPools b cfg).map Pool.shape → Contig b ps (b + nstatic cfg)
  | [], _, [], _ => rfl
  | [], _, _ :: _, h => nomatch h
  | _ :: _, _, [], h => nomatch h
  | (id, n, t) :: rest, b, p :: ps, h => by
    simp only [mkPools, List.map_cons, List.cons.injEq, Pool.shape, Pool.init, Prod.mk.injEq] at h
    obtain ⟨⟨_, _, ht, hb⟩, h2⟩ := h
    exact ⟨hb, by rw [ht, nstatic, ← Nat.add_assoc]; exact contig_of_shapes rest _ ps h2⟩

theorem contig_mkPools (cfg : List (Nat × Nat × Nat)) (b : Nat) : Contig b (mkPools b cfg) (b + nstatic cfg) :=
  contig_of_shapes cfg b _ rfl

theorem mem_mkPools : ∀ (cfg : List (Nat × Nat × Nat)) (b : Nat) (p : Pool), p ∈ mkPools b cfg →
    ∃ id n t b', (id, n, t) ∈ cfg ∧ p = Pool.init id n t b'
  | [], _, _, h => nomatch h
  | (id, n, t) :: rest, b, p, h => by
    rcases List.mem_cons.mp h with rfl | h
    · exact ⟨id, n, t, b, List.mem_cons_self, rfl⟩
    · obtain ⟨id', n', t', b', hm, hp⟩ := mem_mkPools rest (b + t) p h
      exact ⟨id', n', t', b', List.mem_cons_of_mem _ hm, hp⟩

theorem Inv_init (cap quota : Nat) (cfg : List (Nat × Nat × Nat))
    (hcfg : ∀ id n t, (id, n, t) ∈ cfg → 1 ≤ t ∧ t ≤ n) : Inv (init cap quota cfg) := by
  refine ⟨?_, ⟨⟨by simp [init], ?_, rfl, by simp [init], by simp [init], by simp [init]⟩, by simp [init]⟩, rfl, ?_, by simp [init]⟩
  · intro k p hk
    obtain ⟨id, n, t, b', hm, rfl⟩ := mem_mkPools cfg 0 p (List.mem_of_getElem? hk)
    exact PQuiet_init id n t b' (hcfg id n t hm).1 (hcfg id n t hm).2
  · intro j sl hj; simp [init] at hj
  · simp [init, DynR.refs, heldOf, servedDyn]

end ParsecVerif.CommEngine
