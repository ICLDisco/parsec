/-
  Inductive invariant of the arena machine (Model/Arena.lean).  Every micro step replaces ONE entry
  of the thread list and the shared scalars (`apply s t d`).  `Good` collects, for one `Delta`, the
  local arithmetic facts that make `Inv` survive (`Inv.apply`, proved once, with the sums over the
  thread list); `good_local` (Proofs/ArenaStep.lean) shows that the step function of the model only
  produces good deltas (no sums there, only the thread itself).

  A property of every chunk of a list ("every cached chunk has count 1") is written as "a sum of
  indicators is 0" (`bad`, `badRes`), so that it moves through `tsum_set` and `omega` like the rest.
-/
import ParsecVerif.Model.Arena
import ParsecVerif.Base.Interleave

namespace ParsecVerif.Arena

def csum (g : Chunk → Nat) (l : List Chunk) : Nat := (l.map g).sum

@[simp] theorem csum_nil (g : Chunk → Nat) : csum g [] = 0 := rfl
@[simp] theorem csum_cons (g : Chunk → Nat) (c : Chunk) (l : List Chunk) : csum g (c :: l) = g c + csum g l :=
  List.sum_cons
@[simp] theorem csum_append (g : Chunk → Nat) (l₁ l₂ : List Chunk) : csum g (l₁ ++ l₂) = csum g l₁ + csum g l₂ := by
  simp only [csum, List.map_append, List.sum_append]

theorem csum_eraseIdx (g : Chunk → Nat) (l : List Chunk) (k : Nat) (c : Chunk) (h : l[k]? = some c) :
    csum g (l.eraseIdx k) + g c = csum g l :=
  Interleave.sum_map_eraseIdx g l k c h

theorem csum_mem_le (g : Chunk → Nat) (l : List Chunk) (c : Chunk) (h : c ∈ l) : g c ≤ csum g l :=
  Interleave.le_sum_map_of_mem g l c h

theorem csum_eq_zero (g : Chunk → Nat) (l : List Chunk) (h : csum g l = 0) (c : Chunk) (hc : c ∈ l) : g c = 0 := by
  have := csum_mem_le g l c hc; omega

def tsum (f : Thread → Nat) (l : List Thread) : Nat := (l.map f).sum

theorem tsum_set (f : Thread → Nat) (l : List Thread) (t : Nat) (th y : Thread) (h : l[t]? = some th) :
    tsum f (l.set t y) + f th = tsum f l + f y :=
  Interleave.sum_map_set f l t th y h

theorem tsum_le (f g : Thread → Nat) (h : ∀ th, f th ≤ g th) (l : List Thread) : tsum f l ≤ tsum g l :=
  Interleave.sum_map_le f g h l

theorem tsum_mem_le (f : Thread → Nat) (l : List Thread) (th : Thread) (h : th ∈ l) : f th ≤ tsum f l :=
  Interleave.le_sum_map_of_mem f l th h

theorem tsum_lt_length (f : Thread → Nat) (hf : ∀ th, f th ≤ 1) (l : List Thread) (t : Nat) (th : Thread)
    (h : l[t]? = some th) (h0 : f th = 0) : tsum f l + 1 ≤ l.length := by
  have h1 : tsum f (l.eraseIdx t) + f th = tsum f l := Interleave.sum_map_eraseIdx f l t th h
  have h2 : tsum f (l.eraseIdx t) ≤ (l.eraseIdx t).length := Interleave.sum_map_le_length f hf _
  have ht : t < l.length := (List.getElem?_eq_some_iff.1 h).1
  rw [List.length_eraseIdx_of_lt ht] at h2
  omega

def pcChunks : Pc → List Chunk
  | .a1 c => [c] | .r1 c => [c] | .r2 c => [c] | .f c => [c] | _ => []

/-- what a thread owns: the chunks it holds and the one it is allocating / releasing -/
def own (g : Chunk → Nat) (th : Thread) : Nat := csum g th.held + csum g (pcChunks th.pc)

/-- increments of `used` that will be undone (allocation_failed path) -/
def pend : Pc → Nat
  | .a3 => 1 | .b1 n => n | _ => 0
def tpend (th : Thread) : Nat := pend th.pc

def mC : Pc → Nat | .r1 _ => 1 | _ => 0      -- passed the test, increment of `released` pending
def mP : Pc → Nat | .r2 _ => 1 | _ => 0      -- incremented, push pending
def mD : Pc → Nat | .a1 _ => 1 | _ => 0      -- popped, decrement pending
def tC (th : Thread) : Nat := mC th.pc
def tP (th : Thread) : Nat := mP th.pc
def tD (th : Thread) : Nat := mD th.pc

theorem mC_le_one (pc : Pc) : mC pc ≤ 1 := by cases pc <;> simp [mC]

def badReq (a b : Nat) : Nat := if b = a then 0 else 1
@[simp] theorem badReq_self (a : Nat) : badReq a a = 0 := by simp [badReq]
theorem badReq_zero {a b : Nat} (h : badReq a b = 0) : b = a := by
  unfold badReq at h; split at h <;> simp_all

def bad (c : Chunk) : Nat := badReq 1 c.count

/-- chunks on their way from / to the cache -/
def pcOnes : Pc → List Chunk
  | .a1 c => [c] | .r1 c => [c] | .r2 c => [c] | _ => []
def tOnes (th : Thread) : Nat := csum bad (pcOnes th.pc)

def badRes : Res → Nat
  | .got req c _ => badReq req c.count
  | _ => 0
def ob (th : Thread) : Nat := (th.out.map badRes).sum

def indId (x y : Nat) : Nat := if y = x then 1 else 0
def ind (x : Nat) (c : Chunk) : Nat := indId x c.id
theorem indId_le_one (x y : Nat) : indId x y ≤ 1 := by unfold indId; split <;> omega
theorem indId_self (x : Nat) : indId x x = 1 := by simp [indId]
theorem indId_ne {x y : Nat} (h : y ≠ x) : indId x y = 0 := by simp [indId, h]

/-- `n` is the counter identifiers come from, `a` the occurrences of `x` so far (`hf`: none while `x` is still to come). -/
theorem indId_fresh_zero {x n a : Nat} (hf : n ≤ x → a = 0) (hx : n + 1 ≤ x) : indId x n + a = 0 := by
  rw [indId_ne (by omega), hf (by omega)]
theorem indId_fresh_le_one {x n a : Nat} (hf : n ≤ x → a = 0) (hu : a ≤ 1) : indId x n + a ≤ 1 := by
  by_cases hx : n = x
  · have := hf (by omega); have := indId_le_one x n; omega
  · have := indId_ne (x := x) (y := n) hx; omega

def gots (x : Nat) : List Ev → Nat
  | [] => 0
  | .got _ y :: l => indId x y + gots x l
  | .rel _ _ :: l => gots x l
def rels (x : Nat) : List Ev → Nat
  | [] => 0
  | .got _ _ :: l => rels x l
  | .rel _ y :: l => indId x y + rels x l

theorem gots_append (x : Nat) (l₁ l₂ : List Ev) : gots x (l₁ ++ l₂) = gots x l₁ + gots x l₂ := by
  induction l₁ with
  | nil => simp [gots]
  | cons e l ih => cases e <;> simp [gots, ih] <;> omega
theorem rels_append (x : Nat) (l₁ l₂ : List Ev) : rels x (l₁ ++ l₂) = rels x l₁ + rels x l₂ := by
  induction l₁ with
  | nil => simp [rels]
  | cons e l ih => cases e <;> simp [rels, ih] <;> omega

def cnt (c : Chunk) : Nat := c.count
def tHeld (x : Nat) (th : Thread) : Nat := csum (ind x) th.held

def total (g : Chunk → Nat) (s : State) : Nat := csum g s.cache + tsum (own g) s.thr

theorem held_le_total (g : Chunk → Nat) (s : State) : tsum (fun th => csum g th.held) s.thr ≤ total g s :=
  Nat.le_trans (tsum_le _ (own g) (fun _ => Nat.le_add_right _ _) s.thr) (Nat.le_add_left _ _)

structure Inv (cfg : Cfg) (s : State) : Prop where
  ghost : ∀ g, total g s + csum g s.died = csum g s.born
  /-- chunk identifiers are sequence numbers of `data_malloc` calls: none from the counter on, none twice -/
  bornLt : ∀ x, s.mallocs ≤ x → csum (ind x) s.born = 0
  bornOne : ∀ x, csum (ind x) s.born ≤ 1
  /-- `used` counts the elements in existence and the increments that refused allocations have still to undo -/
  u1 : cfg.maxUsed ≠ INF → s.used = ((total cnt s : Nat) : Int) + ((tsum tpend s.thr : Nat) : Int)
  u2 : cfg.maxUsed ≠ INF → total cnt s ≤ cfg.maxUsed
  /-- `released` counts the cached chunks, those pushed next (`tP`) and those popped whose decrement is pending (`tD`) -/
  i1 : cfg.maxRel ≠ INF → s.released = ((s.cache.length + tsum tP s.thr + tsum tD s.thr : Nat) : Int)
  /-- The test `released < max_released` and the increment are two steps.  A thread between them (`tC`) saw a value
      below the limit, but every other thread may be there too: the limit is exceeded by up to `threads - 1`. -/
  i2 : cfg.maxRel ≠ INF → s.released + ((tsum tC s.thr : Nat) : Int) ≤ ((cfg.maxRel + (s.thr.length - 1) : Nat) : Int)
  /-- every chunk in the cache, or on its way to or from it, has count 1 -/
  ones : csum bad s.cache + tsum tOnes s.thr = 0
  outs : tsum ob s.thr = 0
  /-- per chunk identifier: number of `got` events = number of `rel` events + number of threads that hold it -/
  tr : ∀ x, gots x s.trace = rels x s.trace + tsum (tHeld x) s.thr

/-- What one step of thread `th` contributes to the clause of `Inv` of the same name: the terms of this thread and the
    shared variables, before and after.  Second alternatives: `u1`, with `max_used = 0` the free path leaves `used`
    alone (the total is 0 then, by `Inv.u2`); `u2`, a granted allocation raises the total but has just seen
    `used ≤ max_used`; `i2`, the thread has just passed the test `released < max_released`. -/
structure Good (cfg : Cfg) (s : State) (th : Thread) (d : Delta) : Prop where
  ghost : ∀ g, csum g d.cache + own g d.th + csum g d.died = csum g s.cache + own g th + csum g d.born
  born : (d.born = [] ∧ s.mallocs ≤ d.mall) ∨ (∃ n, d.born = [⟨s.mallocs, n⟩] ∧ d.mall = s.mallocs + 1)
  u1 : cfg.maxUsed ≠ INF →
    (d.used + ((csum cnt s.cache + own cnt th + tpend th : Nat) : Int)
        = s.used + ((csum cnt d.cache + own cnt d.th + tpend d.th : Nat) : Int))
    ∨ (cfg.maxUsed = 0 ∧ d.used = s.used ∧ tpend d.th = tpend th
        ∧ csum cnt d.cache + own cnt d.th ≤ csum cnt s.cache + own cnt th)
  u2 : cfg.maxUsed ≠ INF →
    (csum cnt d.cache + own cnt d.th ≤ csum cnt s.cache + own cnt th)
    ∨ (d.used ≤ (cfg.maxUsed : Int) ∧ tpend d.th = 0)
  i1 : cfg.maxRel ≠ INF →
    d.rel + ((s.cache.length + tP th + tD th : Nat) : Int) = s.released + ((d.cache.length + tP d.th + tD d.th : Nat) : Int)
  i2 : cfg.maxRel ≠ INF →
    (d.rel + ((tC d.th : Nat) : Int) ≤ s.released + ((tC th : Nat) : Int))
    ∨ (s.released < (cfg.maxRel : Int) ∧ d.rel = s.released ∧ tC th = 0 ∧ tC d.th = 1)
  ones : csum bad d.cache + tOnes d.th ≤ csum bad s.cache + tOnes th
  outs : ob d.th ≤ ob th + csum bad s.cache + tOnes th
  tr : ∀ x, gots x d.evs + tHeld x th = rels x d.evs + tHeld x d.th

theorem Inv.init (cfg : Cfg) (progs : List (List Op)) : Inv cfg (init progs) := by
  have hz : ∀ (f : Thread → Nat), (∀ p, f (mkThread p) = 0) → tsum f (progs.map mkThread) = 0 := fun f hf =>
    List.sum_eq_zero_iff_forall_eq_nat.2 (by simpa using fun p _ => hf p)
  have zo := fun g => hz (own g) (fun _ => rfl)
  have zp := hz tpend (fun _ => rfl)
  have zP := hz tP (fun _ => rfl)
  have zD := hz tD (fun _ => rfl)
  have zC := hz tC (fun _ => rfl)
  have z1 := hz tOnes (fun _ => rfl)
  have zb := hz ob (fun _ => rfl)
  have zh := fun x => hz (tHeld x) (fun _ => rfl)
  constructor <;> intros <;>
    simp only [Arena.init, total, zo, zp, zP, zD, zC, z1, zb, zh, gots, rels, csum_nil, List.length_nil] <;> omega

theorem Inv.apply {cfg : Cfg} {s : State} (h : Inv cfg s) (t : Nat) (th : Thread) (ht : s.thr[t]? = some th)
    (d : Delta) (g : Good cfg s th d) : Inv cfg (apply s t d) := by
  have hmem : th ∈ s.thr := List.mem_of_getElem? ht
  have ts := fun f => tsum_set f s.thr t th d.th ht
  have hu1 : cfg.maxUsed ≠ INF →
      (Arena.apply s t d).used = ((total cnt (Arena.apply s t d) : Nat) : Int) + ((tsum tpend (Arena.apply s t d).thr : Nat) : Int) := by
    intro hne
    have e1 := ts (own cnt)
    have e2 := ts tpend
    have a1 := h.u1 hne
    have a2 := h.u2 hne
    simp only [Arena.apply, total] at *
    rcases g.u1 hne with b | ⟨b0, b1, b2, b3⟩ <;> omega
  constructor
  · intro f
    have e := ts (own f)
    have e1 := g.ghost f
    have e2 := h.ghost f
    simp only [Arena.apply, total, csum_append] at *
    omega
  · intro x hx
    rcases g.born with ⟨hb, hm⟩ | ⟨n, hb, hm⟩
    · simp only [Arena.apply, hb, List.nil_append] at *
      exact h.bornLt x (by omega)
    · simp only [Arena.apply, hb, hm] at *
      exact indId_fresh_zero (h.bornLt x) hx
  · intro x
    rcases g.born with ⟨hb, _⟩ | ⟨n, hb, _⟩
    · simp only [Arena.apply, hb, List.nil_append]; exact h.bornOne x
    · simp only [Arena.apply, hb]
      exact indId_fresh_le_one (h.bornLt x) (h.bornOne x)
  · exact hu1
  · -- the new total is at most the old one, or (second alternative of `Good.u2`) at most the new `used`, by `hu1`
    intro hne
    have e1 := ts (own cnt)
    have a2 := h.u2 hne
    have n1 := hu1 hne
    simp only [Arena.apply, total] at *
    rcases g.u2 hne with b | ⟨b0, _⟩ <;> omega
  · intro hne
    have e1 := ts tP
    have e2 := ts tD
    have a1 := h.i1 hne
    have b := g.i1 hne
    simp only [Arena.apply] at *
    omega
  · intro hne
    have e1 := ts tC
    have a1 := h.i2 hne
    simp only [Arena.apply, List.length_set] at *
    rcases g.i2 hne with b | ⟨b0, b1, b2, b3⟩
    · omega
    · -- the thread passes the test: it was not among those counted by `tC`, so they are at most `length - 1`
      have := tsum_lt_length tC (fun th => mC_le_one th.pc) s.thr t th ht b2
      omega
  · have e1 := ts tOnes
    have a := h.ones
    have b := g.ones
    simp only [Arena.apply] at *
    omega
  · have e1 := ts ob
    have e2 := tsum_mem_le tOnes s.thr th hmem
    have a := h.ones
    have a' := h.outs
    have b := g.outs
    simp only [Arena.apply] at *
    omega
  · intro x
    have e1 := ts (tHeld x)
    have a := h.tr x
    have b := g.tr x
    simp only [Arena.apply, gots_append, rels_append] at *
    omega

end ParsecVerif.Arena
