import ParsecVerif.Proofs.FutureDC
/-!
  Lock discipline of the data-copy future machine (C29): every future lock is held by exactly one thread when taken.
  In particular the scan of the nested list and the creation of a nested future happen under the base future's lock.
-/
namespace ParsecVerif.FutureDC
open ParsecVerif.Future

def holds (f : Nat) : DPc → Bool
  | .unlockTop g _ => g == f
  | .lockScan _ _ => f == 0
  | .unlockScan i _ => f == 0 || f == i + 1
  | .punlockRet _ _ => f == 0
  | .punlockNew _ _ => f == 0
  | _ => false

def nHold (s : DState) (f : Nat) : Nat := s.thr.countP (fun th => holds f th.pc)

def MInv (s : DState) : Prop := ∀ f, nHold s f = if lockedOf s f then 1 else 0

theorem modFut_thr (s : DState) (f : Nat) (g : Fut → Fut) : (modFut s f g).thr = s.thr := by
  unfold modFut; split <;> rfl

theorem trigger_thr (cfg : Cfg) (s : DState) (f : Nat) : (trigger cfg s f).thr = s.thr := by
  unfold trigger
  split
  · rfl
  · split
    · rfl
    · split <;> rfl

theorem setThr_thr {s s0 : DState} (t : Nat) (th : DThread) (e : s0.thr = s.thr) : (setThr s0 t th).thr = s.thr.set t th :=
  e ▸ rfl

theorem lockedOf_set {s : DState} {g : Nat} (hg : g < s.futs.length) (fu : Fut) (p : List (Nat × Nat)) (f : Nat) :
    lockedOf ⟨s.futs.set g fu, p, s.thr⟩ f = if f = g then fu.lock else lockedOf s f := by
  by_cases e : f = g
  · simp [lockedOf, e, hg]
  · simp [lockedOf, e, List.getElem?_set_ne (Ne.symm e)]

theorem lockedOf_modFut (s : DState) (g : Nat) (h : Fut → Fut) (f : Nat) :
    lockedOf (modFut s g h) f =
      if f = g then (match s.futs[g]? with | some fu => (h fu).lock | none => false) else lockedOf s f := by
  unfold modFut
  split
  next fu hf => rw [lockedOf_set (Interleave.lt_of_getElem? hf), hf]
  next hf =>
    split
    next e => simp [lockedOf, e, hf]
    · rfl

theorem lockedOf_unlock (s : DState) (g f : Nat) : lockedOf (modFut s g unlockF) f = (lockedOf s f && f != g) := by
  rw [lockedOf_modFut]
  split
  next e => cases s.futs[g]? <;> simp [e, unlockF]
  next e => simp [e]

theorem lockedOf_lock {s : DState} {g : Nat} (hg : g < s.futs.length) (f : Nat) :
    lockedOf (modFut s g lockF) f = (lockedOf s f || f == g) := by
  rw [lockedOf_modFut]
  split
  next e => simp [e, hg, lockF]
  next e => simp [e]

theorem lockedOf_trigger (cfg : Cfg) {s : DState} {g : Nat} (hg : g < s.futs.length) (f : Nat) :
    lockedOf (trigger cfg s g) f = (lockedOf s f || f == g) := by
  unfold trigger
  rw [List.getElem?_eq_getElem hg]
  have : ∀ fu p, fu.lock = true → lockedOf ⟨s.futs.set g fu, p, s.thr⟩ f = (lockedOf s f || f == g) := by
    intro fu p hfu
    by_cases e : f = g <;> simp [lockedOf_set hg, e, hfu]
  dsimp only
  split
  · exact this _ _ rfl
  · split <;> exact this _ _ rfl

theorem lockedOf_append (s : DState) (r : Nat) (thr : List DThread) (f : Nat) :
    lockedOf { s with futs := s.futs ++ [newFut r], thr := thr } f = lockedOf s f := by
  unfold lockedOf
  dsimp only
  by_cases hlt : f < s.futs.length
  · rw [List.getElem?_append_left hlt]
  · rw [List.getElem?_append_right (Nat.le_of_not_lt hlt), List.getElem?_eq_none (Nat.le_of_not_lt hlt)]
    cases f - s.futs.length <;> rfl

theorem applyScan_effect (cfg : Cfg) (s : DState) (t : Nat) (th : DThread) (r i : Nat) :
    (∀ f, lockedOf (applyScan cfg s t th r i) f = lockedOf s f) ∧
    ∃ th', (applyScan cfg s t th r i).thr = s.thr.set t th' ∧ ∀ f, holds f th'.pc = (f == 0) := by
  unfold applyScan
  split
  · exact ⟨fun _ => rfl, _, rfl, fun _ => rfl⟩
  · exact ⟨fun _ => rfl, _, rfl, fun _ => rfl⟩
  · exact ⟨fun f => lockedOf_append s r _ f, _, rfl, fun _ => rfl⟩

theorem holds_fin (th : DThread) (op : DOp) (v : Nat) (f : Nat) : holds f (dfin th op v).pc = false := by
  rcases dfin_pc th op v with h | h <;> rw [h] <;> rfl

theorem enterTop_effect (s : DState) (t : Nat) (th : DThread) (g r : Nat) :
    (∀ f, lockedOf (enterTop s t th g r) f = lockedOf s f) ∧
    ∃ th', (enterTop s t th g r).thr = s.thr.set t th' ∧ ∀ f, holds f th'.pc = false := by
  unfold enterTop
  split
  · exact ⟨fun _ => rfl, _, rfl, fun f => holds_fin th _ _ f⟩
  · exact ⟨fun _ => rfl, _, rfl, fun _ => rfl⟩

/-! `MInv` is kept when the balance of every lock is; a step keeps every lock, takes a free one, or releases one it holds. -/

theorem minv_balance {s s' : DState} {t : Nat} {th th' : DThread} {pc : DPc} (h : MInv s) (hx : s.thr[t]? = some th)
    (hp : th.pc = pc) (hthr : s'.thr = s.thr.set t th')
    (hbal : ∀ f, (if lockedOf s' f then 1 else 0) + (if holds f pc then 1 else 0) =
                 (if lockedOf s f then 1 else 0) + (if holds f th'.pc then 1 else 0)) : MInv s' := by
  intro f
  subst hp
  have hmove := Interleave.countP_set_of_getElem? (fun th => holds f th.pc) hx th'
  have hf := h f
  have hb := hbal f
  unfold nHold at hf ⊢
  rw [hthr]
  omega

theorem locked_of_holds {s : DState} {t f : Nat} {th : DThread} (h : MInv s) (hx : s.thr[t]? = some th)
    (hh : holds f th.pc = true) : lockedOf s f = true := by
  have hpos : 0 < nHold s f := List.countP_pos_iff.2 ⟨th, List.mem_of_getElem? hx, hh⟩
  have := h f
  by_cases hl : lockedOf s f = true
  · exact hl
  · rw [if_neg hl] at this; omega

theorem minv_keep {s s' : DState} {t : Nat} {th th' : DThread} {pc : DPc} (h : MInv s) (hx : s.thr[t]? = some th)
    (hp : th.pc = pc) (hthr : s'.thr = s.thr.set t th') (hl : ∀ f, lockedOf s' f = lockedOf s f)
    (hh : ∀ f, holds f th'.pc = holds f pc) : MInv s' :=
  minv_balance h hx hp hthr fun f => by rw [hl, hh]

theorem minv_acquire {s s' : DState} {t g : Nat} {th th' : DThread} {pc : DPc} (h : MInv s) (hx : s.thr[t]? = some th)
    (hp : th.pc = pc) (hthr : s'.thr = s.thr.set t th') (hfree : ¬ lockedOf s g = true)
    (hl : ∀ f, lockedOf s' f = (lockedOf s f || f == g))
    (hh : ∀ f, holds f th'.pc = (holds f pc || f == g)) : MInv s' := by
  refine minv_balance h hx hp hthr fun f => ?_
  rw [hl, hh]
  by_cases e : f = g
  · have : holds g pc = false := Bool.eq_false_iff.2 fun hh => hfree (locked_of_holds h hx (hp ▸ hh))
    simp [e, hfree, this]
  · simp [e]

theorem minv_release {s s' : DState} {t g : Nat} {th th' : DThread} {pc : DPc} (h : MInv s) (hx : s.thr[t]? = some th)
    (hp : th.pc = pc) (hthr : s'.thr = s.thr.set t th')
    (hl : ∀ f, lockedOf s' f = (lockedOf s f && f != g))
    (hh : ∀ f, holds f pc = (holds f th'.pc || f == g)) (hnot : holds g th'.pc = false) : MInv s' := by
  have hheld : holds g pc = true := by rw [hh, beq_self_eq_true, Bool.or_true]
  refine minv_balance h hx hp hthr fun f => ?_
  rw [hl, hh]
  by_cases e : f = g
  · simp [e, hnot, locked_of_holds h hx (hp ▸ hheld)]
  · simp [e]

theorem minv_step (cfg : Cfg) (s : DState) (t : Nat) (hd : DInv cfg s) (h : MInv s) : MInv (dstep cfg s t) := by
  fun_cases dstep cfg s t
  · exact h
  next th ht hp =>
    -- `.idle`: the five cases of `didle`; no lock is touched
    fun_cases didle cfg s t th
    · exact minv_keep h ht hp rfl (fun _ => rfl) (fun _ => rfl)
    next r _ _ _ =>
      obtain ⟨hl, th', hthr, hh⟩ := enterTop_effect s t th 0 r
      exact minv_keep h ht hp hthr hl hh
    · exact minv_keep h ht hp rfl (fun _ => rfl) (fun _ => rfl)
    · exact minv_keep h ht hp rfl (fun _ => rfl) (holds_fin th _ _)
    next g v _ _ =>
      refine minv_keep h ht hp (setThr_thr t _ (modFut_thr _ _ _)) (fun f => ?_) (holds_fin th _ _)
      refine (lockedOf_modFut _ g _ f).trans ?_
      split
      next e => subst e; rfl
      · rfl
  · exact h  -- `.lockTop g r`, lock taken: the thread waits
  next th ht g r hp hfree =>
    -- `.lockTop g r`, lock free
    have hpc := (hd.thr th (List.mem_of_getElem? ht)).1
    rw [hp] at hpc
    obtain ⟨x, hx, -⟩ := hpc
    have hg : g < s.futs.length := by simpa [shapes] using Interleave.lt_of_getElem? hx
    exact minv_acquire h ht hp (setThr_thr t _ (trigger_thr cfg s g)) hfree (lockedOf_trigger cfg hg) (fun _ => BEq.comm)
  next th ht g r hp =>
    -- `.unlockTop g r`
    exact minv_release h ht hp (setThr_thr t _ (modFut_thr s g _)) (lockedOf_unlock s g)
      (fun f => by rw [holds_fin]; exact BEq.comm) (holds_fin ..)
  · exact h  -- `.plock r`, base lock taken
  next th ht r hp hfree =>
    -- `.plock r`, base lock free: the scan runs to its next park point with the base lock held
    obtain ⟨hl, th', hthr, hh⟩ := applyScan_effect cfg (modFut s 0 lockF) t th r 0
    refine minv_acquire h ht hp (hthr.trans (by rw [modFut_thr])) hfree (fun f => ?_) hh
    rw [hl, lockedOf_lock (List.length_pos_iff.2 hd.ne)]
  · exact h  -- `.lockScan i r`, nested lock taken
  next th ht i r hp hfree =>
    -- `.lockScan i r`, nested lock free
    have hpc := (hd.thr th (List.mem_of_getElem? ht)).1
    rw [hp] at hpc
    have hg : i + 1 < s.futs.length := by simpa [shapes] using hpc.2.1
    exact minv_acquire h ht hp (setThr_thr t _ (trigger_thr cfg s _)) hfree (lockedOf_trigger cfg hg) (fun _ => rfl)
  · exact h  -- `.unlockScan i r` and no future `i + 1`: the state stays
  next th ht i r hp _ _ _ =>
    -- `.unlockScan i r`, the scan stops at this nested future: its lock is released, the base lock kept
    exact minv_release h ht hp (setThr_thr t _ (modFut_thr s _ _)) (lockedOf_unlock s (i + 1)) (fun _ => rfl) rfl
  next th ht i r hp _ _ _ =>
    -- `.unlockScan i r`, no match: the nested lock is released and the scan goes on
    obtain ⟨hl, th', hthr, hh⟩ := applyScan_effect cfg (modFut s (i + 1) unlockF) t th r (i + 1)
    exact minv_release (g := i + 1) h ht hp (hthr.trans (by rw [modFut_thr])) (fun f => by rw [hl, lockedOf_unlock])
      (fun f => by rw [hh]; rfl) (by rw [hh]; rfl)
  next th ht v r hp =>
    -- `.punlockRet v r`
    exact minv_release h ht hp (setThr_thr t _ (modFut_thr s 0 _)) (lockedOf_unlock s 0)
      (fun f => by rw [holds_fin]; rfl) (holds_fin ..)
  next th ht j r hp =>
    -- `.punlockNew j r`: the base lock is released, then `get_or_trigger_internal(j)` is entered without a lock
    obtain ⟨hl, th', hthr, hh⟩ := enterTop_effect (modFut s 0 unlockF) t th j r
    exact minv_release (g := 0) h ht hp (hthr.trans (by rw [modFut_thr])) (fun f => by rw [hl, lockedOf_unlock])
      (fun f => by rw [hh]; rfl) (hh 0)
  · exact h

theorem minv_init (b : Nat) (pre : Bool) (progs : List (List DOp)) : MInv (dinit b pre progs) := by
  intro f
  have h0 : nHold (dinit b pre progs) f = 0 := List.countP_eq_zero.2 (List.forall_mem_map.2 fun _ _ => nofun)
  rw [h0]
  cases f
  · cases pre <;> rfl
  · rfl

theorem dminv_run (cfg : Cfg) (b : Nat) (pre : Bool) (progs : List (List DOp)) (sched : List Nat) :
    DInv cfg (drun cfg b pre progs sched) ∧ MInv (drun cfg b pre progs sched) :=
  Interleave.foldl_inv (P := fun s => DInv cfg s ∧ MInv s) (fun s t h => ⟨dinv_step cfg s t h.1, minv_step cfg s t h.1 h.2⟩) sched
    ⟨dinv_init cfg b pre progs, minv_init b pre progs⟩

end ParsecVerif.FutureDC
