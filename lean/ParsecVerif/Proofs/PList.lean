import ParsecVerif.Model.PList
/-!
  The sequential list calls of C31.  Sorted insertion: the three search loops (forward, backward, ring) in one
  normal form (`insAfter`), and the moving cursor of `chain_sorted`, one step of which is one forward insertion.
-/
namespace ParsecVerif.PList

theorem popFront_eq (l : List Item) : (popFront l).1.toList ++ (popFront l).2 = l := by
  cases l <;> rfl

theorem popBack_eq (l : List Item) : (popBack l).2 ++ (popBack l).1.toList = l := by
  unfold popBack
  cases h : l.getLast? with
  | none => simp [List.getLast?_eq_none_iff.1 h]
  | some x => obtain ⟨ys, rfl⟩ := List.getLast?_eq_some_iff.1 h; simp

/-- the order sorted insertion maintains -/
def SortedDesc (l : List Item) : Prop := l.Pairwise (fun a b => b.prio ≤ a.prio)

def insAfter (p : Item → Bool) (x : Item) (l : List Item) : List Item := l.takeWhile p ++ x :: l.dropWhile p

theorem insFwd_eq (x : Item) (l : List Item) : insFwd x l = insAfter (fun y => decide (x.prio ≤ y.prio)) x l := by
  induction l with
  | nil => rfl
  | cons y t ih =>
    by_cases h : y.prio < x.prio
    · simp [insFwd, insAfter, h, Int.not_le.2 h]
    · simpa [insFwd, insAfter, h, Int.not_lt.1 h] using ih

theorem insBwdRev_eq (x : Item) (l : List Item) : insBwdRev x l = insAfter (fun y => decide (y.prio < x.prio)) x l := by
  induction l with
  | nil => rfl
  | cons y t ih =>
    by_cases h : y.prio < x.prio
    · simpa [insBwdRev, insAfter, h] using ih
    · simp [insBwdRev, insAfter, h]

theorem insRing_eq (x : Item) (l : List Item) : insRing x l = insAfter (fun y => decide (x.prio < y.prio)) x l := by
  induction l with
  | nil => rfl
  | cons y t ih =>
    by_cases h : x.prio < y.prio
    · simpa [insRing, insAfter, h] using ih
    · simp [insRing, insAfter, h]

theorem insAfter_perm (p : Item → Bool) (x : Item) (l : List Item) : (insAfter p x l).Perm (x :: l) :=
  List.perm_middle.trans (by rw [List.takeWhile_append_dropWhile])

theorem insAfter_append {p : Item → Bool} (x : Item) {a : List Item} (b : List Item) (ha : ∀ y ∈ a, p y) :
    insAfter p x (a ++ b) = a ++ insAfter p x b := by
  rw [insAfter, List.takeWhile_append_of_pos ha, List.dropWhile_append_of_pos ha, List.append_assoc]; rfl

theorem insAfter_split {p : Item → Bool} (x : Item) {a b : List Item} (ha : ∀ y ∈ a, p y)
    (hb : ∀ y ∈ b, p y = false) : insAfter p x (a ++ b) = a ++ x :: b := by
  rw [insAfter_append x b ha]
  cases b with
  | nil => rfl
  | cons y t => simp [insAfter, hb y (List.mem_cons_self ..)]

theorem sorted_split {p : Item → Prop} (hp : ∀ a b : Item, b.prio ≤ a.prio → p b → p a) (l : List Item)
    (hs : SortedDesc l) : ∃ a b, l = a ++ b ∧ (∀ y ∈ a, p y) ∧ (∀ y ∈ b, ¬ p y) := by
  induction l with
  | nil => exact ⟨[], [], rfl, nofun, nofun⟩
  | cons y t ih =>
    have hs' := List.pairwise_cons.1 hs
    by_cases h : p y
    · obtain ⟨a, b, e, ha, hb⟩ := ih hs'.2
      exact ⟨y :: a, b, by rw [e]; rfl, List.forall_mem_cons.2 ⟨h, ha⟩, hb⟩
    · exact ⟨[], y :: t, rfl, nofun, List.forall_mem_cons.2 ⟨h, fun z hz hpz => h (hp y z (hs'.1 z hz) hpz)⟩⟩

theorem sorted_split_ge (x : Item) (l : List Item) (hs : SortedDesc l) :
    ∃ a b, l = a ++ b ∧ (∀ y ∈ a, x.prio ≤ y.prio) ∧ (∀ y ∈ b, y.prio < x.prio) := by
  obtain ⟨a, b, e, ha, hb⟩ := sorted_split (p := fun y => x.prio ≤ y.prio) (fun _ _ h1 h2 => Int.le_trans h2 h1) l hs
  exact ⟨a, b, e, ha, fun y hy => Int.not_le.1 (hb y hy)⟩

theorem sortedDesc_insert (x : Item) (a b : List Item) (hs : SortedDesc (a ++ b))
    (ha : ∀ y ∈ a, x.prio ≤ y.prio) (hb : ∀ y ∈ b, y.prio ≤ x.prio) : SortedDesc (a ++ x :: b) := by
  unfold SortedDesc at *
  rw [List.pairwise_append] at hs ⊢
  exact ⟨hs.1, List.pairwise_cons.2 ⟨hb, hs.2.1⟩,
    fun u hu v hv => (List.mem_cons.1 hv).elim (· ▸ ha u hu) (hs.2.2 u hu v)⟩

theorem insFwd_split (x : Item) (a b : List Item) (ha : ∀ y ∈ a, x.prio ≤ y.prio)
    (hb : ∀ y ∈ b, y.prio < x.prio) : insFwd x (a ++ b) = a ++ x :: b :=
  insFwd_eq x _ ▸ insAfter_split x (fun y hy => decide_eq_true (ha y hy))
    fun y hy => decide_eq_false (Int.not_le.2 (hb y hy))

theorem insBwd_split (x : Item) (a b : List Item) (ha : ∀ y ∈ a, x.prio ≤ y.prio)
    (hb : ∀ y ∈ b, y.prio < x.prio) : insBwd x (a ++ b) = a ++ x :: b := by
  rw [insBwd, insBwdRev_eq, List.reverse_append, insAfter_split x (a := b.reverse) (b := a.reverse)]
  · simp
  · exact fun y hy => decide_eq_true (hb y (List.mem_reverse.1 hy))
  · exact fun y hy => decide_eq_false (Int.not_lt.2 (ha y (List.mem_reverse.1 hy)))

theorem insRing_split (x : Item) (a b : List Item) (ha : ∀ y ∈ a, x.prio < y.prio)
    (hb : ∀ y ∈ b, y.prio ≤ x.prio) : insRing x (a ++ b) = a ++ x :: b :=
  insRing_eq x _ ▸ insAfter_split x (fun y hy => decide_eq_true (ha y hy))
    fun y hy => decide_eq_false (Int.not_lt.2 (hb y hy))

theorem insFwd_append_ge (x : Item) (a b : List Item) (ha : ∀ y ∈ a, x.prio ≤ y.prio) :
    insFwd x (a ++ b) = a ++ insFwd x b := by
  rw [insFwd_eq, insFwd_eq]; exact insAfter_append x b fun y hy => decide_eq_true (ha y hy)

theorem insFwd_perm (x : Item) (l : List Item) : (insFwd x l).Perm (x :: l) :=
  insFwd_eq x l ▸ insAfter_perm ..

theorem length_insFwd (x : Item) (l : List Item) : (insFwd x l).length = l.length + 1 :=
  (insFwd_perm x l).length_eq

theorem insBwd_perm (x : Item) (l : List Item) : (insBwd x l).Perm (x :: l) := by
  rw [insBwd, insBwdRev_eq]
  exact (List.reverse_perm _).trans ((insAfter_perm ..).trans ((List.reverse_perm l).cons x))

theorem insRing_perm (x : Item) (l : List Item) : (insRing x l).Perm (x :: l) :=
  insRing_eq x l ▸ insAfter_perm ..

theorem scanLen_le (x : Item) (l : List Item) : scanLen x l ≤ l.length := by
  induction l with
  | nil => exact Nat.le_refl 0
  | cons y t ih => unfold scanLen; split <;> simp <;> omega

-- on an empty list the head of the ring goes in first: an ordinary step from cursor 0
theorem chainSorted_eq (l ring : List Item) : chainSorted l ring = (ring.foldl chainStep (l, l.length - 1)).1 := by
  cases ring <;> cases l <;> rfl

theorem chainStep_eq_insFwd (l : List Item) (i : Nat) (x : Item) (hs : SortedDesc l) (hi : i ≤ l.length - 1) :
    ∃ j, j ≤ (insFwd x l).length - 1 ∧ chainStep (l, i) x = (insFwd x l, j) := by
  -- the cursor stays where it is only if everything before it is `≥ x`
  have hr : restart l i x ≤ i ∧ ∀ y ∈ l.take (restart l i x), x.prio ≤ y.prio := by
    unfold restart
    split
    · next p hp =>
      obtain ⟨hil, rfl⟩ := List.getElem?_eq_some_iff.1 hp
      split
      · exact ⟨Nat.zero_le _, nofun⟩
      · refine ⟨Nat.le_refl _, fun y hy => ?_⟩
        obtain ⟨j, hj, rfl⟩ := List.mem_take_iff_getElem.1 hy
        have := List.pairwise_iff_getElem.1 hs j i (by omega) hil (by omega)
        omega
    · next hn =>
      have := List.getElem?_eq_none_iff.1 hn
      obtain rfl : l = [] := List.length_eq_zero_iff.1 (by omega)
      exact ⟨Nat.le_refl _, by simp⟩
  unfold chainStep
  generalize restart l i x = r at hr
  refine ⟨_, ?_, Prod.ext ?_ rfl⟩
  · have := scanLen_le x (l.drop r)
    rw [length_insFwd]
    simp only [List.length_drop] at this ⊢
    omega
  · rw [← insFwd_append_ge x _ _ hr.2, List.take_append_drop]

theorem chainStep_perm (st : List Item × Nat) (x : Item) : (chainStep st x).1.Perm (x :: st.1) := by
  unfold chainStep
  generalize restart st.1 st.2 x = j
  exact ((insFwd_perm x _).append_left _).trans (List.perm_middle.trans (by rw [List.take_append_drop]))

theorem chainFold_perm (ring : List Item) (st : List Item × Nat) : (ring.foldl chainStep st).1.Perm (st.1 ++ ring) := by
  induction ring generalizing st with
  | nil => simp
  | cons x t ih => exact (ih _).trans (((chainStep_perm st x).append_right t).trans List.perm_middle.symm)

end ParsecVerif.PList
