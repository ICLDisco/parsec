import ParsecVerif.Proofs.Profile
/-
  C42 — the model writer's file is a placement of its own buffers: a file made of buffers of `B` bytes
  has buffer `k` at offset `k * B`; chains laid out consecutively are found at consecutive offsets.
-/
namespace ParsecVerif.Profile

theorem flatten_length_all {B : Nat} {bufs : List Bytes} (h : ∀ b ∈ bufs, b.length = B) :
    bufs.flatten.length = bufs.length * B := by
  induction bufs with
  | nil => simp
  | cons b bs ih =>
    obtain ⟨hb, hbs⟩ := List.forall_mem_cons.1 h
    simp only [List.flatten_cons, List.length_append, List.length_cons, hb, ih hbs, Nat.succ_mul]
    omega

theorem flatten_drop {B : Nat} {bufs : List Bytes} (h : ∀ b ∈ bufs, b.length = B) (k : Nat) :
    bufs.flatten.drop (k * B) = (bufs.drop k).flatten := by
  induction k generalizing bufs with
  | zero => simp
  | succ k ih =>
    cases bufs with
    | nil => simp
    | cons b bs =>
      obtain ⟨rfl, hbs⟩ := List.forall_mem_cons.1 h
      rw [Nat.succ_mul, Nat.add_comm, List.flatten_cons, List.drop_length_add_append, List.drop_succ_cons]
      exact ih hbs

/-- a chunk (record count, bytes) goes into one buffer: the bytes behind the buffer header, the count into
    its 8-byte field -/
def ChunkFits (B : Nat) (c : Nat × Bytes) : Prop := c.2.length ≤ avail B ∧ c.1 < 18446744073709551616

theorem readBuf_mkBuf {B typ start : Nat} {bufs rest : List Bytes} {this next : Int} {c : Nat × Bytes}
    (hall : ∀ b ∈ bufs, b.length = B) (hd : bufs.drop start = mkBuf B this next c.1 typ c.2 :: rest)
    (hB : bufHdrSize ≤ B) (hc : ChunkFits B c) (hn : FitsI64 next) :
    readBuf B bufs.flatten (Int.ofNat (start * B)) = some ⟨next, c.1, typ, pad (avail B) c.2⟩ := by
  unfold readBuf
  rw [Int.ofNat_eq_natCast, if_neg (by omega), Int.toNat_natCast, flatten_drop hall, hd, List.flatten_cons,
    split_append (mkBuf_length hB hc.1)]
  simp only [mkBuf, split_append, i64_length, le_length, toI64_i64 _ hn, unle_le 8 _ hc.2]
  simp [split, unle]

theorem mkChain_length (B typ : Nat) (start : Nat) (chunks : List (Nat × Bytes)) :
    (mkChain B typ start chunks).length = chunks.length := by
  induction chunks generalizing start with
  | nil => simp [mkChain]
  | cons c cs ih => cases cs <;> simp [mkChain, ih (start + 1)]

theorem mkChain_all_length {B typ : Nat} {start : Nat} {chunks : List (Nat × Bytes)}
    (hB : bufHdrSize ≤ B) (hfit : ∀ c ∈ chunks, ChunkFits B c) :
    ∀ b ∈ mkChain B typ start chunks, b.length = B := by
  induction chunks generalizing start with
  | nil => simp [mkChain]
  | cons c cs ih =>
    obtain ⟨hc, hcs⟩ := List.forall_mem_cons.1 hfit
    cases cs with
    | nil => exact List.forall_mem_singleton.2 (mkBuf_length hB hc.1)
    | cons c' cs' => exact List.forall_mem_cons.2 ⟨mkBuf_length hB hc.1, ih hcs⟩

theorem seqOffs_length (B start n : Nat) : (seqOffs B start n).length = n := by
  induction n generalizing start with
  | zero => rfl
  | succ n ih => simp [seqOffs, ih]

theorem chunksAt_canon {B typ : Nat} {bufs : List Bytes} {start : Nat} {chunks post} (hall : ∀ b ∈ bufs, b.length = B)
    (hd : bufs.drop start = mkChain B typ start chunks ++ post)
    (hB : bufHdrSize ≤ B) (hfit : ∀ c ∈ chunks, ChunkFits B c)
    (hsz : bufs.length * B < 9223372036854775808) :
    ChunksAt B bufs.flatten typ (seqOffs B start chunks.length) chunks := by
  induction chunks generalizing start with
  | nil => trivial
  | cons c cs ih =>
    obtain ⟨hc, hcs⟩ := List.forall_mem_cons.1 hfit
    cases cs with
    | nil => exact ⟨-1, by omega, readBuf_mkBuf hall hd hB hc .neg_one⟩
    | cons c' cs' =>
      have hlen := congrArg List.length hd
      simp only [List.length_drop, List.length_append, mkChain_length, List.length_cons] at hlen
      have : (start + 1) * B ≤ bufs.length * B := Nat.mul_le_mul_right _ (by omega)
      simp only [List.length_cons, seqOffs, ChunksAt]
      refine ⟨readBuf_mkBuf hall hd hB hc (.of_nat (by omega)), ?_⟩
      exact ih (start := start + 1) (by rw [← List.drop_drop, hd]; rfl) hcs

theorem evBufs_length (B start : Nat) (ss : List Stream) : (evBufs B start ss).length = evCount B ss := by
  induction ss generalizing start with
  | nil => rfl
  | cons s ss ih => simp [evBufs, evCount, mkChain_length, ih]

theorem evBufs_all_length {B start : Nat} {ss : List Stream} (hB : bufHdrSize ≤ B)
    (hfit : ∀ s ∈ ss, ∀ c ∈ evChunks B s, ChunkFits B c) :
    ∀ b ∈ evBufs B start ss, b.length = B := by
  induction ss generalizing start with
  | nil => simp [evBufs]
  | cons s ss ih =>
    obtain ⟨hs, hss⟩ := List.forall_mem_cons.1 hfit
    exact List.forall_mem_append.2 ⟨mkChain_all_length hB hs, ih hss⟩

theorem evChunksAt_canon {B : Nat} {bufs : List Bytes} {start : Nat} {ss : List Stream} {post : List Bytes}
    (hall : ∀ b ∈ bufs, b.length = B) (hd : bufs.drop start = evBufs B start ss ++ post)
    (hB : bufHdrSize ≤ B) (hfit : ∀ s ∈ ss, ∀ c ∈ evChunks B s, ChunkFits B c)
    (hsz : bufs.length * B < 9223372036854775808) :
    EvChunksAt B bufs.flatten (evPlaces B start ss) ss := by
  induction ss generalizing start with
  | nil => trivial
  | cons s ss ih =>
    simp only [evBufs, List.append_assoc] at hd
    have hlen := congrArg List.length hd
    simp only [List.length_drop, List.length_append, mkChain_length] at hlen
    have : bufs.length * 1 ≤ bufs.length * B := Nat.mul_le_mul_left _ (by simp only [bufHdrSize] at hB; omega)
    obtain ⟨hs, hss⟩ := List.forall_mem_cons.1 hfit
    refine ⟨?_, chunksAt_canon hall hd hB hs hsz, ih ?_ hss⟩
    · rw [seqOffs_length, flatten_length_all hall]; omega
    · rw [← List.drop_drop, hd, List.drop_left' (mkChain_length ..)]

theorem length_le_sum_map {α : Type} (len : α → Nat) (h1 : ∀ a, 1 ≤ len a) (c : List α) :
    c.length ≤ (c.map len).sum := by
  induction c with
  | nil => simp
  | cons a c ih => have := h1 a; simp at ih ⊢; omega

theorem chunks_fit {α : Type} (B cap : Nat) (enc : α → Bytes) (len : α → Nat) (l : List α)
    (henc : ∀ a, (enc a).length = len a) (h1 : ∀ a, 1 ≤ len a)
    (hl : ∀ a ∈ l, len a ≤ cap) (hcap : cap ≤ avail B) (hB : B < 2147483648) :
    ∀ c ∈ (pack cap len l 0).map (chunkOf enc), ChunkFits B c := by
  intro c hc
  obtain ⟨x, hx, rfl⟩ := List.mem_map.1 hc
  have hu := (pack_zero_ok cap len l hl x hx).2
  have hlen := length_le_sum_map len h1 x
  simp only [ChunkFits, chunkOf, flatten_map_length enc len x henc, avail] at *
  omega

theorem encHeader_length (h : Header) : (encHeader h).length = fileHdrSize := by
  simp [encHeader, fixstr_length, fileHdrSize, pad, magick]

theorem seqOffs_headD_eq_head? {α : Type} {B start : Nat} {l : List α} (h : l ≠ []) :
    some ((seqOffs B start l.length).headD (-1)) = (seqOffs B start l.length).head? := by
  cases l with
  | nil => exact absurd rfl h
  | cons _ _ => rfl

theorem seqOffs_headD_i64 {B start n : Nat} (h : start * B < 9223372036854775808) :
    FitsI64 ((seqOffs B start n).headD (-1)) := by
  cases n with
  | zero => exact .neg_one
  | succ n => exact .of_nat h

theorem canon_chains {B : Nat} {H : Bytes} {dc tc : List (Nat × Bytes)} {ss : List Stream}
    (hB : bufHdrSize ≤ B) (hdfit : ∀ c ∈ dc, ChunkFits B c) (htfit : ∀ c ∈ tc, ChunkFits B c)
    (hefit : ∀ s ∈ ss, ∀ c ∈ evChunks B s, ChunkFits B c) (bufs : List Bytes)
    (hbufs : bufs = H :: (mkChain B tyDict 1 dc ++ (evBufs B (1 + dc.length) ss ++
      mkChain B tyThread (1 + dc.length + evCount B ss) tc)))
    (hall : ∀ b ∈ bufs, b.length = B) (hsz : bufs.flatten.length < 9223372036854775808) :
    (∀ k, k ≤ 1 + dc.length + evCount B ss + tc.length →
      k ≤ bufs.flatten.length ∧ k * B < 9223372036854775808) ∧
    ChunksAt B bufs.flatten tyDict (seqOffs B 1 dc.length) dc ∧
    ChunksAt B bufs.flatten tyThread (seqOffs B (1 + dc.length + evCount B ss) tc.length) tc ∧
    EvChunksAt B bufs.flatten (evPlaces B (1 + dc.length) ss) ss := by
  have hn : bufs.length = 1 + dc.length + evCount B ss + tc.length := by
    simp only [hbufs, List.length_cons, List.length_append, mkChain_length, evBufs_length]; omega
  rw [flatten_length_all hall] at hsz ⊢
  subst hbufs
  refine ⟨?_, chunksAt_canon (start := 1) hall rfl hB hdfit hsz,
    chunksAt_canon (post := []) hall ?_ hB htfit hsz,
    evChunksAt_canon (post := mkChain B tyThread (1 + dc.length + evCount B ss) tc) hall ?_ hB hefit hsz⟩
  · intro k hk
    rw [hn] at hsz ⊢
    have h1 := Nat.mul_le_mul_right B hk
    have h2 := Nat.le_mul_of_pos_right k (Nat.lt_of_lt_of_le (by decide : 0 < bufHdrSize) hB)
    omega
  · rw [Nat.add_assoc, Nat.add_comm, List.drop_succ_cons, ← List.drop_drop,
      List.drop_left' (mkChain_length ..), List.drop_left' (evBufs_length ..), List.append_nil]
  · rw [Nat.add_comm, List.drop_succ_cons, List.drop_left' (mkChain_length ..)]

theorem dictChunks_ne_nil (t : Trace) : dictChunks t ≠ [] := by simp [dictChunks, pack_ne_nil]
theorem thrChunks_ne_nil (B : Nat) (r : List ThreadRec) : thrChunks B r ≠ [] := by simp [thrChunks, pack_ne_nil]

theorem decHeader_headerBuf (t : Trace) (p : Place) (r : Bytes) (hwf : WellFormed t)
    (hdo : FitsI64 (p.dictOffs.headD (-1))) (hto : FitsI64 (p.thrOffs.headD (-1))) :
    decHeader (headerBuf t p ++ r) = some (headerOf t p) := by
  obtain ⟨_, hB2, hhz, hhl, hrk, _, hdl, _, hsl, _⟩ := hwf
  rw [headerBuf, pad, List.append_assoc]
  exact decHeader_encHeader (headerOf t p) _ (Nat.lt_trans hB2 (by decide)) hhz hhl
    (Nat.lt_trans hdl (by decide)) hdo (show 0 < 4294967296 by decide) FitsI64.neg_one
    (Nat.lt_trans hrk (by decide))
    (Nat.lt_trans hsl (by decide)) hto

theorem wf_fits {t : Trace} (hwf : WellFormed t) (os : List Int) :
    (∀ c ∈ dictChunks t, ChunkFits t.bufSize c) ∧
    (∀ c ∈ thrChunks t.bufSize (thrRecs t.streams os), ChunkFits t.bufSize c) ∧
    ∀ s ∈ t.streams, ∀ c ∈ evChunks t.bufSize s, ChunkFits t.bufSize c := by
  have ⟨_, hB2, _, _, _, _, _, hkeys, _, hstreams⟩ := hwf
  exact ⟨chunks_fit t.bufSize (avail t.bufSize - 1) encKey keyStride t.dict encKey_length
      (fun _ => Nat.le_add_right_of_le (by decide))
      (fun k hk => by have := (hkeys k hk).2.2.2.2.2.2; omega) (by omega) hB2,
    chunks_fit t.bufSize (avail t.bufSize - 1) encThr thrStride _ encThr_length
      (fun _ => Nat.le_add_right_of_le (by decide)) (thrRecs_stride hstreams) (by omega) hB2,
    fun s hs => chunks_fit t.bufSize (avail t.bufSize) encEvent evLen s.events encEvent_length
      (fun _ => Nat.le_add_right_of_le (by decide))
      (fun e he => Nat.le_of_lt ((hstreams s hs).2.2.2.2.1 e he).2.2.2.2.2.1) (Nat.le_refl _) hB2⟩

theorem encodeBufs_all_length {t : Trace} (hwf : WellFormed t) : ∀ b ∈ encodeBufs t, b.length = t.bufSize := by
  have hB : bufHdrSize ≤ t.bufSize := Nat.le_trans (by decide) hwf.1
  obtain ⟨hdfit, htfit, hefit⟩ := wf_fits hwf (firstOffs (canonPlace t).evOffs)
  simp only [encodeBufs, List.forall_mem_cons, List.forall_mem_append]
  exact ⟨pad_length _ _ (by rw [encHeader_length]; exact hwf.1), mkChain_all_length hB hdfit,
    evBufs_all_length hB hefit, mkChain_all_length hB htfit⟩

theorem encode_length {t : Trace} (hwf : WellFormed t) :
    (encode t).length = (encodeBufs t).length * t.bufSize :=
  flatten_length_all (encodeBufs_all_length hwf)

theorem layout_encode (t : Trace) (hwf : WellFormed t) (hsz : (encode t).length < 9223372036854775808) :
    LayoutAt (encode t) t (canonPlace t) := by
  have hB : bufHdrSize ≤ t.bufSize := Nat.le_trans (by decide) hwf.1
  obtain ⟨hdfit, htfit, hefit⟩ := wf_fits hwf (firstOffs (canonPlace t).evOffs)
  have hdc := dictChunks_ne_nil t
  have htc := thrChunks_ne_nil t.bufSize (thrRecs t.streams (firstOffs (canonPlace t).evOffs))
  obtain ⟨hmul, hdict, hthr, hev⟩ := canon_chains hB hdfit htfit hefit (encodeBufs t) rfl
    (encodeBufs_all_length hwf) hsz
  refine ⟨⟨headerOf t (canonPlace t), ?_, rfl, rfl, rfl, rfl, rfl, seqOffs_headD_eq_head? hdc,
    seqOffs_headD_eq_head? htc⟩, ?_, ?_, hdict, hthr, hev⟩
  · exact decHeader_headerBuf t (canonPlace t) _ hwf (seqOffs_headD_i64 (hmul 1 (by omega)).2)
      (seqOffs_headD_i64 (hmul _ (by omega)).2)
  · simp only [canonPlace, seqOffs_length]; exact (hmul _ (by omega)).1
  · simp only [canonPlace, seqOffs_length]; exact (hmul _ (Nat.le_add_left _ _)).1

end ParsecVerif.Profile
