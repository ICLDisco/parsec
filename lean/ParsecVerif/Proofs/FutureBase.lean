import ParsecVerif.Model.Future
import ParsecVerif.Base.Interleave
/-!
  Invariants of the base future (`bstep false`) and of the countable future (`bstep true`) for C29.

  Base future: the CAS on the data word lets one thread win, and between its won CAS and its fence (park point `.wmb`) the
  winner still owes the callback.  So once the word is set, `cb + #threads at .wmb = 1`, and the flag is up exactly when
  the callback has run (`BInv.shared`).  Countable future: the shared words are a function of the number of finished
  `set`s (`kshared`).
-/
namespace ParsecVerif.C29
open ParsecVerif.Future

def isWmb (th : BThread) : Bool := match th.pc with | .wmb _ => true | _ => false
def nWmb (s : BState) : Nat := s.thr.countP isWmb

def pcOp : BPc → Option BOp
  | .cas v => some (.set v) | .wmb v => some (.set v) | .dec v => some (.set v)
  | .spin => some .get | .rmb => some .get | .idle => none | .done => none

/-- `A` = the operations that occur in the programs.  `sets` (a finished `set`, won or lost, leaves the word non-NULL) and
    the ghost program (`prog`, `dn`: a thread that is done has a result for every operation of its program) are what
    `C29_base_all_done` reads. -/
structure BThOk (A : List BOp) (sh : BShared) (th : BThread) : Prop where
  todo : ∀ o ∈ th.todo, o ∈ A
  cas : ∀ v, th.pc = .cas v → .set v ∈ A
  wmb : ∀ v, th.pc = .wmb v → v = sh.data
  rmb : th.pc = .rmb → sh.compl = true
  get : ∀ v, (BOp.get, v) ∈ th.res → sh.compl = true ∧ v = sh.data
  rdy : (BOp.ready, 1) ∈ th.res → sh.compl = true
  sets : ∀ v r, (BOp.set v, r) ∈ th.res → sh.data ≠ 0
  prog : th.res.map (·.1) ++ th.todo = th.prog
  dn : th.pc = .done → th.todo = []
  hd : ∀ o, pcOp th.pc = some o → th.todo.head? = some o
  nodec : ∀ v, th.pc ≠ .dec v

structure BInv (A : List BOp) (s : BState) : Prop where
  shared : (s.sh.data = 0 ∧ s.sh.wins = 0 ∧ s.sh.cb = 0 ∧ s.sh.compl = false ∧ nWmb s = 0) ∨
           (s.sh.data ≠ 0 ∧ s.sh.wins = 1 ∧ s.sh.cb + nWmb s = 1 ∧ (s.sh.compl = true ↔ s.sh.cb = 1))
  issued : s.sh.data ≠ 0 → .set s.sh.data ∈ A
  thr : ∀ th ∈ s.thr, BThOk A s.sh th

/-- The fields of `BThOk` that depend on the park point, one statement per park point: a `BThOk` is built from this form
    and read through its fields. -/
def BPcOk (A : List BOp) (sh : BShared) (todo : List BOp) : BPc → Prop
  | .idle => True
  | .cas v => .set v ∈ A ∧ todo.head? = some (.set v)
  | .wmb v => v = sh.data ∧ todo.head? = some (.set v)
  | .dec _ => False
  | .spin => todo.head? = some .get
  | .rmb => sh.compl = true ∧ todo.head? = some .get
  | .done => todo = []

theorem BPcOk.hd {A sh todo} : ∀ {pc}, BPcOk A sh todo pc → ∀ o, pcOp pc = some o → todo.head? = some o
  | .cas _, h, _, rfl | .wmb _, h, _, rfl | .rmb, h, _, rfl => h.2
  | .spin, h, _, rfl => h
  | .dec _, h, _, _ => h.elim

theorem BThOk.of_pcOk {A sh} {th : BThread} (todo : ∀ o ∈ th.todo, o ∈ A) (pc : BPcOk A sh th.todo th.pc)
    (get : ∀ v, (BOp.get, v) ∈ th.res → sh.compl = true ∧ v = sh.data) (rdy : (BOp.ready, 1) ∈ th.res → sh.compl = true)
    (sets : ∀ v r, (BOp.set v, r) ∈ th.res → sh.data ≠ 0) (prog : th.res.map (·.1) ++ th.todo = th.prog) :
    BThOk A sh th where
  todo := todo
  cas _ e := (e ▸ pc :).1
  wmb _ e := (e ▸ pc :).1
  rmb e := (e ▸ pc :).1
  get := get
  rdy := rdy
  sets := sets
  prog := prog
  dn e := (e ▸ pc :)
  hd := pc.hd
  nodec _ e := (e ▸ pc :)

theorem bthok_pc {A sh th} (pc' : BPc) (h : BThOk A sh th) (hpc : BPcOk A sh th.todo pc') :
    BThOk A sh { th with pc := pc' } :=
  .of_pcOk h.todo hpc h.get h.rdy h.sets h.prog

theorem bfin_not_wmb (th : BThread) (op : BOp) (v : Nat) : isWmb (bfin th op v) = false := by
  unfold isWmb bfin; cases th.todo.tail <;> rfl

theorem mem_bfin_res {th : BThread} {op o : BOp} {v x : Nat} (h : (o, x) ∈ (bfin th op v).res) :
    (o, x) ∈ th.res ∨ (o = op ∧ x = v) := by
  simpa [bfin] using h

theorem bthok_fin {A sh th} (op : BOp) (v : Nat) (h : BThOk A sh th) (hd : th.todo.head? = some op)
    (hv : match op with | .get => sh.compl = true ∧ v = sh.data | .ready => v = 1 → sh.compl = true | .set _ => sh.data ≠ 0) :
    BThOk A sh (bfin th op v) := by
  refine .of_pcOk (fun o ho => h.todo o (List.mem_of_mem_tail ho)) ?_ ?_ ?_ ?_ ?_
  · unfold bfin; cases th.todo.tail <;> trivial
  · exact fun x hx => (mem_bfin_res hx).elim (h.get x) fun ⟨e, ex⟩ => by subst e ex; exact hv
  · exact fun hx => (mem_bfin_res hx).elim h.rdy fun ⟨e, ex⟩ => by subst e; exact hv ex.symm
  · exact fun x r hx => (mem_bfin_res hx).elim (h.sets x r) fun ⟨e, _⟩ => by subst e; exact hv
  · obtain ⟨rest, hrest⟩ := List.head?_eq_some_iff.1 hd
    show _ = th.prog
    rw [← h.prog]
    simp [bfin, hrest]

def BExt (sh sh' : BShared) : Prop :=
  (sh.compl = true → sh'.compl = true ∧ sh'.data = sh.data) ∧ (sh.data ≠ 0 → sh'.data = sh.data)

theorem bthok_ext {A sh sh' th} (h : BThOk A sh th) (e : BExt sh sh') (hw : isWmb th = true → sh.data ≠ 0) :
    BThOk A sh' th :=
  { h with
    wmb v hv := (h.wmb v hv).trans (e.2 (hw (by simp [isWmb, hv]))).symm
    rmb hp := (e.1 (h.rmb hp)).1
    get v hv := ⟨(e.1 (h.get v hv).1).1, (h.get v hv).2.trans (e.1 (h.get v hv).1).2.symm⟩
    rdy hr := (e.1 (h.rdy hr)).1
    sets v r hv := e.2 (h.sets v r hv) ▸ h.sets v r hv }

theorem data_ne_zero_of_wmb {A s th} (h : BInv A s) (hm : th ∈ s.thr) (hw : isWmb th = true) : s.sh.data ≠ 0 :=
  have hpos : 0 < nWmb s := List.countP_pos_iff.2 ⟨th, hm, hw⟩
  (h.shared.resolve_left fun h0 => Nat.ne_of_gt hpos h0.2.2.2.2).1

theorem binv_bset {A : List BOp} {s : BState} {t : Nat} {th : BThread} (sh' : BShared) (th' : BThread) (b b' : Bool)
    (h : BInv A s) (hx : s.thr[t]? = some th)
    (hb : isWmb th = b) (hb' : isWmb th' = b')
    (hext : BExt s.sh sh')
    (hshared : ∀ n, n + (if b then 1 else 0) = nWmb s + (if b' then 1 else 0) →
      (sh'.data = 0 ∧ sh'.wins = 0 ∧ sh'.cb = 0 ∧ sh'.compl = false ∧ n = 0) ∨
      (sh'.data ≠ 0 ∧ sh'.wins = 1 ∧ sh'.cb + n = 1 ∧ (sh'.compl = true ↔ sh'.cb = 1)))
    (hiss : sh'.data ≠ 0 → .set sh'.data ∈ A)
    (hth : BThOk A sh' th') : BInv A (bset s t sh' th') := by
  refine ⟨hshared _ (hb ▸ hb' ▸ Interleave.countP_set_of_getElem? isWmb hx th'), hiss, ?_⟩
  intro o ho
  rcases List.mem_or_eq_of_mem_set ho with ho | rfl
  · exact bthok_ext (h.thr o ho) hext (data_ne_zero_of_wmb h ho)
  · exact hth

theorem binv_same {A : List BOp} {s : BState} {t : Nat} {th : BThread} (th' : BThread) (h : BInv A s)
    (hx : s.thr[t]? = some th) (hb : isWmb th = false) (hb' : isWmb th' = false) (hth : BThOk A s.sh th') :
    BInv A (bset s t s.sh th') :=
  binv_bset _ _ false false h hx hb hb' ⟨fun h => ⟨h, rfl⟩, fun _ => rfl⟩ (fun n (hn : n = nWmb s) => hn ▸ h.shared)
    h.issued hth

theorem bthok_recheck {A sh th} (h : BThOk A sh th) (hd : th.todo.head? = some .get) :
    BThOk A sh { th with pc := if sh.compl = true then .rmb else .spin } := by
  refine bthok_pc _ h ?_
  split
  next hc => exact ⟨hc, hd⟩
  · exact hd

theorem isWmb_recheck (th : BThread) (c : Bool) : isWmb { th with pc := if c = true then .rmb else .spin } = false := by
  cases c <;> rfl

theorem ready_result {c : Bool} (h : (if c = true then 1 else 0) = 1) : c = true := by
  cases c
  · cases h
  · rfl

theorem binv_step (A : List BOp) (hA : ∀ v, BOp.set v ∈ A → v ≠ 0) (s : BState) (t : Nat) (h : BInv A s) :
    BInv A (bstep false s t) := by
  have hok : ∀ {th}, s.thr[t]? = some th → BThOk A s.sh th := fun hx => h.thr _ (List.mem_of_getElem? hx)
  fun_cases bstep false s t
  · exact h
  next th hx hp =>
    -- `.idle`: the four cases of `bidle`
    have ht := hok hx
    have hnw : isWmb th = false := by simp [isWmb, hp]
    fun_cases bidle false s t th
    next htd => exact binv_same _ h hx hnw rfl (bthok_pc .done ht htd)
    next v rest htd =>
      exact binv_same _ h hx hnw rfl (bthok_pc (.cas v) ht ⟨ht.todo _ (htd ▸ List.mem_cons_self), congrArg List.head? htd⟩)
    next rest htd => exact binv_same _ h hx hnw (isWmb_recheck th _) (bthok_recheck ht (congrArg List.head? htd))
    next rest htd =>
      exact binv_same _ h hx hnw (bfin_not_wmb _ _ _)
        (bthok_fin .ready _ ht (congrArg List.head? htd) ready_result)
  next th hx v hp hd =>
    -- `.cas v`, the word is NULL: the CAS succeeds
    have ht := hok hx
    have hv := ht.cas v hp
    obtain ⟨-, hw, hcb, hc, hn0⟩ := h.shared.resolve_right fun h' => h'.1 hd
    have hext : BExt s.sh { s.sh with data := v, wins := s.sh.wins + 1 } :=
      ⟨by simp [hc], by simp [hd]⟩
    refine binv_bset _ _ false true h hx (by simp [isWmb, hp]) rfl hext ?_ (fun _ => hv)
      (bthok_pc (.wmb v) (bthok_ext ht hext (by simp [isWmb, hp])) ⟨rfl, ht.hd _ (congrArg pcOp hp)⟩)
    intro n (hn : n = nWmb s + 1)
    exact Or.inr ⟨hA v hv, by simp [hw], show s.sh.cb + n = 1 by omega, by simp [hc, hcb]⟩
  next th hx v hp hd =>
    -- `.cas v`, the word is taken: the CAS fails
    have ht := hok hx
    exact binv_same _ h hx (by simp [isWmb, hp]) (bfin_not_wmb _ _ _)
      (bthok_fin (.set v) 0 ht (ht.hd _ (congrArg pcOp hp)) hd)
  next th hx v hp =>
    -- `.wmb v`
    have ht := hok hx
    have hw : isWmb th = true := by simp [isWmb, hp]
    have hd := data_ne_zero_of_wmb h (List.mem_of_getElem? hx) hw
    obtain ⟨-, hwins, hcb, hc⟩ := h.shared.resolve_left fun h' => hd h'.1
    have hext : BExt s.sh { s.sh with compl := true, cb := s.sh.cb + 1 } := ⟨fun _ => ⟨rfl, rfl⟩, fun _ => rfl⟩
    refine binv_bset _ _ true false h hx hw (bfin_not_wmb _ _ _) hext ?_ h.issued
      (bthok_fin (.set v) 1 (bthok_ext ht hext fun _ => hd) (ht.hd _ (congrArg pcOp hp)) hd)
    intro n (hn : n + 1 = nWmb s)
    exact Or.inr ⟨hd, hwins, show s.sh.cb + 1 + n = 1 by omega, show true = true ↔ s.sh.cb + 1 = 1 by simp; omega⟩
  -- `.dec v` (two cases): no thread of the base future is there
  next th hx v hp _ => exact ((hok hx).nodec v hp).elim
  next th hx v hp _ => exact ((hok hx).nodec v hp).elim
  next th hx hp =>
    -- `.spin`
    have ht := hok hx
    exact binv_same _ h hx (by simp [isWmb, hp]) (isWmb_recheck th _) (bthok_recheck ht (ht.hd _ (congrArg pcOp hp)))
  next th hx hp =>
    -- `.rmb`
    have ht := hok hx
    exact binv_same _ h hx (by simp [isWmb, hp]) (bfin_not_wmb _ _ _)
      (bthok_fin .get _ ht (ht.hd _ (congrArg pcOp hp)) ⟨ht.rmb hp, rfl⟩)
  · exact h

theorem binv_init (progs : List (List BOp)) (c : Int) : BInv progs.flatten (binit c progs) := by
  refine ⟨Or.inl ⟨rfl, rfl, rfl, rfl, List.countP_eq_zero.2 (List.forall_mem_map.2 fun _ _ => nofun)⟩, fun h => absurd rfl h,
    List.forall_mem_map.2 fun p hp => ?_⟩
  exact .of_pcOk (fun o ho => List.mem_flatten.2 ⟨p, hp, ho⟩) trivial nofun nofun nofun rfl

theorem binv_run (progs : List (List BOp)) (hv : ∀ p ∈ progs, ∀ v, BOp.set v ∈ p → v ≠ 0) (c : Int) (sched : List Nat) :
    BInv progs.flatten (brun false c progs sched) := by
  refine Interleave.foldl_inv (binv_step _ ?_) sched (binv_init progs c)
  intro v hm
  obtain ⟨p, hp, hm⟩ := List.mem_flatten.1 hm
  exact hv p hp v hm

theorem bfin_prog (th : BThread) (op : BOp) (v : Nat) : (bfin th op v).prog = th.prog := rfl

theorem bstep_prog (k : Bool) (s : BState) (t : Nat) : (bstep k s t).thr.map (·.prog) = s.thr.map (·.prog) := by
  -- every step replaces the thread it moves by one with the same ghost program
  fun_cases bstep k s t
  · rfl
  next th hth _ => fun_cases bidle k s t th <;> exact Interleave.map_set_of_eq hth rfl
  iterate 7 (have hth := ‹s.thr[t]? = some _›; exact Interleave.map_set_of_eq hth rfl)
  · rfl

theorem brun_prog (k : Bool) (c : Int) (progs : List (List BOp)) (sched : List Nat) :
    (brun k c progs sched).thr.map (·.prog) = progs := by
  refine Interleave.foldl_inv (P := fun s => s.thr.map (·.prog) = progs) (fun s t h => (bstep_prog k s t).trans h) sched ?_
  simp [binit, Function.comp_def]

def isSetRes (p : BOp × Nat) : Bool := match p.1 with | .set _ => true | _ => false
def nSetRes (th : BThread) : Nat := th.res.countP isSetRes
def finishedSets (s : BState) : Nat := (s.thr.map nSetRes).sum

structure KThOk (sh : BShared) (th : BThread) : Prop where
  nocas : ∀ v, th.pc ≠ .cas v
  nowmb : ∀ v, th.pc ≠ .wmb v
  rmb : th.pc = .rmb → sh.compl = true
  get : ∀ v, (BOp.get, v) ∈ th.res → sh.compl = true ∧ v = 0
  rdy : (BOp.ready, 1) ∈ th.res → sh.compl = true

/-- the shared words of a countable future created with count `c` after `n` fetch-decs: ready, and the callback run once,
    exactly when the decrement that reads 1 (the `c`-th) has happened -/
def kshared (c : Int) (n : Nat) : BShared :=
  ⟨0, decide (1 ≤ c ∧ c ≤ n), if 1 ≤ c ∧ c ≤ n then 1 else 0, c - n, 0, n⟩

structure KInv (c : Int) (s : BState) : Prop where
  sh : s.sh = kshared c (finishedSets s)
  thr : ∀ th ∈ s.thr, KThOk s.sh th

theorem kshared_last {c : Int} {n : Nat} (h : c - n - 1 = 0) :
    (⟨0, true, (if 1 ≤ c ∧ c ≤ n then 1 else 0) + 1, c - n - 1, 0, n + 1⟩ : BShared) = kshared c (n + 1) := by
  have h1 : 1 ≤ c ∧ c ≤ ((n + 1 : Nat) : Int) := by omega
  have h2 : ¬ (1 ≤ c ∧ c ≤ (n : Int)) := by omega
  rw [kshared, if_neg h2, if_pos h1, decide_eq_true h1]
  congr 1; omega

theorem kshared_next {c : Int} {n : Nat} (h : ¬ c - n - 1 = 0) :
    (⟨0, decide (1 ≤ c ∧ c ≤ n), if 1 ≤ c ∧ c ≤ n then 1 else 0, c - n - 1, 0, n + 1⟩ : BShared) = kshared c (n + 1) := by
  have h1 : (1 ≤ c ∧ c ≤ ((n + 1 : Nat) : Int)) = (1 ≤ c ∧ c ≤ (n : Int)) := propext (by omega)
  rw [kshared]; simp only [h1]
  congr 1; omega

theorem kthok_ext {sh sh' th} (h : KThOk sh th) (e : sh.compl = true → sh'.compl = true) : KThOk sh' th :=
  { h with rmb p := e (h.rmb p), get v hv := ⟨e (h.get v hv).1, (h.get v hv).2⟩, rdy hr := e (h.rdy hr) }

theorem kthok_recheck {sh th} (h : KThOk sh th) : KThOk sh { th with pc := if sh.compl = true then .rmb else .spin } := by
  split
  next hc => exact { h with nocas := nofun, nowmb := nofun, rmb := fun _ => hc }
  · exact { h with nocas := nofun, nowmb := nofun, rmb := nofun }

theorem kthok_fin {sh th} (op : BOp) (v : Nat) (h : KThOk sh th)
    (hv : match op with | .get => sh.compl = true ∧ v = 0 | .ready => v = 1 → sh.compl = true | .set _ => True) :
    KThOk sh (bfin th op v) := by
  refine ⟨?_, ?_, ?_, ?_, ?_⟩
  iterate 3 (unfold bfin; cases th.todo.tail <;> nofun)
  · exact fun x hx => (mem_bfin_res hx).elim (h.get x) fun ⟨e, ex⟩ => by subst e ex; exact hv
  · exact fun hx => (mem_bfin_res hx).elim h.rdy fun ⟨e, ex⟩ => by subst e; exact hv ex.symm

theorem nSetRes_pc (th : BThread) (pc' : BPc) : nSetRes { th with pc := pc' } = nSetRes th := rfl

theorem nSetRes_fin (th : BThread) (op : BOp) (v : Nat) :
    nSetRes (bfin th op v) = nSetRes th + (if isSetRes (op, v) then 1 else 0) := by
  simp [nSetRes, bfin, List.countP_append, List.countP_cons]

theorem kinv_bset {c : Int} {s : BState} {t : Nat} {th : BThread} (sh' : BShared) (th' : BThread) (d : Nat)
    (h : KInv c s) (hx : s.thr[t]? = some th)
    (hmono : s.sh.compl = true → sh'.compl = true)
    (hnd : nSetRes th' = nSetRes th + d) (hsh : sh' = kshared c (finishedSets s + d))
    (hth : KThOk sh' th') : KInv c (bset s t sh' th') := by
  refine ⟨?_, ?_⟩
  · have := Interleave.sum_map_set nSetRes s.thr t th th' hx
    show sh' = kshared c ((s.thr.set t th').map nSetRes).sum
    rw [hsh]; congr 1; unfold finishedSets; omega
  · intro o ho
    rcases List.mem_or_eq_of_mem_set ho with ho | rfl
    · exact kthok_ext (h.thr o ho) hmono
    · exact hth

theorem kinv_same {c : Int} {s : BState} {t : Nat} {th : BThread} (th' : BThread)
    (h : KInv c s) (hx : s.thr[t]? = some th) (hn : nSetRes th' = nSetRes th)
    (hth : KThOk s.sh th') : KInv c (bset s t s.sh th') :=
  kinv_bset s.sh th' 0 h hx id hn h.sh hth

theorem kinv_step (c : Int) (s : BState) (t : Nat) (h : KInv c s) : KInv c (bstep true s t) := by
  have hok : ∀ {th}, s.thr[t]? = some th → KThOk s.sh th := fun hx => h.thr _ (List.mem_of_getElem? hx)
  have hsh := h.sh
  fun_cases bstep true s t
  · exact h
  next th hx hp =>
    -- `.idle`: the four cases of `bidle`
    have ht := hok hx
    fun_cases bidle true s t th
    · exact kinv_same _ h hx rfl { ht with nocas := nofun, nowmb := nofun, rmb := nofun }
    next v _ _ => exact kinv_same _ h hx rfl { ht with nocas := nofun, nowmb := nofun, rmb := nofun }
    · exact kinv_same _ h hx rfl (kthok_recheck ht)
    · exact kinv_same _ h hx (nSetRes_fin ..) (kthok_fin .ready _ ht ready_result)
  -- `.cas v` (two cases), `.wmb v`: no thread of the countable future is there
  next th hx v hp _ => exact ((hok hx).nocas v hp).elim
  next th hx v hp _ => exact ((hok hx).nocas v hp).elim
  next th hx v hp => exact ((hok hx).nowmb v hp).elim
  next th hx v hp h0 =>
    -- `.dec v`, the fetch-dec that reads 1
    refine kinv_bset _ _ 1 h hx (fun _ => rfl) (nSetRes_fin ..) ?_
      (kthok_fin (.set v) 1 (kthok_ext (hok hx) (fun _ => rfl)) trivial)
    rw [hsh] at h0 ⊢
    exact kshared_last h0
  next th hx v hp h0 =>
    -- `.dec v`, any other fetch-dec
    refine kinv_bset _ _ 1 h hx id (nSetRes_fin ..) ?_
      (kthok_fin (.set v) 0 (kthok_ext (hok hx) id) trivial)
    rw [hsh] at h0 ⊢
    exact kshared_next h0
  next th hx hp => exact kinv_same _ h hx rfl (kthok_recheck (hok hx))  -- `.spin`
  next th hx hp =>
    -- `.rmb`
    exact kinv_same _ h hx (nSetRes_fin ..)
      (kthok_fin .get _ (hok hx) ⟨(hok hx).rmb hp, by rw [hsh]; rfl⟩)
  · exact h

theorem kinv_init (c : Int) (progs : List (List BOp)) : KInv c (binit c progs) := by
  have h0 : finishedSets (binit c progs) = 0 :=
    List.sum_eq_zero_iff_forall_eq_nat.2 (List.forall_mem_map.2 (List.forall_mem_map.2 fun _ _ => rfl))
  refine ⟨?_, List.forall_mem_map.2 fun _ _ => ⟨nofun, nofun, nofun, nofun, nofun⟩⟩
  rw [h0, kshared, if_neg (by omega), decide_eq_false (by omega)]
  simp [binit]

theorem kinv_run (c : Int) (progs : List (List BOp)) (sched : List Nat) : KInv c (brun true c progs sched) :=
  Interleave.foldl_inv (kinv_step c) sched (kinv_init c progs)

end ParsecVerif.C29
