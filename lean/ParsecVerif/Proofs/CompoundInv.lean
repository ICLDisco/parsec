import ParsecVerif.Proofs.CompoundStep
/-! The invariant of the compound machine: for every compound the chain of its members (`CI`) and the descriptor
    of the compound object (`CS`), on top of the invariants of the context machine (`GI`); what one transition of
    the context machine does to them (`cics_step`, `gi_ctx`). -/
namespace ParsecVerif.Compound
open ParsecVerif.Context
open ParsecVerif.Interleave (lt_of_getElem? getElem?_set_of_getElem?)

theorem nodup_get_inj {l : List Nat} (h : l.Nodup) {i j a : Nat} (hi : l[i]? = some a) (hj : l[j]? = some a) : i = j :=
  (List.getElem?_inj (lt_of_getElem? hi) h).1 (hi.trans hj.symm)

/-- The members of compound `c`: those before position `completed` are in or past their callback, those after it were
    never added, the one at `completed` is the enabled one (not yet added only before the startup hook), and `pending`
    counts the members not yet completed; `stamps`: a member is added after the callback of the one before it.
    `Pos` and `Stamps` below are the clauses `mem` and `stamps` under a name. -/
structure CI (l : List Tp) (c : Comp) : Prop where
  le : c.completed ≤ c.members.length
  mem : ∀ (i m : Nat), c.members[i]? = some m → ∃ tp : Tp, l[m]? = some tp ∧ tp.early = false ∧
      (i < c.completed → tp.st = .inCb ∨ tp.st = .inCbN ∨ tp.st = .done) ∧
      (c.completed < i → tp.st = .notAdded) ∧
      (i = c.completed → (tp.st = .notAdded ∨ tp.st = .adding ∨ tp.st = .added ∨ tp.st = .inCbN) ∧
          (tp.st = .notAdded → c.completed = 0 ∧ c.pending = 0) ∧
          (tp.st ≠ .notAdded → c.pending = (c.members.length : Int) - c.completed))
  fin : c.completed = c.members.length → c.pending = 0
  stamps : ∀ (i m m' : Nat) (tp tp' : Tp), c.members[i]? = some m → c.members[i + 1]? = some m' →
      l[m]? = some tp → l[m']? = some tp' → tp'.addAt ≠ 0 → tp.cbAt ≠ 0 ∧ tp.cbAt < tp'.addAt

variable {l : List Tp} {c : Comp} {comps : List Comp}

def Pos (c : Comp) (i : Nat) (st : TpSt) : Prop :=
  (i < c.completed → st = .inCb ∨ st = .inCbN ∨ st = .done) ∧
  (c.completed < i → st = .notAdded) ∧
  (i = c.completed → (st = .notAdded ∨ st = .adding ∨ st = .added ∨ st = .inCbN) ∧
      (st = .notAdded → c.completed = 0 ∧ c.pending = 0) ∧
      (st ≠ .notAdded → c.pending = (c.members.length : Int) - c.completed))

def Stamps (l : List Tp) (ms : List Nat) : Prop :=
  ∀ (i m m' : Nat) (tp tp' : Tp), ms[i]? = some m → ms[i + 1]? = some m' →
    l[m]? = some tp → l[m']? = some tp' → Bef tp.cbAt tp'.addAt

theorem CI.get (h : CI l c) {i m : Nat} {tp : Tp} (hm : c.members[i]? = some m)
    (htp : l[m]? = some tp) : tp.early = false ∧ Pos c i tp.st :=
  of_get (P := fun tp => tp.early = false ∧ Pos c i tp.st) htp (h.mem i m hm)

theorem Pos.eq {i : Nat} {st : TpSt} (h : Pos c i st) (hst : st = .adding ∨ st = .added) :
    i = c.completed ∧ c.pending = (c.members.length : Int) - c.completed := by
  have hi : i = c.completed := by
    rcases Nat.lt_trichotomy i c.completed with hlt | heq | hgt
    · rcases h.1 hlt with e | e | e <;> rcases hst with s | s <;> simp [s] at e
    · exact heq
    · have e := h.2.1 hgt; rcases hst with s | s <;> simp [s] at e
  exact ⟨hi, (h.2.2 hi).2.2 (by rcases hst with s | s <;> simp [s])⟩

theorem Pos.lt {i : Nat} {st : TpSt} (h : Pos c i st) (hst : st = .inCb ∨ st = .done) : i < c.completed :=
  Nat.lt_of_not_le fun hle => by
    have : st = .notAdded ∨ st = .adding ∨ st = .added ∨ st = .inCbN :=
      (Nat.eq_or_lt_of_le hle).elim (fun e => (h.2.2 e.symm).1) fun hlt => Or.inl (h.2.1 hlt)
    rcases hst with e | e <;> simp [e] at this

theorem Pos.below {i : Nat} {st : TpSt} (hi : i < c.completed) (hst : st = .inCb ∨ st = .inCbN ∨ st = .done) :
    Pos c i st :=
  ⟨fun _ => hst, fun h => by omega, fun h => by omega⟩

theorem Pos.cur {st : TpSt} (hp : c.pending = (c.members.length : Int) - c.completed)
    (hst : st = .adding ∨ st = .added ∨ st = .inCbN) : Pos c c.completed st :=
  ⟨fun h => by omega, fun h => by omega, fun _ => ⟨Or.inr hst, fun e => by simp [e] at hst, fun _ => hp⟩⟩

/-- How a transition outside the protocol of the compound moves the member at position `i`: a leaf goes inCb → done,
    any member adding → added, a nested compound added → inCbN (its termination is detected, nested, before its
    parent is notified) and inCbN → done only once the parent has been notified. -/
inductive StRel (c : Comp) (i : Nat) : TpSt → TpSt → Prop
  | same {st} : StRel c i st st
  | dec : StRel c i .inCb .done
  | inc : StRel c i .adding .added
  | nest : StRel c i .added .inCbN
  | decN (h : i < c.completed) : StRel c i .inCbN .done

theorem Pos.rel {i : Nat} {st st' : TpSt} (h : Pos c i st) (hr : StRel c i st st') : Pos c i st' := by
  cases hr with
  | same => exact h
  | dec => exact .below (h.lt (Or.inl rfl)) (Or.inr (Or.inr rfl))
  | inc =>
    obtain ⟨rfl, hp⟩ := h.eq (Or.inl rfl)
    exact .cur hp (Or.inr (Or.inl rfl))
  | nest =>
    obtain ⟨rfl, hp⟩ := h.eq (Or.inr rfl)
    exact .cur hp (Or.inr (Or.inr rfl))
  | decN hlt => exact .below hlt (Or.inr (Or.inr rfl))

/-- A callback stamp may be set where there was none (the stamps after it are then unset); an add stamp only after
    the callback of the member before. -/
theorem Stamps.set {ms : List Nat} {p : Nat} {tp x : Tp} (h : Stamps l ms) (hnd : ms.Nodup) (htp : l[p]? = some tp)
    (hx : p ∈ ms → (x.cbAt = tp.cbAt ∨ tp.cbAt = 0) ∧ (x.addAt = tp.addAt ∨
      ∀ (i m : Nat) (t : Tp), ms[i]? = some m → ms[i + 1]? = some p → l[m]? = some t → t.cbAt ≠ 0 ∧ t.cbAt < x.addAt)) :
    Stamps (l.set p x) ms := by
  intro i m m' t1 t1' hm hm' ht1 ht1'
  have hmm : m ≠ m' := fun e => by have := nodup_get_inj hnd hm (e ▸ hm'); omega
  rcases Interleave.getElem?_set_cases ht1' with ⟨rfl, rfl⟩ | ⟨_, h1'⟩
  · obtain ⟨_, h1⟩ := (Interleave.getElem?_set_cases ht1).resolve_left fun e => hmm e.1
    rcases (hx (List.mem_of_getElem? hm')).2 with e | e
    · rw [e]; exact h i m m' t1 tp hm hm' h1 htp
    · exact fun _ => e i m t1 hm hm' h1
  rcases Interleave.getElem?_set_cases ht1 with ⟨rfl, rfl⟩ | ⟨_, h1⟩
  · exact (h i m m' tp t1' hm hm' htp h1').left (hx (List.mem_of_getElem? hm)).1
  · exact h i m m' t1 t1' hm hm' h1 h1'

/-- What a write `tp ↦ x` may do to the stamps of a member of `c`: set a callback stamp where there was none; set the
    add stamp, to `clk`, of a member being added, and then actions of the object are still pending. -/
def MemStamps (clk : Nat) (c : Comp) (tp x : Tp) : Prop :=
  (x.cbAt = tp.cbAt ∨ tp.cbAt = 0) ∧ (x.addAt = tp.addAt ∨ (tp.st = .adding ∧ 0 < c.pending ∧ x.addAt = clk))

theorem ci_set {clk p : Nat} {tp x : Tp} (h : CI l c) (hS : ∀ tp ∈ l, tpOK clk tp)
    (hnd : c.members.Nodup) (htp : l[p]? = some tp) (he : x.early = tp.early)
    (hst : ∀ i, c.members[i]? = some p → StRel c i tp.st x.st)
    (hx : p ∈ c.members → MemStamps clk c tp x) : CI (l.set p x) c := by
  refine ⟨h.le, ?_, h.fin, Stamps.set h.stamps hnd htp fun hm => ⟨(hx hm).1, (hx hm).2.imp_right ?_⟩⟩
  · intro i m hm
    rw [getElem?_set_of_getElem? htp]
    by_cases hmp : m = p
    · subst hmp; rw [if_pos rfl]
      have ⟨e, hp⟩ := h.get hm htp
      exact ⟨x, rfl, he.trans e, hp.rel (hst i hm)⟩
    · rw [if_neg (Ne.symm hmp)]; exact h.mem i m hm
  · -- the member being added is the one at `completed`: the one before it is past its callback
    intro ⟨hs, _, e⟩ i m t hm hp ht
    have hic := ((h.get hp htp).2.eq (Or.inl hs)).1
    have := tpOK_in_cb (hS t (List.mem_of_getElem? ht)) (Or.inr ((h.get hm ht).2.1 (by omega)))
    rw [e]; exact ⟨this.cb, this.lt⟩

theorem chain {clk : Nat} (hci : CI l c) (hS : ∀ tp ∈ l, tpOK clk tp) {i j mi mj : Nat}
    {ti tj : Tp} (hij : i < j) (hi : c.members[i]? = some mi) (hj : c.members[j]? = some mj)
    (hti : l[mi]? = some ti) (htj : l[mj]? = some tj) : Bef ti.cbAt tj.addAt := by
  induction hij generalizing mj tj with
  | refl => exact hci.stamps i mi mj ti tj hi hj hti htj
  | @step j _ ih =>
    -- through member j: it was incremented before its callback, which ran before member j+1 was incremented
    have hk := List.getElem?_eq_getElem (Nat.lt_of_succ_lt (lt_of_getElem? hj))
    obtain ⟨tk, htk, hke, _⟩ := hci.mem j _ hk
    exact ((ih hk htk).trans (tpOK_add_cb (hS tk (List.mem_of_getElem? htk)) hke)).trans
      (hci.stamps j _ mj tk tj hk hj htk htj)

/-- `CI` between the two halves of a member's callback: the counters are updated, the next member is not yet
    enabled, so that the member at position `completed` may be one that was never added -/
structure CIw (l : List Tp) (c : Comp) : Prop where
  le : c.completed ≤ c.members.length
  mem : ∀ (i m : Nat), c.members[i]? = some m → ∃ tp : Tp, l[m]? = some tp ∧ tp.early = false ∧
      (Pos c i tp.st ∨ (i = c.completed ∧ tp.st = .notAdded))
  fin : c.completed = c.members.length → c.pending = 0
  stamps : Stamps l c.members

theorem CI.weak (h : CI l c) : CIw l c :=
  ⟨h.le, fun i m hm => let ⟨tp, a, b, c⟩ := h.mem i m hm; ⟨tp, a, b, Or.inl c⟩, h.fin, h.stamps⟩

theorem CIw.congr {l l' : List Tp} (h : CIw l c) (hl : ∀ m ∈ c.members, l'[m]? = l[m]?) : CIw l' c :=
  ⟨h.le, fun i m hm => by rw [hl m (List.mem_of_getElem? hm)]; exact h.mem i m hm, h.fin,
   fun i m m' tp tp' hm hm' ht ht' =>
     h.stamps i m m' tp tp' hm hm' (hl m (List.mem_of_getElem? hm) ▸ ht) (hl m' (List.mem_of_getElem? hm') ▸ ht')⟩

theorem CIw.last (h : CIw l c) (hc : c.completed = c.members.length) : CI l c := by
  refine ⟨h.le, fun i m hm => ?_, h.fin, h.stamps⟩
  obtain ⟨tp, a, b, r | ⟨e, _⟩⟩ := h.mem i m hm
  · exact ⟨tp, a, b, r⟩
  · have := lt_of_getElem? hm; omega

theorem Pos.adv {i : Nat} {st : TpSt} (h : Pos c i st) (hi : i ≠ c.completed) :
    Pos { c with completed := c.completed + 1, pending := c.pending - 1 } i st ∨
    (i = c.completed + 1 ∧ st = .notAdded) := by
  rcases Nat.lt_or_gt_of_ne hi with hlt | hgt
  · exact Or.inl (.below (Nat.lt_succ_of_lt hlt) (h.1 hlt))
  · by_cases e : i = c.completed + 1
    · exact Or.inr ⟨e, h.2.1 hgt⟩
    · refine Or.inl ⟨fun h' => ?_, fun _ => h.2.1 hgt, fun h' => ?_⟩ <;> simp only at h' <;> omega

/-- first half: the member at position `completed` is in its completion callback (descriptor `x1`) -/
theorem CI.complete {m : Nat} {tp x1 : Tp} (h : CI l c) (hnd : c.members.Nodup)
    (hk : c.members[c.completed]? = some m) (htp : l[m]? = some tp) (hnn : tp.st ≠ .notAdded)
    (hx1 : (x1.st = .inCb ∨ x1.st = .inCbN) ∧ x1.addAt = tp.addAt ∧ x1.early = tp.early ∧
      (x1.cbAt = tp.cbAt ∨ tp.cbAt = 0)) :
    CIw (l.set m x1) { c with completed := c.completed + 1, pending := c.pending - 1 } := by
  have ⟨hearly, hp⟩ := h.get hk htp
  have hpend := (hp.2.2 rfl).2.2 hnn
  have hlt := lt_of_getElem? hk
  refine ⟨Nat.succ_le_of_lt hlt, ?_, fun e => ?_, Stamps.set h.stamps hnd htp fun _ => ⟨hx1.2.2.2, Or.inl hx1.2.1⟩⟩
  · intro i mm hmm
    rw [getElem?_set_of_getElem? htp]
    by_cases e : mm = m
    · subst e; rw [if_pos rfl]
      cases nodup_get_inj hnd hmm hk
      exact ⟨x1, rfl, hx1.2.2.1.trans hearly, Or.inl (.below (Nat.lt_succ_self _) (hx1.1.imp_right Or.inl))⟩
    · rw [if_neg (Ne.symm e)]
      obtain ⟨z, hz, ze, zp⟩ := h.mem i mm hmm
      exact ⟨z, hz, ze, Pos.adv zp fun e' => e (Option.some.inj ((e' ▸ hmm).symm.trans hk))⟩
  · simp only at e ⊢; omega

/-- second half, and the startup hook: `add_taskpool` of the member at position `completed` -/
theorem CIw.enable {nx : Nat} {tn x2 : Tp} {pd : Int} (h : CIw l c) (hnd : c.members.Nodup)
    (hnx : c.members[c.completed]? = some nx) (htn : l[nx]? = some tn)
    (hx2 : x2.st = .adding ∧ x2.addAt = tn.addAt ∧ x2.cbAt = tn.cbAt ∧ x2.early = tn.early)
    (hpd : pd = (c.members.length : Int) - c.completed) : CI (l.set nx x2) { c with pending := pd } := by
  refine ⟨h.le, ?_, fun e => ?_, h.stamps.set hnd htn fun _ => ⟨Or.inl hx2.2.2.1, Or.inl hx2.2.1⟩⟩
  · intro i mm hmm
    rw [getElem?_set_of_getElem? htn]
    obtain ⟨z, hz, ze, zp⟩ := h.mem i mm hmm
    by_cases e : mm = nx
    · subst e; rw [if_pos rfl]
      cases nodup_get_inj hnd hmm hnx
      rw [htn] at hz; cases hz
      exact ⟨x2, rfl, hx2.2.2.2.trans ze, Pos.cur (c := { c with pending := pd }) hpd (Or.inl hx2.1)⟩
    · rw [if_neg (Ne.symm e)]
      have hik : i ≠ c.completed := fun e' => e (Option.some.inj ((e' ▸ hmm).symm.trans hnx))
      rcases zp with zp | ⟨e', _⟩
      · exact ⟨z, hz, ze, zp.1, zp.2.1, fun e' => absurd e' hik⟩
      · exact absurd e' hik
  · have := lt_of_getElem? hnx
    simp only at e; omega

theorem mem_allMembers {i m : Nat} (hc : comps[i]? = some c) (hm : m ∈ c.members) :
    m ∈ allMembers comps :=
  List.mem_flatMap.2 ⟨c, List.mem_of_getElem? hc, hm⟩

theorem mem_allSelfs {i : Nat} (hc : comps[i]? = some c) : c.self ∈ allSelfs comps :=
  List.mem_map.2 ⟨c, List.mem_of_getElem? hc, rfl⟩

theorem nodup_members (hn : (allMembers comps).Nodup) {i : Nat} (hc : comps[i]? = some c) :
    c.members.Nodup :=
  (List.pairwise_flatMap.1 hn).1 c (List.mem_of_getElem? hc)

theorem members_disjoint (hn : (allMembers comps).Nodup) {i j m : Nat} {c c' : Comp}
    (hc : comps[i]? = some c) (hc' : comps[j]? = some c') (hij : i ≠ j) (hm : m ∈ c.members) : m ∉ c'.members := by
  have hp := List.pairwise_iff_getElem.1 (List.pairwise_flatMap.1 hn).2
  obtain ⟨hi, rfl⟩ := List.getElem?_eq_some_iff.1 hc
  obtain ⟨hj, rfl⟩ := List.getElem?_eq_some_iff.1 hc'
  intro hm'
  rcases Nat.lt_or_gt_of_ne hij with h | h
  · exact hp i j hi hj h m hm m hm' rfl
  · exact hp j i hj hi h m hm' m hm rfl

theorem self_ne_of_ne (hn : (allSelfs comps).Nodup) {i j : Nat} {c c' : Comp}
    (hc : comps[i]? = some c) (hc' : comps[j]? = some c') (hij : i ≠ j) : c.self ≠ c'.self := fun e =>
  hij (nodup_get_inj hn (by rw [allSelfs, List.getElem?_map, hc]; rfl)
    (by rw [allSelfs, List.getElem?_map, hc']; exact congrArg some e.symm))

theorem take_lt_of_nodup {l : List Nat} (hnd : l.Nodup) {k i p : Nat} (h : p ∈ l.take k) (hi : l[i]? = some p) : i < k := by
  obtain ⟨j, hj, hget⟩ := List.mem_take_iff_getElem.1 h
  have hj' : l[j]? = some p := by rw [← hget]; exact List.getElem?_eq_getElem (by omega)
  have := nodup_get_inj hnd hi hj'
  omega

/-- the states of a compound object: it has a detector (never `early`) and its termination is detected nested in the
    callback of its last member (never `inCb`) -/
def SelfSt (st : TpSt) : Prop := st = .notAdded ∨ st = .adding ∨ st = .added ∨ st = .inCbN ∨ st = .done

/-- how a transition that is not part of the protocol of the compound may move the descriptor of the compound object -/
structure SelfRel (ts ts' : Tp) : Prop where
  total : ts'.total = 0
  early : ts'.early = false
  pend : ts'.pend = ts.pend
  cbAt : ts'.cbAt = ts.cbAt
  cbs : ts'.cbs = ts.cbs
  st : SelfSt ts'.st
  addAt : ts'.addAt = ts.addAt ∨ (ts.st = .adding ∧ ts'.st = .added)
  move : (ts'.st = ts.st ∧ (ts'.ready = ts.ready ∨ ts'.ready = true)) ∨ (ts.st = .notAdded ∧ ts'.st = .adding) ∨
    (ts.st = .adding ∧ ts'.st = .added) ∨ (ts.st = .inCbN ∧ ts'.st = .done)

/-- the compound object: armed and added while some member remains, in or past its (nested) callback once all
    members completed; its callback stamp is later than that of the last member, and it was added before any of its
    members -/
structure CS (l : List Tp) (c : Comp) : Prop where
  ne : 1 ≤ c.members.length
  ex : ∃ ts : Tp, l[c.self]? = some ts ∧ ts.total = 0 ∧ ts.early = false ∧ SelfSt ts.st ∧ (ts.pend : Int) = c.pending ∧
      (0 < c.pending → ts.st = .added ∧ ts.ready = true) ∧
      (c.completed = c.members.length → ts.st = .inCbN ∨ ts.st = .done) ∧
      (c.completed < c.members.length → ts.cbAt = 0 ∧ ts.cbs = 0) ∧
      (ts.cbAt ≠ 0 → ∀ (ml : Nat) (tl : Tp), c.members[c.members.length - 1]? = some ml → l[ml]? = some tl →
          tl.cbAt ≠ 0 ∧ tl.cbAt < ts.cbAt) ∧
      (∀ (m : Nat) (tm : Tp), m ∈ c.members → l[m]? = some tm → tm.addAt ≠ 0 → ts.addAt ≠ 0 ∧ ts.addAt < tm.addAt)

/-- the clauses of `CS.ex` about the descriptor `ts` of the object, by name -/
structure CSOf (l : List Tp) (c : Comp) (ts : Tp) : Prop where
  total : ts.total = 0
  early : ts.early = false
  st : SelfSt ts.st
  pend : (ts.pend : Int) = c.pending
  armed : 0 < c.pending → ts.st = .added ∧ ts.ready = true
  fin : c.completed = c.members.length → ts.st = .inCbN ∨ ts.st = .done
  nocb : c.completed < c.members.length → ts.cbAt = 0 ∧ ts.cbs = 0
  last : ∀ {ml : Nat} {tl : Tp}, c.members[c.members.length - 1]? = some ml → l[ml]? = some tl → Bef tl.cbAt ts.cbAt
  add : ∀ {m : Nat} {tm : Tp}, m ∈ c.members → l[m]? = some tm → Bef ts.addAt tm.addAt

theorem CS.get (h : CS l c) {ts : Tp} (hts : l[c.self]? = some ts) : CSOf l c ts := by
  obtain ⟨a0, ae, ass, ap, a1, a2, a3, a4, a5⟩ := of_get hts h.ex
  exact ⟨a0, ae, ass, ap, a1, a2, a3, fun hml htl hcb => a4 hcb _ _ hml htl, a5 _ _⟩

structure GI (cs : CSt) : Prop where
  inv : Inv cs.base
  sinv : SInv cs.base
  nodup : (allMembers cs.comps).Nodup
  snodup : (allSelfs cs.comps).Nodup
  sown : ∀ c ∈ cs.comps, c.self ∉ c.members
  ci : ∀ (i : Nat) (c : Comp), cs.comps[i]? = some c → CI cs.base.tps c
  cself : ∀ (i : Nat) (c : Comp), cs.comps[i]? = some c → CS cs.base.tps c

theorem member_cb_lt_self {cs : CSt} (hg : GI cs) {ci : Nat} {c : Comp} (hc : cs.comps[ci]? = some c)
    {ts tm : Tp} {i m : Nat} (hts : cs.base.tps[c.self]? = some ts) (hi : c.members[i]? = some m)
    (htm : cs.base.tps[m]? = some tm) : Bef tm.cbAt ts.cbAt := fun hcb => by
  have hci := hg.ci ci c hc
  have a := (hg.cself ci c hc).get hts
  have hil := lt_of_getElem? hi
  -- the last member ran its callback before the compound; the others before the last was added
  rcases Nat.lt_or_eq_of_le (Nat.le_sub_one_of_lt hil) with hlt | rfl
  · have hl := List.getElem?_eq_getElem (Nat.sub_one_lt_of_lt hil)
    obtain ⟨tl, htl, hel, _⟩ := hci.mem _ _ hl
    exact ((chain hci hg.sinv.tpok hlt hi hl htm htl).trans
      (tpOK_add_cb (hg.sinv.tpok tl (List.mem_of_getElem? htl)) hel)).trans (a.last hl htl) hcb
  · exact a.last hi htm hcb

theorem cs_set {clk p : Nat} {tp x : Tp} (h : CS l c) (hS : ∀ tp ∈ l, tpOK clk tp)
    (htp : l[p]? = some tp) (hself : c.self = p → SelfRel tp x)
    (hx : p ∈ c.members → MemStamps clk c tp x) : CS (l.set p x) c := by
  obtain ⟨ts, hts, _⟩ := h.ex
  have a := h.get hts
  obtain ⟨ts', hts', r⟩ : ∃ ts' : Tp, (l.set p x)[c.self]? = some ts' ∧ SelfRel ts ts' := by
    rw [getElem?_set_of_getElem? htp]
    by_cases e : c.self = p
    · cases htp.symm.trans (e ▸ hts)
      exact ⟨x, if_pos e.symm, hself e⟩
    · exact ⟨ts, (if_neg (Ne.symm e)).trans hts, a.total, a.early, rfl, rfl, rfl, a.st, Or.inl rfl,
        Or.inl ⟨rfl, Or.inl rfl⟩⟩
  refine ⟨h.ne, ts', hts', r.total, r.early, r.st, by rw [r.pend]; exact a.pend, ?_, ?_, ?_, ?_, ?_⟩
  · intro hpos
    obtain ⟨a1, a2⟩ := a.armed hpos
    rcases r.move with ⟨e1, e2⟩ | ⟨e1, _⟩ | ⟨e1, _⟩ | ⟨e1, _⟩
    · exact ⟨e1.trans a1, e2.elim (fun e => e.trans a2) id⟩
    all_goals simp [a1] at e1
  · intro hc
    rcases r.move with ⟨e1, _⟩ | ⟨e1, _⟩ | ⟨e1, _⟩ | ⟨_, e2⟩
    · rw [e1]; exact a.fin hc
    · rcases a.fin hc with b | b <;> simp [b] at e1
    · rcases a.fin hc with b | b <;> simp [b] at e1
    · exact Or.inr e2
  · intro hc; rw [r.cbAt, r.cbs]; exact a.nocb hc
  · intro hcb ml tl hml htl
    rw [r.cbAt] at hcb ⊢
    rcases Interleave.getElem?_set_cases htl with ⟨rfl, rfl⟩ | ⟨_, htl⟩
    · exact Bef.left (a.last hml htp) (hx (List.mem_of_getElem? hml)).1 hcb
    · exact a.last hml htl hcb
  · intro m tm hm htm
    -- a member that keeps its add stamp: the object may get its own only now, no member has one then
    have keep : ∀ t : Tp, l[m]? = some t → Bef ts'.addAt t.addAt := fun t ht =>
      Bef.left (a.add hm ht) (r.addAt.imp_right fun e => tpOK_notAdded (hS ts (List.mem_of_getElem? hts)) (Or.inr e.1))
    rcases Interleave.getElem?_set_cases htm with ⟨rfl, rfl⟩ | ⟨_, htm⟩
    · rcases (hx hm).2 with ea | ⟨_, hpos, ea⟩
      · rw [ea]; exact keep tp htp
      · -- the member is being incremented now: the object is added (and armed)
        intro _
        obtain ⟨sa, _⟩ := a.armed hpos
        have hok := hS ts (List.mem_of_getElem? hts)
        rcases r.addAt with e | ⟨e, _⟩
        · rw [e, ea]; exact ⟨(tpOK_added hok sa).1, hok.1⟩
        · simp [sa] at e
    · exact keep tm htm

/-- A transition of the context machine harmless for compound `c`; `nestDec`: it decrements for a nested member only
    after `c` was notified.  The moves that `ctxAllowed` admits are of this kind, and so are those that make up the
    transitions of another compound. -/
def Foreign (c : Comp) (s : St) : Tr → Prop
  | .detect _ p => p ∉ c.members ∧ p ≠ c.self
  | .addCall _ p | .startupAdd _ p => p ∉ c.members
  | .actionDone _ q | .insert _ q => q ≠ c.self
  | .startupReady t _ => s.subs[t]? ≠ some (.startup c.self)
  | .nestDec t => ∀ q rest, s.nests[t]? = some (q :: rest) → ∀ i, c.members[i]? = some q → i < c.completed
  | _ => True

theorem SelfRel.of_upd {s : St} {tr : Tr} {ts ts' : Tp} {d : Loc} (hI : Inv s) (hcs : CS s.tps c)
    (hts : s.tps[c.self]? = some ts) (hu : Upd s tr c.self ts ts' d) (hf : Foreign c s tr) : SelfRel ts ts' := by
  have a := hcs.get hts
  have hst := a.st
  cases hu with
  | taskBegin | taskEnd => exact ⟨a.total, a.early, rfl, rfl, rfl, hst, Or.inl rfl, Or.inl ⟨rfl, Or.inl rfl⟩⟩
  | arm => exact ⟨a.total, a.early, rfl, rfl, rfl, hst, Or.inl rfl, Or.inl ⟨rfl, Or.inr rfl⟩⟩
  | detect => exact absurd rfl hf.2
  | insert | actionLast | actionDone => exact absurd rfl hf
  | startupReady h => exact absurd h hf
  -- the object is never in a state of a taskpool with a direct or an early callback
  | earlyCb _ h => rw [a.early] at h; cases h.2
  | dec hb => simp [SelfSt, (of_get hts (hI.cbFwd _ _ hb)).1] at hst
  | earlyDec _ h | addIncEarly _ h => simp [SelfSt, h] at hst
  | addCall h =>
    exact ⟨a.total, a.early, rfl, rfl, rfl, Or.inr (Or.inl rfl), Or.inl rfl, Or.inr (Or.inl ⟨h.2, rfl⟩)⟩
  | startupAdd _ h =>
    exact ⟨a.total, a.early, rfl, rfl, rfl, Or.inr (Or.inl rfl), Or.inl rfl, Or.inr (Or.inl ⟨h, rfl⟩)⟩
  | addInc _ h =>
    exact ⟨a.total, a.early, rfl, rfl, rfl, Or.inr (Or.inr (Or.inl rfl)), Or.inr ⟨h.1, rfl⟩,
      Or.inr (Or.inr (Or.inl ⟨h.1, rfl⟩))⟩
  | nestDec _ hn =>
    exact ⟨a.total, a.early, rfl, rfl, rfl, Or.inr (Or.inr (Or.inr (Or.inr rfl))), Or.inl rfl,
      Or.inr (Or.inr (Or.inr ⟨(of_get hts (hI.nFwd _ _ _ hn List.mem_cons_self)).1, rfl⟩))⟩

theorem cics_step {s s' : St} {tr : Tr} (hI : Inv s) (hS : SInv s) (hs : step? s tr = some s')
    (hci : CI s.tps c) (hcs : CS s.tps c) (hnd : c.members.Nodup) (hf : Foreign c s tr) :
    CI s'.tps c ∧ CS s'.tps c := by
  rcases (step?_tps hs).2 with ⟨_, e⟩ | ⟨p, tp, x, _, htp, hu, hset⟩
  · exact ⟨e ▸ hci, e ▸ hcs⟩
  -- what the write means for a member of `c`: the hypotheses of `ci_set` and `cs_set`
  have key : p ∈ c.members → (∀ i, c.members[i]? = some p → StRel c i tp.st x.st) ∧ MemStamps s.clock c tp x := by
    intro hm
    obtain ⟨i, hi⟩ := List.mem_iff_getElem?.1 hm
    obtain ⟨hne, hpos⟩ := hci.get hi htp
    have hok := hS.tpok tp (List.mem_of_getElem? htp)
    cases hu with
    | taskBegin | taskEnd | arm | insert | startupReady | actionDone =>
      exact ⟨fun _ _ => .same, Or.inl rfl, Or.inl rfl⟩
    | detect => exact absurd hm hf.1
    | addCall | startupAdd => exact absurd hm hf
    | earlyCb _ h => rw [hne] at h; cases h.2
    | earlyDec _ h => rw [tpOK_early hok (Or.inl h)] at hne; cases hne
    | addIncEarly _ h => rw [tpOK_early hok (Or.inr h)] at hne; cases hne
    | dec hb => exact ⟨fun _ _ => (of_get htp (hI.cbFwd _ _ hb)).1 ▸ .dec, Or.inl rfl, Or.inl rfl⟩
    | addInc _ h =>
      -- a member being added is the one at `completed`, and some remain
      have := hpos.eq (Or.inl h.1)
      have := lt_of_getElem? hi
      exact ⟨fun _ _ => h.1 ▸ .inc, Or.inl rfl, Or.inr ⟨h.1, by omega, rfl⟩⟩
    | actionLast _ _ h => exact ⟨fun _ _ => h.1 ▸ .nest, Or.inr (tpOK_added hok h.1).2, Or.inl rfl⟩
    | nestDec _ hn =>
      exact ⟨fun i hi => (of_get htp (hI.nFwd _ _ _ hn List.mem_cons_self)).1 ▸ .decN (hf p _ hn i hi), Or.inl rfl,
        Or.inl rfl⟩
  exact hset ▸ ⟨ci_set hci hS.tpok hnd htp hu.early (fun i hi => (key (List.mem_of_getElem? hi)).1 i hi)
    fun hm => (key hm).2, cs_set hcs hS.tpok htp (fun e => by subst e; exact .of_upd hI hcs htp hu hf)
    fun hm => (key hm).2⟩

theorem gi_ctx {cs : CSt} {tr : Tr} {s' : St} (h : GI cs) (ha : ctxAllowed cs tr = true) (hs : step? cs.base tr = some s') :
    GI { cs with base := s' } := by
  have key : ∀ (i : Nat) (c : Comp), cs.comps[i]? = some c → CI s'.tps c ∧ CS s'.tps c := by
    intro i c hc
    refine cics_step h.inv h.sinv hs (h.ci i c hc) (h.cself i c hc) (nodup_members h.nodup hc) ?_
    cases tr with
    | detect t p =>
      simp [ctxAllowed] at ha
      exact ⟨fun hm => ha.1 (mem_allMembers hc hm), fun e => ha.2 (e ▸ mem_allSelfs hc)⟩
    | addCall t p =>
      simp [ctxAllowed] at ha
      exact fun hm => ha (mem_allMembers hc hm)
    | insert t p =>
      simp [ctxAllowed] at ha
      exact fun e => ha (e ▸ mem_allSelfs hc)
    | startupAdd | startupReady | actionDone => simp [ctxAllowed] at ha
    | nestDec t =>
      intro q rest hn i' hi'
      simp [ctxAllowed, hn] at ha
      exact (ha c (List.mem_of_getElem? hc)).elim (fun hno => absurd (List.mem_of_getElem? hi') hno) fun hin =>
        take_lt_of_nodup (nodup_members h.nodup hc) hin hi'
    | _ => trivial
  exact ⟨inv_step h.inv hs, sinv_step h.inv h.sinv hs, h.nodup, h.snodup, h.sown, fun i c hc => (key i c hc).1,
    fun i c hc => (key i c hc).2⟩

end ParsecVerif.Compound
