import ParsecVerif.Model.Dist
/-! Arithmetic behind C20: one dimension of the block-cyclic layout (`loc1` numbers the indices a grid coordinate owns,
    `glob1` is its inverse, `nbElem` their count); sums over a residue class (`isum`), the closed form of every loop of the
    symmetric distribution; the round of the k-cyclic view, a permutation with finite orbits, and the cycle walk over it. -/
namespace ParsecVerif.Dist

theorem pair_lt (P Q rr cr : Nat) (hrr : rr < P) (hcr : cr < Q) : rr * Q + cr < P * Q :=
  Nat.lt_of_lt_of_le (Nat.add_lt_add_left hcr _) (Nat.succ_mul rr Q ▸ Nat.mul_le_mul_right Q hrr)

theorem div_mod_of_lt {B x : Nat} (q : Nat) (h : x < B) : (q * B + x) / B = q ∧ (q * B + x) % B = x := by
  rw [Nat.div_mod_unique (by omega)]
  exact ⟨by rw [Nat.mul_comm, Nat.add_comm], h⟩

/-- `BC.position` is `nbR * localN + localM`: `pos_inj` and `pos_lt` are the two facts above with the products written
    that way round -/
theorem pos_inj (R a b a' b' : Nat) (ha : a < R) (ha' : a' < R) (h : R * b + a = R * b' + a') :
    a = a' ∧ b = b' := by
  have h1 := div_mod_of_lt b ha
  have h2 := div_mod_of_lt b' ha'
  rw [Nat.mul_comm, h, Nat.mul_comm] at h1
  exact ⟨h1.2.symm.trans h2.2, h1.1.symm.trans h2.1⟩

theorem pos_lt (R C a b : Nat) (ha : a < R) (hb : b < C) : R * b + a < R * C :=
  Nat.mul_comm C R ▸ Nat.mul_comm b R ▸ pair_lt C R b a hb ha

theorem rank_split {Q rank rr cr : Nat} (hcr : cr < Q) :
    rr * Q + cr = rank ↔ rank / Q = rr ∧ rank % Q = cr :=
  ⟨fun h => h ▸ div_mod_of_lt rr hcr, fun ⟨h1, h2⟩ => h1 ▸ h2 ▸ Nat.div_add_mod' rank Q⟩

theorem rank_div_lt {P Q rank : Nat} (h : rank < P * Q) : rank / Q < P :=
  Nat.div_lt_of_lt_mul (Nat.mul_comm P Q ▸ h)

theorem a_lt (k P g : Nat) (hk : 0 < k) (hP : 0 < P) : (g % (k * P)) / k < P :=
  Nat.div_lt_of_lt_mul (Nat.mod_lt _ (Nat.mul_pos hk hP))

theorem g_eq (k P g : Nat) :
    g = (g / (k * P)) * (k * P) + ((g % (k * P)) / k) * k + (g % (k * P)) % k := by
  rw [Nat.add_assoc, Nat.div_add_mod', Nat.div_add_mod']

theorem loc1_div (k P g : Nat) (hk : 0 < k) :
    loc1 k P g / k = g / (k * P) ∧ loc1 k P g % k = (g % (k * P)) % k :=
  div_mod_of_lt _ (Nat.mod_lt _ hk)

theorem glob1_loc1 (k P r g : Nat) (hk : 0 < k) (h : mine1 k P r g) :
    glob1 k P r (loc1 k P g) = g := by
  unfold glob1
  rw [(loc1_div k P g hk).1, (loc1_div k P g hk).2, Nat.add_comm (r * k)]
  exact h ▸ (g_eq k P g).symm

theorem loc1_inj {k P r g g' : Nat} (hk : 0 < k) (h : mine1 k P r g) (h' : mine1 k P r g')
    (e : loc1 k P g = loc1 k P g') : g = g' := by
  rw [← glob1_loc1 k P r g hk h, e, glob1_loc1 k P r g' hk h']

theorem mine1_iff (k P r g : Nat) : mine1 k P r g ↔ (g / k) % P = r := by
  unfold mine1
  rw [Nat.mod_mul_right_div_self]

theorem glob1_div (k P r l : Nat) (hk : 0 < k) (hr : r < P) :
    glob1 k P r l / (k * P) = l / k ∧ glob1 k P r l % (k * P) = r * k + l % k := by
  have hlt : r * k + l % k < k * P := Nat.mul_comm P k ▸ pair_lt P k r _ hr (Nat.mod_lt _ hk)
  unfold glob1
  rw [Nat.add_right_comm, Nat.add_comm (r * k + l % k)]
  exact div_mod_of_lt _ hlt

theorem glob1_mine (k P r l : Nat) (hk : 0 < k) (hr : r < P) :
    mine1 k P r (glob1 k P r l) := by
  unfold mine1
  rw [(glob1_div k P r l hk hr).2]
  exact (div_mod_of_lt r (Nat.mod_lt l hk)).1

theorem loc1_glob1 (k P r l : Nat) (hk : 0 < k) (hr : r < P) :
    loc1 k P (glob1 k P r l) = l := by
  unfold loc1
  rw [(glob1_div k P r l hk hr).1, (glob1_div k P r l hk hr).2, (div_mod_of_lt r (Nat.mod_lt l hk)).2]
  exact Nat.div_add_mod' l k

/-- local index `l` is round `l / k`, offset `l % k`; on the right is the global index it stands for -/
theorem cntLoop_iff (k step L : Nat) (hk : 0 < k) (hstep : k ≤ step) :
    ∀ (f temp l : Nat), L < temp + f → (l < cntLoop k step L f temp ↔ temp + (l / k) * step + l % k < L) := by
  intro f
  induction f with
  | zero => intro temp l hf; unfold cntLoop; omega
  | succ f ih =>
    intro temp l hf
    unfold cntLoop
    by_cases hl : l < k
    · rw [Nat.div_eq_of_lt hl, Nat.mod_eq_of_lt hl, Nat.zero_mul]
      split
      · split <;> omega
      · omega
    · -- a later round: one round fewer on `l - k`, starting one step further
      have := ih (temp + step) (l - k) (by omega)
      rw [Nat.div_eq_sub_div hk (Nat.le_of_not_lt hl), Nat.mod_eq_sub_mod (Nat.le_of_not_lt hl), Nat.succ_mul]
      split
      · split <;> omega
      · omega

theorem lt_nbElem_iff (k P L r l : Nat) (hk : 0 < k) (hP : 0 < P) : l < nbElem k P L r ↔ glob1 k P r l < L := by
  unfold nbElem glob1
  rw [cntLoop_iff k (P * k) L hk (Nat.le_mul_of_pos_left k hP) (L + 1) (r * k) l (by omega), Nat.mul_comm k P]

theorem loc1_lt_nbElem {k P L r g : Nat} (hk : 0 < k) (hP : 0 < P)
    (hmine : mine1 k P r g) (hg : g < L) : loc1 k P g < nbElem k P L r := by
  rw [lt_nbElem_iff k P L r _ hk hP, glob1_loc1 k P r g hk hmine]
  exact hg

theorem loc1_onto {k P L r l : Nat} (hk : 0 < k) (hr : r < P) (h : l < nbElem k P L r) :
    ∃ g, g < L ∧ mine1 k P r g ∧ loc1 k P g = l :=
  ⟨_, (lt_nbElem_iff k P L r l hk (Nat.zero_lt_of_lt hr)).mp h, glob1_mine k P r l hk hr, loc1_glob1 k P r l hk hr⟩

theorem mod_round_trip {P x j : Nat} (hx : x < P) (hj : j ≤ P) : ((x + j) % P + (P - j)) % P = x := by
  rw [Nat.mod_add_mod, Nat.add_assoc, Nat.add_sub_cancel' hj, Nat.add_mod_right, Nat.mod_eq_of_lt hx]

theorem own1_lt {k P ip g : Nat} (hP : 0 < P) : own1 k P ip g < P := Nat.mod_lt _ hP

/-- the grid offset `ip` shifts the owners cyclically; `(pr + (P - ip)) % P` is the form of `Grid.rrank`, `Grid.crank` -/
theorem own1_eq_iff {k P ip g pr : Nat} (hip : ip < P) (hpr : pr < P) :
    own1 k P ip g = pr ↔ mine1 k P ((pr + (P - ip)) % P) g := by
  rw [mine1_iff]
  unfold own1
  constructor
  · rintro rfl
    exact (mod_round_trip (Nat.mod_lt _ (Nat.zero_lt_of_lt hip)) (Nat.le_of_lt hip)).symm
  · intro h
    have := mod_round_trip (j := P - ip) hpr (Nat.sub_le ..)
    rwa [Nat.sub_sub_self (Nat.le_of_lt hip), ← h] at this

/-! Each accessor of `BC` tests `b.plain` (`kp = kq = 1`) and takes the plain or the k-cyclic formula.  Under `b.plain` the
    two agree, so the accessor equals its k-cyclic formula outright (`ite_plain`), and the theorems on `BC` are proved on
    `own1`, `loc1`, `mine1` alone. -/

theorem own1_one (P ip g : Nat) : own1 1 P ip g = own1p P ip g := by
  unfold own1 own1p; rw [Nat.div_one]

theorem loc1_one (P g : Nat) : loc1 1 P g = loc1p P g := by
  unfold loc1 loc1p; rw [Nat.one_mul, Nat.mul_one, Nat.mod_one, Nat.add_zero]

theorem mine1_one (P r g : Nat) : mine1 1 P r g ↔ mine1p P r g := by
  unfold mine1 mine1p; rw [Nat.one_mul, Nat.div_one]

namespace BC
theorem ite_plain {α : Type} (b : BC) {x y : α} (h : b.plain → x = y) : (if b.plain then x else y) = y := by
  split
  · exact h ‹_›
  · rfl
theorem rowOwner_eq (b : BC) (m : Nat) : b.rowOwner m = own1 b.g.kp b.g.P b.g.ip (b.gm m) :=
  b.ite_plain fun h => by rw [h.1, own1_one]
theorem colOwner_eq (b : BC) (n : Nat) : b.colOwner n = own1 b.g.kq b.g.Q b.g.jq (b.gn n) :=
  b.ite_plain fun h => by rw [h.2, own1_one]
theorem localM_eq (b : BC) (m : Nat) : b.localM m = loc1 b.g.kp b.g.P (b.gm m) :=
  b.ite_plain fun h => by rw [h.1, loc1_one]
theorem localN_eq (b : BC) (n : Nat) : b.localN n = loc1 b.g.kq b.g.Q (b.gn n) :=
  b.ite_plain fun h => by rw [h.2, loc1_one]
theorem isLocal_iff (b : BC) (rank m n : Nat) :
    b.isLocal rank m n ↔ mine1 b.g.kp b.g.P (b.g.rrank rank) (b.gm m) ∧ mine1 b.g.kq b.g.Q (b.g.crank rank) (b.gn n) := by
  unfold isLocal; split
  · rename_i h; rw [h.1, h.2, mine1_one, mine1_one]
  · exact Iff.rfl

/-- the init zeroes `nb_elem_c` when `nb_elem_r` is `0` and the other way round: the product is the same -/
theorem nbLocal_eq (b : BC) (rank : Nat) : b.nbLocal rank = b.nbR0 rank * b.nbC0 rank := by
  unfold nbLocal nbR nbC
  by_cases h0 : b.nbR0 rank = 0
  · rw [if_pos h0, if_pos rfl, h0, Nat.zero_mul, Nat.zero_mul]
  · rw [if_neg h0]
    split
    · rename_i h; rw [h, Nat.mul_zero, Nat.mul_zero]
    · rfl

theorem nbR_eq (b : BC) (rank : Nat) (h : 0 < b.nbC0 rank) : b.nbR rank = b.nbR0 rank := by
  unfold nbR nbC
  by_cases h0 : b.nbR0 rank = 0
  · rw [if_pos h0, if_pos rfl, h0]
  · rw [if_neg h0, if_neg (Nat.ne_of_gt h)]
end BC

theorem lt_ceilDiv (x lm mb : Nat) (h : x < lm) : x / mb < ceilDiv lm mb := by
  unfold ceilDiv
  split
  · rename_i h0
    exact Nat.div_lt_of_lt_mul ((Nat.mul_div_cancel' (Nat.dvd_of_mod_eq_zero h0)).symm ▸ h)
  · exact Nat.lt_succ_of_le (Nat.div_le_div_right (Nat.le_of_lt h))

theorem win_lt {mb i m lm x : Nat} (hm : 0 < m) (him : i + m ≤ lm)
    (hx : x < (i + m - 1) / mb - i / mb + 1) : x + i / mb < ceilDiv lm mb :=
  Nat.lt_of_le_of_lt (Nat.add_le_of_le_sub (Nat.div_le_div_right (by omega)) (Nat.le_of_lt_succ hx))
    (lt_ceilDiv _ lm mb (by omega))

namespace TM
/-- what the theorems assume of the arguments of `parsec_tiled_matrix_init`, as the `@param` lines of the header describe
    them; the C code checks none of it -/
structure WF (t : TM) : Prop where
  mb : 0 < t.mb
  nb : 0 < t.nb
  m : 0 < t.m
  n : 0 < t.n
  im : t.i + t.m ≤ t.lm
  jn : t.j + t.n ≤ t.ln

theorem gm_lt (t : TM) (h : t.WF) (m : Nat) (hm : m < t.mt) : m + t.oi < t.lmt :=
  win_lt h.m h.im hm

theorem gn_lt (t : TM) (h : t.WF) (n : Nat) (hn : n < t.nt) : n + t.oj < t.lnt :=
  win_lt h.n h.jn hn

theorem key_div (t : TM) (m n : Nat) (h : m + t.oi < t.lmt) :
    t.key m n / t.lmt = n + t.oj ∧ t.key m n % t.lmt = m + t.oi :=
  div_mod_of_lt _ h
end TM

theorem csqrtLoop_le (n : Nat) : ∀ (f q : Nat), q ≤ n → csqrtLoop n f q ≤ n := by
  intro f
  induction f with
  | zero => intro q hq; exact hq
  | succ f ih =>
    intro q hq
    unfold csqrtLoop
    split
    · exact hq
    · rename_i hlt
      exact ih (q + 1) (Nat.lt_of_le_of_ne hq (by rintro rfl; exact hlt (Nat.le_mul_self q)))

theorem vpqLoop_spec (pq : Nat) :
    ∀ (f q : Nat), q ≤ pq → pq < q + f → (pq / vpqLoop pq f q) * vpqLoop pq f q = pq := by
  intro f
  induction f with
  | zero => intro q h2 h3; omega
  | succ f ih =>
    intro q h2 h3
    unfold vpqLoop
    split
    · rename_i h; exact h
    · rename_i h
      have hq : q < pq := Nat.lt_of_le_of_ne h2 (by rintro rfl; exact h (Nat.div_mul_cancel (Nat.dvd_refl q)))
      exact ih (q + 1) hq (by omega)

theorem vpP_mul_vpQ (pq : Nat) (h : 1 ≤ pq) : vpP pq * vpQ pq = pq ∧ 1 ≤ vpQ pq := by
  have e : vpP pq * vpQ pq = pq :=
    vpqLoop_spec pq (pq + 1) (csqrt pq) (csqrtLoop_le pq (pq + 1) 0 (Nat.zero_le pq)) (by omega)
  exact ⟨e, Nat.pos_of_mul_pos_left (e ▸ h)⟩

theorem vpidOf_lt (nbvp lm ln : Nat) (h : 1 ≤ nbvp) : vpidOf nbvp lm ln < nbvp := by
  unfold vpidOf
  split
  · omega
  · have hpq := vpP_mul_vpQ nbvp h
    have hp : 0 < vpP nbvp := Nat.pos_of_mul_pos_right (hpq.1.symm ▸ h)
    exact Nat.lt_of_lt_of_eq (pair_lt _ _ _ _ (Nat.mod_lt _ hpq.2) (Nat.mod_lt _ hp))
      ((Nat.mul_comm ..).trans hpq.1)

theorem dvd_sub_of_mod_eq {M a c : Nat} (h : a % M = c % M) : M ∣ a - c :=
  Nat.dvd_of_mod_eq_zero (Nat.sub_mod_eq_zero_of_mod_eq h)

theorem mod_shift_ne (M x j : Nat) (h1 : 0 < j) (h2 : j < M) : (x + j) % M ≠ x % M := fun h =>
  Nat.ne_of_gt h1 (Nat.eq_zero_of_dvd_of_lt (Nat.add_sub_cancel_left x j ▸ dvd_sub_of_mod_eq h) h2)

/-- of the two truncated differences one is `0`; asking for both spares every user the case split on the order -/
theorem eq_of_dvd_sub {M a c : Nat} (d : M ∣ a - c) (d' : M ∣ c - a) (e : a / M = c / M) : a = c := by
  have key : ∀ {a c : Nat}, c ≤ a → M ∣ a - c → a % M = c % M := by
    intro a c hca ⟨k, hk⟩
    rw [← Nat.sub_add_cancel hca, hk, Nat.mul_add_mod]
  rcases Nat.le_total c a with h | h
  · exact Nat.ext_div_mod e (key h d)
  · exact (Nat.ext_div_mod e.symm (key h d')).symm

theorem col_of (Q gn c : Nat) (hc : gn % Q = c) : c + (gn / Q) * Q = gn := by
  rw [← hc]; exact Nat.mod_add_div' gn Q

theorem add_succ_mul (col t Q : Nat) : col + (t + 1) * Q = col + Q + t * Q := by
  rw [Nat.succ_mul, Nat.add_comm (t * Q), Nat.add_assoc]

/-! ### sums over a residue class: a position "earlier weights + offset below the own weight" is in range and
    determines index and offset (`isum_lt`, `isum_pos_inj`) -/

/-- `Σ_{x < X, x % M = ρ} g x` -/
def isum (M ρ : Nat) (g : Nat → Nat) : Nat → Nat
  | 0 => 0
  | X+1 => isum M ρ g X + (if X % M = ρ then g X else 0)

theorem isum_mono (M ρ : Nat) (g : Nat → Nat) {X Y : Nat} (h : X ≤ Y) : isum M ρ g X ≤ isum M ρ g Y := by
  obtain ⟨d, rfl⟩ := Nat.exists_eq_add_of_le h
  clear h
  induction d with
  | zero => exact Nat.le_refl _
  | succ d ih => exact Nat.le_trans ih (Nat.le_add_right _ _)

theorem isum_zero (M ρ : Nat) (g : Nat → Nat) (hρ : ρ < M) : ∀ X, X ≤ ρ → isum M ρ g X = 0 := by
  intro X
  induction X with
  | zero => intro _; rfl
  | succ X ih =>
    intro h
    rw [isum, ih (by omega), if_neg]
    rw [Nat.mod_eq_of_lt (by omega)]; omega

theorem isum_succ_of {M ρ : Nat} (g : Nat → Nat) {X : Nat} (h : X % M = ρ) :
    isum M ρ g (X + 1) = isum M ρ g X + g X := by
  rw [isum, if_pos h]

/-- `x` is the only member of its class in `[x, y)` -/
theorem isum_next {M ρ : Nat} (g : Nat → Nat) {x y : Nat} (hx : x % M = ρ) (hxy : x < y) (hy : y ≤ x + M) :
    isum M ρ g y = isum M ρ g x + g x := by
  obtain ⟨d, rfl⟩ := Nat.exists_eq_add_of_lt hxy
  clear hxy
  induction d with
  | zero => exact isum_succ_of g hx
  | succ d ih =>
    rw [isum, ← Nat.add_assoc, ih (by omega), if_neg, Nat.add_zero]
    rw [← hx, Nat.add_assoc]
    exact mod_shift_ne M x (d + 1) (by omega) (by omega)

/-- one round of a loop over the columns of a class -/
theorem isum_round {M ρ : Nat} (g : Nat → Nat) {x Y : Nat} (hM : 0 < M) (hx : x % M = ρ) (h : x + M ≤ Y) :
    g x + (isum M ρ g Y - isum M ρ g (x + M)) = isum M ρ g Y - isum M ρ g x := by
  have e := isum_next g hx (Nat.lt_add_of_pos_right hM) (Nat.le_refl _)
  have := isum_mono M ρ g h
  rw [e] at this ⊢
  rw [Nat.sub_add_eq, Nat.add_sub_cancel' (Nat.le_sub_of_add_le' this)]

theorem isum_lt {M ρ : Nat} (g : Nat → Nat) {x L o : Nat} (hx : x % M = ρ) (hL : x < L) (ho : o < g x) :
    isum M ρ g x + o < isum M ρ g L :=
  Nat.lt_of_lt_of_le (isum_succ_of g hx ▸ Nat.add_lt_add_left ho _) (isum_mono M ρ g hL)

theorem isum_pos_inj {M ρ : Nat} (g : Nat → Nat) {x x' o o' : Nat} (hx : x % M = ρ) (hx' : x' % M = ρ)
    (ho : o < g x) (ho' : o' < g x') (h : isum M ρ g x + o = isum M ρ g x' + o') : x = x' ∧ o = o' := by
  rcases Nat.lt_trichotomy x x' with hlt | rfl | hgt
  · have := isum_lt g hx hlt ho; omega
  · exact ⟨rfl, Nat.add_left_cancel h⟩
  · have := isum_lt g hx' hgt ho'; omega

theorem succ_divmod (P x : Nat) (hP : 0 < P) :
    (x % P + 1 = P ∧ (x + 1) / P = x / P + 1 ∧ (x + 1) % P = 0) ∨
    (x % P + 1 < P ∧ (x + 1) / P = x / P ∧ (x + 1) % P = x % P + 1) := by
  have hx := Nat.div_add_mod x P
  have hs : x % P < P := Nat.mod_lt _ hP
  by_cases h : x % P + 1 = P
  · refine .inl ⟨h, ?_⟩
    rw [Nat.div_mod_unique hP, Nat.mul_add, Nat.mul_one]
    omega
  · refine .inr ⟨by omega, ?_⟩
    rw [Nat.div_mod_unique hP]
    omega

theorem cntBelow_succ (P r x : Nat) (hr : r < P) :
    cntBelow P r (x + 1) = cntBelow P r x + (if x % P = r then 1 else 0) := by
  unfold cntBelow
  rcases succ_divmod P x (Nat.zero_lt_of_lt hr) with ⟨hc, hd, hm⟩ | ⟨hc, hd, hm⟩
  · -- the last residue of a period: the quotient takes over what the `if` counted
    rw [hd, hm, if_neg (Nat.not_lt_zero r)]
    rcases Nat.lt_or_eq_of_le (Nat.le_of_lt_succ (hc ▸ hr)) with h | h
    · rw [if_pos h, if_neg (Nat.ne_of_gt h)]
    · rw [if_neg (Nat.not_lt_of_le (Nat.le_of_eq h.symm)), if_pos h.symm]
  · rw [hd, hm]
    rcases Nat.lt_trichotomy (x % P) r with h | h | h
    · rw [if_neg (Nat.not_lt_of_le h), if_neg (Nat.not_lt_of_lt h), if_neg (Nat.ne_of_lt h)]
    · rw [if_pos (Nat.lt_succ_of_le (Nat.le_of_eq h.symm)), if_neg (Nat.not_lt_of_le (Nat.le_of_eq h)), if_pos h]
    · rw [if_pos (Nat.lt_succ_of_lt h), if_pos h, if_neg (Nat.ne_of_gt h)]

theorem isum_one (P r : Nat) (hP : 0 < P) (hr : r < P) : ∀ X, isum P r (fun _ => 1) X = cntBelow P r X := by
  intro X
  induction X with
  | zero => simp [isum, cntBelow]
  | succ X ih => rw [isum, ih, cntBelow_succ P r X hr]

theorem cntBelow_le (P r x y : Nat) (hr : r < P) (h : x ≤ y) : cntBelow P r x ≤ cntBelow P r y := by
  rw [← isum_one P r (Nat.zero_lt_of_lt hr) hr, ← isum_one P r (Nat.zero_lt_of_lt hr) hr]
  exact isum_mono _ _ _ h

theorem cntBelow_add_mul (P r x t : Nat) (hP : 0 < P) : cntBelow P r (x + t * P) = cntBelow P r x + t := by
  unfold cntBelow
  rw [Nat.add_mul_div_right _ _ hP, Nat.add_mul_mod_self_right, Nat.add_right_comm]

/-- LOWER: tiles the process stores in column `col` (rows `≥ col` below `L` with its residue) -/
def lowW (P r L col : Nat) : Nat := cntBelow P r L - cntBelow P r col
/-- UPPER: a column `κ` holds the rows `≤ κ` -/
def upW (P r col : Nat) : Nat := cntBelow P r (col + 1)

theorem low_off_lt (P r L gm gn : Nat) (hr : r < P) (hm : gm % P = r) (hle : gn ≤ gm) (hL : gm < L) :
    (gm - gn) / P < lowW P r L gn := by
  -- with `t` the offset: `cntBelow gn + t = cntBelow (gn + t*P) ≤ cntBelow gm < cntBelow (gm + 1) ≤ cntBelow L`
  have h3 := cntBelow_le P r (gn + (gm - gn) / P * P) gm hr (Nat.add_le_of_le_sub' hle (Nat.div_mul_le_self ..))
  have h5 := cntBelow_le P r (gm + 1) L hr hL
  rw [cntBelow_add_mul P r gn _ (Nat.zero_lt_of_lt hr)] at h3
  rw [cntBelow_succ P r gm hr, if_pos hm] at h5
  exact Nat.lt_sub_of_add_lt (Nat.add_comm .. ▸ Nat.lt_of_lt_of_le (Nat.lt_succ_of_le h3) h5)

/-- UPPER: the same with the rows `[0, gn]` in place of `[gn, L)` -/
theorem up_off_lt (P r gm gn : Nat) (hr : r < P) (hm : gm % P = r) (hle : gm ≤ gn) :
    gm / P < upW P r gn := by
  have := low_off_lt P r (gn + 1) gm 0 hr hm (Nat.zero_le _) (Nat.lt_succ_of_le hle)
  simpa [lowW, upW, cntBelow] using this

theorem same_col_inj (P gn gm gm' : Nat) (h1 : gn ≤ gm) (h2 : gn ≤ gm')
    (hm : gm % P = gm' % P) (hq : (gm - gn) / P = (gm' - gn) / P) : gm = gm' := by
  have := eq_of_dvd_sub (Nat.sub_sub_sub_cancel_right h2 ▸ dvd_sub_of_mod_eq hm)
    (Nat.sub_sub_sub_cancel_right h1 ▸ dvd_sub_of_mod_eq hm.symm) hq
  omega

theorem lowPrefix_eq (P Q r c L : Nat) (hr : r < P) (hQ : 0 < Q) :
    ∀ (f t col : Nat), col % Q = c → t < f → col + t * Q ≤ L →
      Sym.lowPrefix P Q r L (col + t * Q) f col =
        some ((isum Q c (lowW P r L) (col + t * Q) - isum Q c (lowW P r L) col : Nat) : Int) := by
  intro f
  induction f with
  | zero => intro t col _ hf; cases hf
  | succ f ih =>
    intro t col hcol hf hL
    cases t with
    | zero => rw [Nat.zero_mul, Nat.add_zero, Nat.sub_self, Sym.lowPrefix, if_pos rfl]; rfl
    | succ t =>
      rw [add_succ_mul] at hL ⊢
      rw [Sym.lowPrefix, if_neg (Nat.ne_of_lt (Nat.lt_add_right _ (Nat.lt_add_of_pos_right hQ))),
        ih t (col + Q) ((Nat.add_mod_right col Q).trans hcol) (Nat.lt_of_succ_lt_succ hf) hL, Option.map_some,
        ← Int.ofNat_sub (cntBelow_le P r col L hr (by omega)), ← Int.natCast_add]
      exact congrArg (fun x : Nat => some (x : Int)) (isum_round (lowW P r L) hQ hcol (Nat.le_add_right ..))

theorem upPrefix_eq (P Q r c : Nat) (hQ : 0 < Q) :
    ∀ (f t col : Nat), col % Q = c → t < f →
      Sym.upPrefix P Q r (col + t * Q) f col =
        some (isum Q c (upW P r) (col + t * Q) - isum Q c (upW P r) col) := by
  intro f
  induction f with
  | zero => intro t col _ hf; cases hf
  | succ f ih =>
    intro t col hcol hf
    cases t with
    | zero => rw [Nat.zero_mul, Nat.add_zero, Nat.sub_self, Sym.upPrefix, if_pos rfl]
    | succ t =>
      rw [add_succ_mul, Sym.upPrefix, if_neg (Nat.ne_of_lt (Nat.lt_add_right _ (Nat.lt_add_of_pos_right hQ))),
        ih t (col + Q) ((Nat.add_mod_right col Q).trans hcol) (Nat.lt_of_succ_lt_succ hf), Option.map_some]
      exact congrArg some (isum_round (upW P r) hQ hcol (Nat.le_add_right ..))

theorem lowTotal_eq (P Q r c L : Nat) (hr : r < P) (hQ : 0 < Q) :
    ∀ f col, col % Q = c → L < col + f →
      Sym.lowTotal P Q r L L f col = ((isum Q c (lowW P r L) L - isum Q c (lowW P r L) col : Nat) : Int) := by
  intro f
  induction f with
  | zero =>
    intro col _ hf
    rw [Nat.sub_eq_zero_of_le (isum_mono Q c _ (show L ≤ col from Nat.le_of_lt hf))]
    rfl
  | succ f ih =>
    intro col hres hf
    unfold Sym.lowTotal
    by_cases hlt : col < L
    · rw [if_pos hlt, ih (col + Q) ((Nat.add_mod_right col Q).trans hres) (by omega),
        ← Int.ofNat_sub (cntBelow_le P r col L hr (Nat.le_of_lt hlt)), ← Int.natCast_add]
      refine congrArg Int.ofNat ?_
      rcases Nat.le_total (col + Q) L with h | h
      · exact isum_round (lowW P r L) hQ hres h
      · -- the last column: no further column of the class below `L`
        rw [Nat.sub_eq_zero_of_le (isum_mono Q c _ h), isum_next _ hres hlt h, Nat.add_sub_cancel_left]
        rfl
    · rw [if_neg hlt, Nat.sub_eq_zero_of_le (isum_mono Q c _ (Nat.le_of_not_lt hlt))]
      rfl

theorem upTotal_eq_lowTotal (P Q c Lm Ln : Nat) : ∀ f row,
    Sym.upTotal P Q c Lm Ln f row = Sym.lowTotal Q P c Ln Lm f row := by
  intro f
  induction f with
  | zero => intro row; rfl
  | succ f ih => intro row; unfold Sym.upTotal Sym.lowTotal; rw [ih]

/-! ### symmetric UPPER: the init counts by rows, `coord2pos` by columns (double counting) -/

/-- one more column `L`: if it is local, each local row below `X ≤ L` gains a tile -/
theorem rowSum_succ (P Q r c L : Nat) (hr : r < P) (hc : c < Q) :
    ∀ X, X ≤ L → isum P r (lowW Q c (L + 1)) X =
      isum P r (lowW Q c L) X + (if L % Q = c then cntBelow P r X else 0) := by
  intro X
  induction X with
  | zero => intro _; simp [isum, cntBelow]
  | succ X ih =>
    intro hX
    rw [isum, isum, ih (Nat.le_of_succ_le hX), cntBelow_succ P r X hr]
    unfold lowW
    rw [cntBelow_succ Q c L hc]
    -- only for a local column and a local row do the two sides differ in form
    split <;> split
    · rw [Nat.sub_add_comm (cntBelow_le Q c X L hc (Nat.le_of_succ_le hX))]
      exact Nat.add_add_add_comm ..
    · rfl
    · rfl
    · rfl

/-- both count the pairs (row ≡ `r`, column ≡ `c`, row ≤ column < `L`) -/
theorem rowSum_eq_colSum (P Q r c : Nat) (hr : r < P) (hc : c < Q) :
    ∀ L, isum P r (lowW Q c L) L = isum Q c (upW P r) L := by
  intro L
  induction L with
  | zero => rfl
  | succ L ih =>
    rw [isum, rowSum_succ P Q r c L hr hc L (Nat.le_refl _), ih, isum]
    unfold lowW upW
    rw [cntBelow_succ Q c L hc, cntBelow_succ P r L hr]
    split <;> split
    · rw [Nat.add_sub_cancel_left]
      rfl
    · rfl
    · rw [Nat.add_sub_cancel_left]
    · rfl

/-! ### the round of the k-cyclic view: two mixed-radix digits change places -/

theorem kviewStep_decomp (p ps q a b : Nat) (ha : a < p) (hb : b < ps) :
    kviewStep p ps (q * (p * ps) + a * ps + b) = q * (p * ps) + b * p + a := by
  have h1 := (div_mod_of_lt q (pair_lt p ps a b ha hb)).2
  have h2 : (q * (p * ps) + a * ps + b) / ps = q * p + a ∧ (q * (p * ps) + a * ps + b) % ps = b := by
    rw [← Nat.mul_assoc, ← Nat.add_mul]; exact div_mod_of_lt _ hb
  unfold kviewStep
  rw [h2.1, h2.2, (div_mod_of_lt q ha).2, Nat.add_assoc (q * (p * ps)), h1, Nat.add_sub_cancel]

theorem exists_decomp (p ps m : Nat) (hp : 0 < p) (hps : 0 < ps) :
    ∃ q a b, a < p ∧ b < ps ∧ m = q * (p * ps) + a * ps + b := by
  rw [Nat.mul_comm p ps]
  exact ⟨_, _, _, a_lt ps p m hps hp, Nat.mod_lt _ hps, g_eq ps p m⟩

theorem kviewStep_inverse (p ps m : Nat) (hp : 0 < p) (hps : 0 < ps) :
    kviewStep ps p (kviewStep p ps m) = m := by
  obtain ⟨q, a, b, ha, hb, hm⟩ := exists_decomp p ps m hp hps
  rw [hm, kviewStep_decomp p ps q a b ha hb, Nat.mul_comm p ps,
      kviewStep_decomp ps p q b a hb ha]

theorem kviewStep_inj (p ps : Nat) (hp : 0 < p) (hps : 0 < ps) (a b : Nat)
    (h : kviewStep p ps a = kviewStep p ps b) : a = b := by
  rw [← kviewStep_inverse p ps a hp hps, h, kviewStep_inverse p ps b hp hps]

theorem kviewStep_block (p ps m : Nat) (hp : 0 < p) (hps : 0 < ps) :
    kviewStep p ps m / (p * ps) = m / (p * ps) := by
  unfold kviewStep
  rw [← Nat.div_mul_self_eq_mod_sub_self, Nat.add_assoc]
  exact (div_mod_of_lt _ (Nat.mul_comm ps p ▸ pair_lt ps p _ _ (Nat.mod_lt _ hps) (Nat.mod_lt _ hp))).1

/-- `f^k x`, peeled from the inside as `kviewLoop` runs (`iter f (k+1) x = iter f k (f x)` by `rfl`; core's
    `Nat.repeat` nests the other way) -/
def iter (f : Nat → Nat) : Nat → Nat → Nat
  | 0, x => x
  | k+1, x => iter f k (f x)

theorem iter_add (f : Nat → Nat) (a : Nat) : ∀ (b x : Nat), iter f (a + b) x = iter f a (iter f b x) := by
  intro b
  induction b with
  | zero => intro x; rfl
  | succ b ih => intro x; exact ih (f x)

theorem iter_inj {f : Nat → Nat} (hf : ∀ a b, f a = f b → a = b) :
    ∀ (k a b : Nat), iter f k a = iter f k b → a = b := by
  intro k
  induction k with
  | zero => intro a b h; exact h
  | succ k ih => intro a b h; exact hf a b (ih _ _ h)

theorem iter_returns {f : Nat → Nat} (hf : ∀ a b, f a = f b → a = b) {m : Nat} (s : List Nat)
    (hs : ∀ i, iter f i m ∈ s) : ∃ k, k < s.length ∧ iter f (k + 1) m = m := by
  by_cases h : ∃ k, k < s.length ∧ iter f (k + 1) m = m
  · exact h
  · -- otherwise the first `s.length + 1` iterates are distinct members of `s`
    have nd : ((List.range (s.length + 1)).map (iter f · m)).Nodup := by
      rw [List.nodup_iff_pairwise_ne, List.pairwise_map]
      refine List.Pairwise.imp_of_mem ?_ List.pairwise_lt_range
      intro i j _ hj hij e
      obtain ⟨d, rfl⟩ := Nat.exists_eq_add_of_lt hij
      rw [Nat.add_assoc, iter_add] at e
      exact h ⟨d, by have := List.mem_range.mp hj; omega, (iter_inj hf i _ _ e).symm⟩
    have := nd.length_le_of_subset (l₂ := s) fun x hx => by
      obtain ⟨i, _, rfl⟩ := List.mem_map.mp hx
      exact hs i
    rw [List.length_map, List.length_range] at this
    omega

theorem kviewLoop_spec (p ps mt : Nat) : ∀ (f m y : Nat), kviewLoop p ps mt f m = some y →
    ∃ k, iter (kviewStep p ps) (k + 1) m = y ∧ y < mt ∧
      ∀ j, j < k → ¬ iter (kviewStep p ps) (j + 1) m < mt := by
  intro f
  induction f with
  | zero => intro m y h; cases h
  | succ f ih =>
    intro m y h
    unfold kviewLoop at h
    split at h
    · rename_i hlt
      cases h
      exact ⟨0, rfl, hlt, fun j hj => absurd hj (Nat.not_lt_zero j)⟩
    · rename_i hge
      obtain ⟨k, hit, hy, hmin⟩ := ih _ y h
      refine ⟨k + 1, hit, hy, fun j hj => ?_⟩
      cases j with
      | zero => exact hge
      | succ j => exact hmin j (Nat.lt_of_succ_lt_succ hj)

theorem kviewLoop_terminates (p ps mt : Nat) : ∀ (f m k : Nat), k < f →
    iter (kviewStep p ps) (k + 1) m < mt → ∃ y, kviewLoop p ps mt f m = some y := by
  intro f
  induction f with
  | zero => intro m k h; cases h
  | succ f ih =>
    intro m k hk hlt
    unfold kviewLoop
    split
    · exact ⟨_, rfl⟩
    · rename_i hge
      cases k with
      | zero => exact absurd hlt hge
      | succ k => exact ih _ k (Nat.lt_of_succ_lt_succ hk) hlt

theorem iter_block (p ps : Nat) (hp : 0 < p) (hps : 0 < ps) : ∀ (k m : Nat),
    iter (kviewStep p ps) k m / (p * ps) = m / (p * ps) := by
  intro k
  induction k with
  | zero => intro m; rfl
  | succ k ih => intro m; rw [iter, ih, kviewStep_block p ps m hp hps]

/-- the orbit stays in its block of `p*ps` indices -/
theorem orbit_returns (p ps m : Nat) (hp : 0 < p) (hps : 0 < ps) :
    ∃ k, k < p * ps ∧ iter (kviewStep p ps) (k + 1) m = m := by
  have := iter_returns (kviewStep_inj p ps hp hps) (m := m) (List.range' (m / (p * ps) * (p * ps)) (p * ps))
    fun i => by
      rw [List.mem_range'_1, ← iter_block p ps hp hps i m]
      exact ⟨Nat.div_mul_le_self .., Nat.lt_div_mul_add (Nat.mul_pos hp hps)⟩
  rwa [List.length_range'] at this

theorem kviewCompute_lt {p ps mt m y : Nat} (h : kviewCompute p ps mt m = some y) : y < mt := by
  obtain ⟨_, _, hlt, _⟩ := kviewLoop_spec p ps mt _ _ _ h
  exact hlt

theorem kviewCompute_total (p ps mt m : Nat) (hp : 0 < p) (hps : 0 < ps) (hm : m < mt) :
    ∃ y, kviewCompute p ps mt m = some y ∧ y < mt := by
  obtain ⟨k, hkB, hret⟩ := orbit_returns p ps m hp hps
  obtain ⟨y, hy⟩ := kviewLoop_terminates p ps mt (p * ps + 1) m k (Nat.lt_succ_of_lt hkB) (hret.symm ▸ hm)
  exact ⟨y, hy, kviewCompute_lt hy⟩

theorem kviewCompute_inj {p ps mt m1 m2 y : Nat} (hp : 0 < p) (hps : 0 < ps) (h1 : m1 < mt) (h2 : m2 < mt)
    (e1 : kviewCompute p ps mt m1 = some y) (e2 : kviewCompute p ps mt m2 = some y) : m1 = m2 := by
  obtain ⟨k1, hit1, _, hmin1⟩ := kviewLoop_spec p ps mt _ _ _ e1
  obtain ⟨k2, hit2, _, hmin2⟩ := kviewLoop_spec p ps mt _ _ _ e2
  -- the longer walk passes through the start of the shorter one, which is below `mt`: it stops there
  have key : ∀ (a b ka kb : Nat), a < mt → ka ≤ kb →
      iter (kviewStep p ps) (ka + 1) a = y → iter (kviewStep p ps) (kb + 1) b = y →
      (∀ j, j < kb → ¬ iter (kviewStep p ps) (j + 1) b < mt) → a = b := by
    intro a b ka kb ha hle ia ib hminb
    obtain ⟨d, rfl⟩ := Nat.exists_eq_add_of_le hle
    rw [Nat.add_right_comm, iter_add] at ib
    have := iter_inj (kviewStep_inj p ps hp hps) (ka + 1) _ _ (ia.trans ib.symm)
    cases d with
    | zero => exact this
    | succ j => exact absurd (this ▸ ha) (hminb j (by omega))
  rcases Nat.le_total k1 k2 with hle | hle
  · exact key m1 m2 k1 k2 h1 hle hit1 hit2 hmin2
  · exact (key m2 m1 k2 k1 h2 hle hit2 hit1 hmin1).symm

theorem Band.inBand_iff (b : Band) (m n : Nat) : b.inBand m n ↔ n < m + b.bs ∧ m < n + b.bs := by
  unfold Band.inBand; split <;> omega

theorem Vec.lcmPQ_eq (v : Vec) : v.lcmPQ = Nat.lcm v.P v.Q := by
  unfold Vec.lcmPQ Nat.lcm
  exact Nat.div_mul_right_comm (Nat.gcd_dvd_left _ _) _

theorem Sym.rrank_eq (s : Sym) (rank : Nat) (hr : rank < s.P * s.Q) : s.rrank rank = rank / s.Q := by
  unfold Sym.rrank Sym.grid Grid.rrank
  simp only [Nat.sub_zero, Nat.add_mod_right]
  exact Nat.mod_eq_of_lt (rank_div_lt hr)

theorem Sym.crank_eq (s : Sym) (rank : Nat) : s.crank rank = rank % s.Q := by
  unfold Sym.crank Sym.grid Grid.crank
  simp only [Nat.sub_zero, Nat.add_mod_right, Nat.mod_mod]

end ParsecVerif.Dist
