import ParsecVerif.Model.RwLock
import ParsecVerif.Base.Interleave
/-!
  The inductive invariant of the ticket read-write lock (`Inv`), preserved by every transition (`inv_step`).

  `Inv` is stated over counts taken from the thread list: program points are grouped in 20 classes (`Cls`; the
  reader spin point is split by the phase bits it waits on), `n s c` counts the threads of class `c`, `H` the writers
  from `wAdd` to `wStore` (the holder: the writer whose turn it is, until it has published its release), `Rent` the
  readers that have entered.  Its clauses:
  * `sx`: no reader waits on other bits than 2 or 3; `c`: `win - wout` counts the waiting writers and the holder;
    `d1`, `d2`: `rout` is a multiple of 256, and `rin` is ahead of it by 256 for every reader that waits or has
    entered, plus the writer's bits in the low byte,
  * the writer-side phase `Phase` (free / holder about to announce | announced, draining readers | inside |
    released the readers, about to publish `wout`), each with its facts on the low bits of `rin` and on which
    generation of waiting readers may exist,
  * `pt`: per-thread facts on the local data,
  * `u`: the tickets of waiting writers are distinct; `ex`: every ticket between `wout` (+1 if the lock has a
    holder) and `win` has a waiting writer.

  Apart from `inv_init`, no proof reads the first five clauses in this form.  They are equivalent (`core_iff`) to
  `Core` over the counts `gn` of ten groups of classes (`Grp`), with `rin` and `rout` taken apart, and `PT` is `PTg`
  over the same counts (`PT_eq`).
-/
namespace ParsecVerif.RwLock
open ParsecVerif.Interleave

inductive Cls
  | idle | done | rAdd | rs2 | rs3 | rsX | rF | rIn | rWmb | rOut
  | wTick | wS1 | wAdd | wS2 | wF | wIn | wWmb | wAnd | wLoad | wStore
deriving Repr, DecidableEq

def cls : Pc → Cls
  | .idle => .idle | .done => .done | .rAdd => .rAdd
  | .rSpin w => if w = 2 then .rs2 else if w = 3 then .rs3 else .rsX
  | .rFence => .rF | .rIn => .rIn | .rWmb => .rWmb | .rOut => .rOut
  | .wTick => .wTick | .wSpin1 _ => .wS1 | .wAdd _ => .wAdd | .wSpin2 _ _ => .wS2
  | .wFence _ => .wF | .wIn _ => .wIn | .wWmb _ => .wWmb | .wAnd _ => .wAnd
  | .wLoad _ => .wLoad | .wStore _ _ => .wStore

def cnt (c : Cls) (l : List Thread) : Nat := (l.map fun t => cls t.pc).count c

def n (s : State) (c : Cls) : Nat := cnt c s.th
def H (s : State) : Nat := n s .wAdd + n s .wS2 + n s .wF + n s .wIn + n s .wWmb + n s .wAnd + n s .wLoad + n s .wStore
def Rent (s : State) : Nat := n s .rF + n s .rIn + n s .rWmb + n s .rOut

def Phase (s : State) : Prop :=
  (n s .wAdd ≤ 1 ∧ n s .wS2 = 0 ∧ n s .wF = 0 ∧ n s .wIn = 0 ∧ n s .wWmb = 0 ∧ n s .wAnd = 0 ∧ n s .wLoad = 0 ∧ n s .wStore = 0 ∧
    s.rin % 256 = 0 ∧ (s.wout % 2 = 0 → n s .rs2 = 0) ∧ (s.wout % 2 = 1 → n s .rs3 = 0)) ∨
  (n s .wAdd = 0 ∧ n s .wS2 = 1 ∧ n s .wF = 0 ∧ n s .wIn = 0 ∧ n s .wWmb = 0 ∧ n s .wAnd = 0 ∧ n s .wLoad = 0 ∧ n s .wStore = 0 ∧
    s.rin % 256 = 2 + s.wout % 2) ∨
  (n s .wAdd = 0 ∧ n s .wS2 = 0 ∧ n s .wF + n s .wIn + n s .wWmb + n s .wAnd = 1 ∧ n s .wLoad = 0 ∧ n s .wStore = 0 ∧
    s.rin % 256 = 2 + s.wout % 2 ∧ Rent s = 0 ∧ (s.wout % 2 = 0 → n s .rs3 = 0) ∧ (s.wout % 2 = 1 → n s .rs2 = 0)) ∨
  (n s .wAdd = 0 ∧ n s .wS2 = 0 ∧ n s .wF = 0 ∧ n s .wIn = 0 ∧ n s .wWmb = 0 ∧ n s .wAnd = 0 ∧ n s .wLoad + n s .wStore = 1 ∧
    s.rin % 256 = 0 ∧ (s.wout % 2 = 0 → n s .rs3 = 0) ∧ (s.wout % 2 = 1 → n s .rs2 = 0))

def Q0 (s : State) : Nat := s.rout + 256 * (Rent s + n s .rs3)
def Q1 (s : State) : Nat := s.rout + 256 * (Rent s + n s .rs2)

/-- what is known about the local data of a thread at program point `pc`, as a function of the
    "view" `(wout, win, #holders, Q0, Q1)` of the shared state; `Q_p` is the value `rout` will have
    when every reader that does not wait for the current writer (ticket parity `p`) has left -/
def PTv (wout win h q0 q1 : Nat) : Pc → Prop
  | .rSpin w => w = 2 ∨ w = 3
  | .wSpin1 t => wout ≤ t ∧ t < win ∧ (1 ≤ h → wout < t)
  | .wAdd t => t = wout
  | .wSpin2 t rt => t = wout ∧ (wout % 2 = 0 → rt = q0) ∧ (wout % 2 = 1 → rt = q1)
  | .wFence t => t = wout
  | .wIn t => t = wout
  | .wWmb t => t = wout
  | .wAnd t => t = wout
  | .wLoad t => t = wout
  | .wStore t v => t = wout ∧ v = wout
  | _ => True

def PT (s : State) (pc : Pc) : Prop := PTv s.wout s.win (H s) (Q0 s) (Q1 s) pc

def W1at (l : List Thread) (i t : Nat) : Prop := ∃ th, l[i]? = some th ∧ th.pc = .wSpin1 t

structure Inv (s : State) : Prop where
  sx : n s .rsX = 0
  c : s.win = s.wout + n s .wS1 + H s
  d1 : s.rout % 256 = 0
  d2 : s.rin = s.rout + 256 * (n s .rs2 + n s .rs3 + Rent s) + s.rin % 256
  phase : Phase s
  pt : ∀ (i : Nat) (th : Thread), s.th[i]? = some th → PT s th.pc
  u : ∀ i j t, W1at s.th i t → W1at s.th j t → i = j
  ex : ∀ k, s.wout + H s ≤ k → k < s.win → ∃ i, W1at s.th i k

theorem cls_rSpin (w : Nat) :
    w = 2 ∧ cls (.rSpin w) = .rs2 ∨ w = 3 ∧ cls (.rSpin w) = .rs3 ∨ cls (.rSpin w) = .rsX := by
  simp only [cls]
  split <;> (try split) <;> simp [*]

theorem cnt_pos (l : List Thread) (i : Nat) (th : Thread) (h : l[i]? = some th) : 1 ≤ cnt (cls th.pc) l :=
  List.count_pos_iff.2 (List.mem_map.2 ⟨th, List.mem_of_getElem? h, rfl⟩)

theorem moves (l : List Thread) (k : Nat) (x y : Thread) (hk : l[k]? = some x) (c : Cls) :
    cnt c (l.set k y) + (if cls x.pc = c then 1 else 0) = cnt c l + (if cls y.pc = c then 1 else 0) := by
  unfold cnt
  rw [List.map_set]
  exact count_set_of_getElem? (by rw [List.getElem?_map, hk]; rfl) _ c

theorem W1at_set_ne {l : List Thread} {k i t : Nat} {y : Thread} (hne : i ≠ k) :
    W1at (l.set k y) i t ↔ W1at l i t := by
  unfold W1at; rw [List.getElem?_set_ne (Ne.symm hne)]

theorem W1at_set_self {l : List Thread} {k q : Nat} {y : Thread} (h : W1at (l.set k y) k q) :
    y.pc = .wSpin1 q := by
  obtain ⟨th, h, hp⟩ := h
  rw [List.getElem?_set] at h
  simp at h
  obtain ⟨_, rfl⟩ := h
  exact hp

/-! The arithmetic of the invariant does not distinguish the four classes of a reader that has entered (`rent`), nor
  the four of the holder between its drain and its release of the readers (`hold`), nor `wLoad` and `wStore` (`rel`),
  and it does not mention `idle`, `done`, `rAdd`, `wTick` (`out`).  Counted by group, a move inside a group is
  invisible and `omega` is given the nine counts other than `out`. -/

inductive Grp
  | out | rsX | rs2 | rs3 | rent | wS1 | wAdd | wS2 | hold | rel
deriving DecidableEq

def grp : Cls → Grp
  | .idle | .done | .rAdd | .wTick => .out
  | .rsX => .rsX | .rs2 => .rs2 | .rs3 => .rs3
  | .rF | .rIn | .rWmb | .rOut => .rent
  | .wS1 => .wS1 | .wAdd => .wAdd | .wS2 => .wS2
  | .wF | .wIn | .wWmb | .wAnd => .hold
  | .wLoad | .wStore => .rel

def gof (t : Thread) : Grp := grp (cls t.pc)
def gn (s : State) (g : Grp) : Nat := (s.th.map gof).count g

theorem gn_eq (s : State) :
    gn s .rsX = n s .rsX ∧ gn s .rs2 = n s .rs2 ∧ gn s .rs3 = n s .rs3 ∧ gn s .wS1 = n s .wS1 ∧
    gn s .wAdd = n s .wAdd ∧ gn s .wS2 = n s .wS2 ∧ gn s .rent = Rent s ∧
    gn s .hold = n s .wF + n s .wIn + n s .wWmb + n s .wAnd ∧ gn s .rel = n s .wLoad + n s .wStore := by
  simp only [gn, Rent, n, cnt, show gof = grp ∘ fun t => cls t.pc from rfl, ← List.map_map]
  induction s.th.map fun t => cls t.pc with
  | nil => exact ⟨rfl, rfl, rfl, rfl, rfl, rfl, rfl, rfl, rfl⟩
  | cons c L ih =>
    simp only [List.map_cons, List.count_cons, beq_iff_eq, ih]
    cases c <;> simp only [grp, reduceCtorEq, if_false, if_true, Nat.add_zero, true_and, and_true] <;>
      (clear ih; omega)

theorem gn_total (s : State) :
    s.th.length = gn s .out + gn s .rsX + gn s .rs2 + gn s .rs3 + gn s .rent + gn s .wS1 + gn s .wAdd + gn s .wS2 +
      gn s .hold + gn s .rel := by
  simp only [gn, ← List.length_map (f := gof)]
  induction s.th.map gof with
  | nil => rfl
  | cons g L ih =>
    simp only [List.length_cons, List.count_cons, beq_iff_eq, ih]
    cases g <;> simp only [reduceCtorEq, if_false, if_true] <;> omega

def PTg (s : State) (g : Grp → Nat) : Pc → Prop :=
  PTv s.wout s.win (g .wAdd + g .wS2 + g .hold + g .rel) (s.rout + 256 * (g .rent + g .rs3))
    (s.rout + 256 * (g .rent + g .rs2))

theorem view (s : State) :
    H s = gn s .wAdd + gn s .wS2 + gn s .hold + gn s .rel ∧ Q0 s = s.rout + 256 * (gn s .rent + gn s .rs3) ∧
    Q1 s = s.rout + 256 * (gn s .rent + gn s .rs2) := by
  obtain ⟨-, h2, h3, -, h5, h6, h7, h8, h9⟩ := gn_eq s
  simp only [H, Q0, Q1]
  omega

theorem PT_eq (s : State) : PT s = PTg s (gn s) := by
  obtain ⟨h1, h2, h3⟩ := view s
  unfold PT PTg
  rw [h1, h2, h3]

def plus (r : Grp → Nat) (a g : Grp) : Nat := r g + if a = g then 1 else 0

theorem gn_pos (s : State) (i : Nat) (th : Thread) (h : s.th[i]? = some th) : 1 ≤ gn s (gof th) :=
  List.count_pos_iff.2 (List.mem_map.2 ⟨th, List.mem_of_getElem? h, rfl⟩)

theorem exists_of_gn_pos (s : State) (g : Grp) (h : 1 ≤ gn s g) :
    ∃ (i : Nat) (th : Thread), s.th[i]? = some th ∧ gof th = g := by
  obtain ⟨th, hth, hg⟩ := List.mem_map.1 (List.count_pos_iff.1 h)
  obtain ⟨i, hi⟩ := List.getElem?_of_mem hth
  exact ⟨i, th, hi, hg⟩

def ind (g : Grp) (t : Thread) : Nat := if gof t = g then 1 else 0

theorem gn_sum (l : List Thread) (g : Grp) : (l.map gof).count g = (l.map (ind g)).sum := by
  induction l with
  | nil => rfl
  | cons t L ih =>
    simp only [List.map_cons, List.count_cons, List.sum_cons, beq_iff_eq, ih, ind]
    omega

theorem gn_split {s : State} {k : Nat} {x : Thread} (hk : s.th[k]? = some x) :
    ∃ r : Grp → Nat, gn s = plus r (gof x) ∧
      (∀ (s' : State) (y : Thread), s'.th = s.th.set k y → gn s' = plus r (gof y)) ∧
      ∀ i th, i ≠ k → s.th[i]? = some th → 1 ≤ r (gof th) := by
  refine ⟨fun g => ((s.th.eraseIdx k).map (ind g)).sum,
    funext fun g => (gn_sum _ g).trans (sum_map_eraseIdx _ _ k x hk).symm, fun s' y hth => funext fun g => ?_,
    fun i th hik hi => ?_⟩
  · have := sum_map_eraseIdx (ind g) (s.th.set k y) k y (List.getElem?_set_self (List.getElem?_eq_some_iff.1 hk).1)
    rw [List.eraseIdx_set_eq] at this
    rw [gn, hth, gn_sum]
    exact this.symm
  · have := le_sum_map_of_mem (ind (gof th)) _ th (List.mem_eraseIdx_iff_getElem?.2 ⟨i, hik, hi⟩)
    rwa [ind, if_pos rfl] at this

def PhaseG (L wout : Nat) (g : Grp → Nat) : Prop :=
  (g .wAdd ≤ 1 ∧ g .wS2 = 0 ∧ g .hold = 0 ∧ g .rel = 0 ∧ L = 0 ∧
    (wout % 2 = 0 → g .rs2 = 0) ∧ (wout % 2 = 1 → g .rs3 = 0)) ∨
  (g .wAdd = 0 ∧ g .wS2 = 1 ∧ g .hold = 0 ∧ g .rel = 0 ∧ L = 2 + wout % 2) ∨
  (g .wAdd = 0 ∧ g .wS2 = 0 ∧ g .hold = 1 ∧ g .rel = 0 ∧ L = 2 + wout % 2 ∧ g .rent = 0 ∧
    (wout % 2 = 0 → g .rs3 = 0) ∧ (wout % 2 = 1 → g .rs2 = 0)) ∨
  (g .wAdd = 0 ∧ g .wS2 = 0 ∧ g .hold = 0 ∧ g .rel = 1 ∧ L = 0 ∧
    (wout % 2 = 0 → g .rs3 = 0) ∧ (wout % 2 = 1 → g .rs2 = 0))

/-- `sx`, `c`, `d1`, `d2`, `phase` of `Inv` over the group counts, with the packed word taken apart: `rin` holds
    the number `A` of readers that have arrived (`RINC = 0x100`) above the writer's presence and phase bits `L`
    (`WBITS`), and `rout = 256 * D` counts the readers that have left. -/
def Core (s : State) (A L D : Nat) (g : Grp → Nat) : Prop :=
  s.rin = 256 * A + L ∧ s.rout = 256 * D ∧ g .rsX = 0 ∧
  s.win = s.wout + g .wS1 + (g .wAdd + g .wS2 + g .hold + g .rel) ∧ A = D + (g .rs2 + g .rs3 + g .rent) ∧
  PhaseG L s.wout g

theorem Core.low {s : State} {A L D : Nat} {g : Grp → Nat} (h : Core s A L D g) :
    s.rin % 4 = L ∧ s.rin % 256 = L := by
  obtain ⟨h1, -, -, -, -, hp⟩ := h
  have : L < 4 := by rcases hp with a | a | a | a <;> omega
  omega

theorem Core.bits {s : State} {A L D : Nat} {g : Grp → Nat} (h : Core s A L D g) :
    L = 0 ∧ g .wS2 + g .hold = 0 ∨ L = 2 + s.wout % 2 ∧ g .wS2 + g .hold = 1 := by
  rcases h.2.2.2.2.2 with a | a | a | a <;> omega

theorem phase_iff (s : State) : PhaseG (s.rin % 256) s.wout (gn s) ↔ Phase s := by
  obtain ⟨-, h2, h3, -, h5, h6, h7, h8, h9⟩ := gn_eq s
  simp only [PhaseG, Phase, h2, h3, h5, h6, h7, h8, h9, Nat.add_eq_zero_iff, and_assoc]

theorem core_iff (s : State) :
    (∃ A L D, Core s A L D (gn s)) ↔
      n s .rsX = 0 ∧ s.win = s.wout + n s .wS1 + H s ∧ s.rout % 256 = 0 ∧
      s.rin = s.rout + 256 * (n s .rs2 + n s .rs3 + Rent s) + s.rin % 256 ∧ Phase s := by
  obtain ⟨hH, -, -⟩ := view s
  obtain ⟨h1, h2, h3, h4, -, -, h7, -, -⟩ := gn_eq s
  rw [← phase_iff, hH, ← h1, ← h2, ← h3, ← h4, ← h7]
  constructor
  · rintro ⟨A, L, D, hc⟩
    obtain ⟨-, e⟩ := hc.low
    obtain ⟨p1, p3, c1, c2, c3, c5⟩ := hc
    exact ⟨c1, c2, by omega, by omega, e ▸ c5⟩
  · rintro ⟨c1, c2, c3, c4, c5⟩
    exact ⟨s.rin / 256, s.rin % 256, s.rout / 256, by omega, by omega, c1, c2, by omega, c5⟩

theorem Inv.core {s : State} (h : Inv s) : ∃ A L D, Core s A L D (gn s) :=
  (core_iff s).2 ⟨h.sx, h.c, h.d1, h.d2, h.phase⟩

/-- Only a writer waiting for its turn looks at `win` and at the number of holders, only a draining writer at its
    drain target.  An argument that is left out says that this part of the view does not change. -/
theorem PTv_frame {wout win win' h h' q0 q0' q1 q1' : Nat} {pc : Pc} (hp : PTv wout win h q0 q1 pc)
    (hq : cls pc = .wS2 → (wout % 2 = 0 → q0' = q0) ∧ (wout % 2 = 1 → q1' = q1) := by
      exact fun _ => ⟨fun _ => rfl, fun _ => rfl⟩)
    (hw : win ≤ win' := by exact Nat.le_refl _) (hh : h' ≤ h := by exact Nat.le_refl _) :
    PTv wout win' h' q0' q1' pc := by
  cases pc <;> try exact hp
  · simp only [PTv] at hp ⊢
    omega
  · have := hq rfl
    simp only [PTv] at hp ⊢
    omega

theorem u_frame {l : List Thread} {k : Nat} {y : Thread}
    (hy : ∀ q, y.pc = .wSpin1 q → ∀ i, i ≠ k → ¬ W1at l i q) (hu : ∀ i j t, W1at l i t → W1at l j t → i = j) :
    ∀ i j t, W1at (l.set k y) i t → W1at (l.set k y) j t → i = j := by
  intro i j t hi hj
  by_cases hik : i = k <;> by_cases hjk : j = k
  · rw [hik, hjk]
  · exact absurd ((W1at_set_ne hjk).1 hj) (hy t (W1at_set_self (hik ▸ hi)) j hjk)
  · exact absurd ((W1at_set_ne hik).1 hi) (hy t (W1at_set_self (hjk ▸ hj)) i hik)
  · exact hu i j t ((W1at_set_ne hik).1 hi) ((W1at_set_ne hjk).1 hj)

/-- what a step of thread `k` from `x` (group `a`) to `y` (group `b`) has to establish, over the counts `r` of
    the other threads -/
def StepOK (s s' : State) (k : Nat) (x y : Thread) (a b : Grp) : Prop :=
  ∀ (r : Grp → Nat) (A L D : Nat), Core s A L D (plus r a) → PTg s (plus r a) x.pc →
    (∃ A' L' D', Core s' A' L' D' (plus r b)) ∧ PTg s' (plus r b) y.pc ∧
    ∀ i th, i ≠ k → s.th[i]? = some th → 1 ≤ r (gof th) → PTg s (plus r a) th.pc →
      PTg s' (plus r b) th.pc

/-- Besides `StepOK` there remain the tickets of the waiting writers: a ticket the mover takes is new, and a
    ticket that has to be waited for after the step is the mover's, or was waited for before by another thread.
    The premise of `hex` is clause `c` before and after. -/
theorem inv_trans {s s' : State} {k : Nat} {x y : Thread} (a b : Grp) (h : Inv s) (hk : s.th[k]? = some x)
    (hstep : StepOK s s' k x y a b) (hnew : ∀ q, y.pc = .wSpin1 q → ∀ i, i ≠ k → ¬ W1at s.th i q)
    (hex : s.wout + H s + (if a = .wS1 then 1 else 0) + s'.win = s'.wout + H s' + (if b = .wS1 then 1 else 0) + s.win →
      ∀ q, s'.wout + H s' ≤ q → q < s'.win → y.pc = .wSpin1 q ∨ x.pc ≠ .wSpin1 q ∧ s.wout + H s ≤ q ∧ q < s.win)
    (hth : s'.th = s.th.set k y := by rfl) (ha : gof x = a := by rfl) (hb : gof y = b := by rfl) : Inv s' := by
  subst ha hb
  obtain ⟨r, e, e', pos⟩ := gn_split hk
  have e' := e' s' y hth
  obtain ⟨A, L, D, hc⟩ := h.core
  have hpt := h.pt
  rw [PT_eq, e] at hpt
  rw [e] at hc
  obtain ⟨⟨A', L', D', hc'⟩, hme, hoth⟩ := hstep r A L D hc (hpt k x hk)
  obtain ⟨a1, a2, a3, a4, a5⟩ := (core_iff s').1 ⟨A', L', D', e' ▸ hc'⟩
  refine ⟨a1, a2, a3, a4, a5, ?_, hth ▸ u_frame hnew h.u, fun q h1 h2 => ?_⟩
  · rw [hth, PT_eq, e']
    exact forall_getElem?_set hme fun i th hik hi => hoth i th hik hi (pos i th hik hi) (hpt i th hi)
  · have hex := hex <| by
      have a := hc.2.2.2.1
      have b := hc'.2.2.2.1
      rw [(view s).1, (view s').1, e, e']
      simp only [plus] at a b ⊢
      omega
    rw [hth]
    rcases hex q h1 h2 with hq | ⟨hq, l1, l2⟩
    · exact ⟨k, y, List.getElem?_set_self (getElem_of_getElem? hk).1, hq⟩
    · refine (h.ex q l1 l2).imp fun i hi => (W1at_set_ne fun (e : i = k) => ?_).2 hi
      obtain ⟨th, hth, hp⟩ := hi
      rw [e, hk] at hth
      cases hth
      exact hq hp

theorem inv_move {s s' : State} {k : Nat} {x y : Thread} (a b : Grp) (h : Inv s) (hk : s.th[k]? = some x)
    (hstep : StepOK s s' k x y a b) (hth : s'.th = s.th.set k y := by rfl) (ha : gof x = a := by rfl)
    (hb : gof y = b := by rfl) (hx : a ≠ .wS1 := by nofun) (hy : b ≠ .wS1 := by nofun)
    (hwin : s'.win = s.win := by rfl) : Inv s' :=
  inv_trans a b h hk hstep (fun q hq => absurd (by rw [gof, hq]; rfl) (hb ▸ hy)) (fun e q h1 h2 =>
    .inr ⟨fun hq => hx (by rw [← ha, gof, hq]; rfl), by rw [if_neg hx, if_neg hy] at e; omega, by omega⟩) hth ha hb

theorem inv_silent {s : State} {k : Nat} {x : Thread} {pc : Pc} {prog : List Kind} (h : Inv s)
    (hk : s.th[k]? = some x) (hme : ∀ g, PTg s g x.pc → PTg s g pc)
    (hg : grp (cls pc) = gof x := by rfl) (hx : gof x ≠ .wS1 := by nofun) : Inv (setT s k pc prog) :=
  inv_move _ _ h hk (y := ⟨pc, prog⟩) (fun _ A L D hc hq => ⟨⟨A, L, D, hc⟩, hme _ hq, fun _ _ _ _ _ hq => hq⟩)
    rfl rfl hg hx hx

macro "mv20 " mv:ident : tactic => `(tactic| (
  have m01 := $mv Cls.idle; have m02 := $mv Cls.done; have m03 := $mv Cls.rAdd; have m04 := $mv Cls.rs2
  have m05 := $mv Cls.rs3; have m06 := $mv Cls.rsX; have m07 := $mv Cls.rF; have m08 := $mv Cls.rIn
  have m09 := $mv Cls.rWmb; have m10 := $mv Cls.rOut; have m11 := $mv Cls.wTick; have m12 := $mv Cls.wS1
  have m13 := $mv Cls.wAdd; have m14 := $mv Cls.wS2; have m15 := $mv Cls.wF; have m16 := $mv Cls.wIn
  have m17 := $mv Cls.wWmb; have m18 := $mv Cls.wAnd; have m19 := $mv Cls.wLoad; have m20 := $mv Cls.wStore
  simp only [cls, reduceCtorEq, Nat.reduceEqDiff, reduceIte, if_true, if_false, Nat.add_zero]
    at m01 m02 m03 m04 m05 m06 m07 m08 m09 m10 m11 m12 m13 m14 m15 m16 m17 m18 m19 m20))

macro "phase_pick" : tactic => `(tactic| first
  | (refine Or.inl ?_; omega)
  | (refine Or.inr (Or.inl ?_); omega)
  | (refine Or.inr (Or.inr (Or.inl ?_)); omega)
  | (refine Or.inr (Or.inr (Or.inr ?_)); omega))

/-- others keep their facts when the view `(wout, win, H, Q0, Q1)` is unchanged -/
macro "same_view " hpt:ident : tactic => `(tactic| (
  intro i th hne hith
  refine PT_frame _ _ _ ($hpt i th hith) rfl (Nat.le_refl _) ?_ ?_ ?_
  · simp only [H, n]; omega
  · intro _; simp only [Q0, Rent, n]; omega
  · intro _; simp only [Q1, Rent, n]; omega))

macro "phase_all " hph:ident : tactic => `(tactic| (
  simp only [Phase, n, Rent]
  rcases $hph:ident with hA | hB | hC | hD <;> first | (exfalso; omega) | phase_pick))

/-- a move between two program points without any effect on the shared counters and on the view -/
macro "local_move " hk:ident hsx:ident hc:ident hd1:ident hd2:ident hph:ident hpt:ident hu:ident hex:ident : tactic => `(tactic| (
  simp only [Phase, H, Rent, n] at $hsx:ident $hc:ident $hd1:ident $hd2:ident $hph:ident
  refine ⟨?_, ?_, ?_, ?_, ?_, ?_, ?_, ?_⟩
  · simp only [n]; omega
  · simp only [n, H]; omega
  · exact $hd1
  · simp only [n, Rent]; omega
  · phase_all $hph
  · apply forall_set
    · first | trivial | (simp only [PT, PTv] at *; omega)
    · same_view $hpt
  · exact u_frame _ _ _ (by intro t; simp) $hu
  · refine ex_frame _ _ _ _ $hk (by intro t; simp) _ _ _ _ ?_ (Nat.le_refl _) $hex
    simp only [H, n]; omega))

/-- States a transition over the counts of the other threads; a phase in which the mover's group would be
    empty disappears. -/
macro "counts" loc:(Lean.Parser.Tactic.location)? : tactic =>
  `(tactic| simp only [Core, PhaseG, PTg, plus, setT, reduceCtorEq, reduceIte, Nat.add_zero, Nat.add_one_ne_zero,
      false_and, and_false, false_or, or_false, imp_false] $[$loc]?)

section
variable {s : State} {k t rt w v : Nat} {prog : List Kind} (h : Inv s)
include h

theorem t_rOut (hk : s.th[k]? = some ⟨.rOut, prog⟩) : Inv (stepT 0 s k .rOut prog) := by
  simp only [stepT, Nat.mod_zero]
  refine inv_move .rent .out h hk fun r A L D hc _ => ?_
  counts at hc ⊢
  obtain ⟨p1, p2, c1, c2, c3, c5⟩ := hc
  refine ⟨⟨A, L, D + 1, p1, by omega, c1, c2, by omega, ?_⟩, trivial, fun _ _ _ _ _ hq =>
    PTv_frame hq fun _ => ⟨fun _ => by omega, fun _ => by omega⟩⟩
  -- the mover has entered, so nobody is inside (`counts` has removed that phase)
  rcases c5 with a | a | a
  · exact .inl a
  · exact .inr (.inl a)
  · exact .inr (.inr (.inr a))

theorem t_rAdd (hk : s.th[k]? = some ⟨.rAdd, prog⟩) : Inv (stepT 0 s k .rAdd prog) := by
  simp only [stepT, Nat.mod_zero]
  have h4 : s.rin % 4 = 0 ∨ s.rin % 4 = 2 ∨ s.rin % 4 = 3 := by
    obtain ⟨A, L, D, hc⟩ := h.core
    have := hc.bits
    have := hc.low.1
    omega
  rcases h4 with h4 | h4 | h4 <;> rw [h4]
  · -- no writer has announced itself: the reader enters
    refine inv_move .out .rent h hk fun r A L D hc _ => ?_
    have hb := hc.bits
    rw [hc.low.1] at h4
    counts at hc hb ⊢
    obtain ⟨p1, p2, c1, c2, c3, c5⟩ := hc
    refine ⟨⟨A + 1, L, D, by omega, p2, c1, c2, by omega, ?_⟩, trivial, fun _ th _ _ hpos hq =>
      PTv_frame hq fun hc2 => ?_⟩
    · rcases c5 with a | a | a | a
      · exact .inl a
      · exact .inr (.inl a)
      · exact False.elim (by omega)
      · exact .inr (.inr a)
    · simp only [gof, hc2, grp] at hpos
      omega
  -- a writer has: the reader waits on that writer's phase bits
  case' inr.inl => refine inv_move .out .rs2 h hk fun r A L D hc _ => ?_
  case' inr.inr => refine inv_move .out .rs3 h hk fun r A L D hc _ => ?_
  all_goals
    rw [hc.low.1] at h4
    counts at hc ⊢
    obtain ⟨p1, p2, c1, c2, c3, c5⟩ := hc
    refine ⟨⟨A + 1, L, D, by omega, p2, c1, c2, by omega, ?_⟩, by simp [PTv], fun _ _ _ _ _ hq =>
      PTv_frame hq fun _ => ⟨fun _ => by omega, fun _ => by omega⟩⟩
    rcases c5 with a | a | a | a
    · exact False.elim (by omega)
    · exact .inr (.inl a)
    · exact .inr (.inr (.inl (by omega)))
    · exact False.elim (by omega)

theorem t_rSpin (hk : s.th[k]? = some ⟨.rSpin w, prog⟩) : Inv (stepT 0 s k (.rSpin w) prog) := by
  simp only [stepT]
  split
  · exact h
  rename_i hne
  have hw : w = 2 ∨ w = 3 := h.pt k _ hk
  -- a draining writer does not wait for the readers that wait for it
  rcases hw with rfl | rfl
  case' inl => refine inv_move .rs2 .rent h hk fun r A L D hc _ => ?_
  case' inr => refine inv_move .rs3 .rent h hk fun r A L D hc _ => ?_
  all_goals
    rw [hc.low.1] at hne
    have hb := hc.bits
    counts at hc hb ⊢
    obtain ⟨p1, p2, c1, c2, c3, c5⟩ := hc
    refine ⟨⟨A, L, D, p1, p2, c1, c2, by omega, ?_⟩, trivial, fun _ th _ _ hpos hq =>
      PTv_frame hq fun hc2 => ?_⟩
    · clear hb
      rcases c5 with a | a | a | a
      · exact .inl (by omega)
      · exact .inr (.inl a)
      · exact False.elim (by omega)
      · exact .inr (.inr (by omega))
    · simp only [gof, hc2, grp] at hpos
      exact ⟨fun _ => by omega, fun _ => by omega⟩

theorem t_wAdd (hk : s.th[k]? = some ⟨.wAdd t, prog⟩) : Inv (stepT 0 s k (.wAdd t) prog) := by
  simp only [stepT, Nat.mod_zero]
  refine inv_move .wAdd .wS2 h hk fun r A L D hc hq => ?_
  counts at hc hq ⊢
  simp only [PTv] at hq
  -- The old `rin` is the drain target: while the lock is free `L = 0` and no reader waits on this ticket's bits, so
  -- `rin = rout + 256 * (readers inside + readers still waiting on the previous writer)`.
  exact ⟨⟨A, 2 + t % 2, D, by omega⟩, by simp only [PTv]; omega, fun _ _ _ _ _ hq => PTv_frame hq (hh := by omega)⟩

theorem t_wSpin2 (hk : s.th[k]? = some ⟨.wSpin2 t rt, prog⟩) : Inv (stepT 0 s k (.wSpin2 t rt) prog) := by
  simp only [stepT]
  split
  case isFalse => exact h
  refine inv_move .wS2 .hold h hk fun r A L D hc hq => ?_
  counts at hc hq ⊢
  simp only [PTv] at hq
  -- `rout` has reached the drain target: no reader is inside and none waits on the previous writer
  exact ⟨⟨A, L, D, by omega⟩, hq.1, fun _ _ _ _ _ hq => PTv_frame hq (hh := by omega)⟩

theorem t_wAnd (hk : s.th[k]? = some ⟨.wAnd t, prog⟩) : Inv (stepT 0 s k (.wAnd t) prog) := by
  simp only [stepT]
  refine inv_move .hold .rel h hk fun r A L D hc hq => ?_
  rw [hc.low.2]
  counts at hc hq ⊢
  exact ⟨⟨A, 0, D, by omega⟩, hq, fun _ _ _ _ _ hq => PTv_frame hq (hh := by omega)⟩

theorem t_wStore (hk : s.th[k]? = some ⟨.wStore t v, prog⟩) : Inv (stepT 0 s k (.wStore t v) prog) := by
  simp only [stepT, Nat.mod_zero]
  refine inv_move .rel .out h hk fun r A L D hc hq => ?_
  counts at hc hq ⊢
  simp only [PTv] at hq
  obtain ⟨p1, p2, c1, c2, c3, c5⟩ := hc
  refine ⟨⟨A, L, D, p1, p2, c1, by omega, c3, .inl (by omega)⟩, trivial, fun _ th _ _ hpos hq => ?_⟩
  obtain ⟨pc, _⟩ := th
  -- the other threads are readers, or writers waiting with later tickets
  cases pc <;> first | exact hq | (simp only [PTv, gof, grp, cls] at hpos hq ⊢; omega)

theorem t_wTick (hk : s.th[k]? = some ⟨.wTick, prog⟩) : Inv (stepT 0 s k .wTick prog) := by
  simp only [stepT, Nat.mod_zero]
  refine inv_trans .out .wS1 h hk (fun r A L D hc _ => ?_) (fun q hq i _ ⟨th, hth, hp⟩ => ?_) fun e q h1 h2 => ?_
  · counts at hc ⊢
    obtain ⟨p1, p2, c1, c2, c3⟩ := hc
    refine ⟨⟨A, L, D, p1, p2, c1, by omega, c3⟩, ?_, fun _ _ _ _ _ hq => PTv_frame hq (hw := Nat.le_succ _)⟩
    simp only [PTv]
    omega
  · -- a new ticket is larger than every ticket in use
    have := h.pt i th hth
    rw [hp] at this
    cases hq
    exact Nat.lt_irrefl _ this.2.1
  · simp only [setT, reduceCtorEq, reduceIte] at e h1 h2
    by_cases hq : q = s.win
    · exact .inl (hq ▸ rfl)
    · exact .inr ⟨nofun, by omega, by omega⟩

theorem t_wSpin1 (hk : s.th[k]? = some ⟨.wSpin1 t, prog⟩) : Inv (stepT 0 s k (.wSpin1 t) prog) := by
  simp only [stepT]
  split
  case isFalse => exact h
  rename_i hw
  refine inv_trans (y := ⟨.wAdd t, prog⟩) .wS1 .wAdd h hk (fun r A L D hc hq => ?_) nofun fun e q h1 h2 => ?_
  · counts at hc hq ⊢
    simp only [PTv] at hq
    have hH : r .wAdd + r .wS2 + r .hold + r .rel = 0 := by omega
    obtain ⟨p1, p2, c1, c2, c3, c5⟩ := hc
    refine ⟨⟨A, L, D, p1, p2, c1, by omega, c3, ?_⟩, hw.symm, fun i th hik hi hpos hq => ?_⟩
    · rcases c5 with a | a | a | a
      · omega
      all_goals exact False.elim (by omega)
    · obtain ⟨pc, pr⟩ := th
      cases pc <;> try exact hq
      case wSpin1 t' =>
        -- the other waiting writers have other tickets
        have hne : t' ≠ t := fun e => hik (h.u i k t ⟨_, hi, e ▸ rfl⟩ ⟨_, hk, rfl⟩)
        simp only [PTv] at hq ⊢
        omega
  · simp only [setT, reduceCtorEq, reduceIte] at e h1 h2
    exact .inr ⟨fun hq => by cases hq; omega, by omega, h2⟩

end

theorem inv_step (s : State) (k : Nat) (h : Inv s) : Inv (step 0 s k) := by
  unfold step
  cases hk : s.th[k]? with
  | none => exact h
  | some th =>
    obtain ⟨pc, prog⟩ := th
    show Inv (stepT 0 s k pc prog)
    cases pc with
    | idle => rcases prog with _ | ⟨_ | _, p⟩ <;> exact inv_silent h hk fun _ _ => trivial
    | done => exact h
    | rFence | rIn | rWmb => exact inv_silent h hk fun _ _ => trivial
    | wFence t | wIn t | wWmb t => exact inv_silent h hk fun _ hp => hp
    | wLoad t => exact inv_silent h hk fun _ hp => ⟨hp, rfl⟩
    | rAdd => exact t_rAdd h hk
    | rSpin w => exact t_rSpin h hk
    | rOut => exact t_rOut h hk
    | wTick => exact t_wTick h hk
    | wSpin1 t => exact t_wSpin1 h hk
    | wAdd t => exact t_wAdd h hk
    | wSpin2 t rt => exact t_wSpin2 h hk
    | wAnd t => exact t_wAnd h hk
    | wStore t v => exact t_wStore h hk

theorem cnt_init (c : Cls) (progs : List (List Kind)) :
    cnt c (progs.map fun p => (⟨.idle, p⟩ : Thread)) = if c = .idle then progs.length else 0 := by
  unfold cnt
  rw [List.map_map]
  show List.count c (progs.map fun _ => Cls.idle) = _
  rw [List.map_const', List.count_replicate]
  simp only [beq_iff_eq, @eq_comm _ Cls.idle c]

theorem inv_init (a b : Nat) (progs : List (List Kind)) : Inv (init a b progs) := by
  have hc := fun c => cnt_init c progs
  have hidle : ∀ (i : Nat) (th : Thread), (init a b progs).th[i]? = some th → th.pc = .idle := by
    intro i th h
    simp only [init, List.getElem?_map, Option.map_eq_some_iff] at h
    obtain ⟨p, -, rfl⟩ := h
    rfl
  exact ⟨by simp [n, init, hc], by simp [n, H, init, hc], by simp [init], by simp [n, Rent, init, hc],
    .inl (by simp [n, init, hc]), fun i th h => hidle i th h ▸ trivial,
    fun i j t ⟨th, h, hp⟩ => (by rw [hidle i th h] at hp; cases hp), fun k h1 h2 => by simp only [init] at h1 h2; omega⟩

theorem inv_run (s : State) (sched : List Nat) (h : Inv s) : Inv (run 0 s sched) :=
  foldl_inv inv_step sched h

end ParsecVerif.RwLock
