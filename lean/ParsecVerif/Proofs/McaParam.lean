/-
  The MCA parameter model seen through its lookups: what `getenv` and `fvValue` return after
  `setenv`, `process_arg`, `save_value`, `read_files`; the value of a decimal numeral under `strtol`.
-/
import ParsecVerif.Model.McaParam

namespace ParsecVerif.McaParam

def keys (l : List (String × String)) : List String := l.map (·.1)

theorem getenv_nil (n : String) : getenv [] n = none := rfl

theorem getenv_cons (e : String × String) (t : Env) (n : String) :
    getenv (e :: t) n = if e.1 = n then some e.2 else getenv t n := by
  unfold getenv
  by_cases h : e.1 = n <;> simp [h]

theorem getenv_append (a b : Env) (n : String) :
    getenv (a ++ b) n = (getenv a n).or (getenv b n) := by
  unfold getenv
  rw [List.find?_append]
  cases a.find? _ <;> rfl

theorem any_key_eq (l : Env) (k : String) : l.any (fun e => e.1 = k) = (getenv l k).isSome := by
  induction l with
  | nil => rfl
  | cons e t ih =>
    rw [List.any_cons, getenv_cons, ih]
    by_cases h : e.1 = k <;> simp [h]

theorem getenv_eq_none (l : Env) (n : String) : getenv l n = none ↔ n ∉ keys l := by
  rw [← Option.not_isSome_iff_eq_none, ← any_key_eq]
  simp [keys]

theorem getenv_map_key (env : Env) (p n : String) (g : String → String) :
    getenv (env.map (fun e => if e.1 = p then (e.1, g e.2) else e)) n =
      if p = n then (getenv env n).map g else getenv env n := by
  induction env with
  | nil => simp [getenv_nil]
  | cons e t ih =>
    rw [List.map_cons, getenv_cons, getenv_cons, ih]
    by_cases h2 : e.1 = p
    · subst h2
      by_cases h1 : e.1 = n <;> simp [h1]
    · by_cases h1 : e.1 = n
      · subst h1
        simp [h2, Ne.symm h2]
      · simp [h1, h2]

theorem keys_map_key (l : Env) (p : String) (g : String → String) :
    keys (l.map (fun e => if e.1 = p then (e.1, g e.2) else e)) = keys l := by
  simp [keys, Function.comp_def, apply_ite Prod.fst]

/-- `setenv` and `process_arg` have one shape: the value of a key that is present is rewritten in
    place (by `g`), a key that is absent is appended (with `v`). -/
theorem getenv_upsert (l : Env) (k v n : String) (g : String → String) :
    getenv (if l.any (fun e => e.1 = k) then l.map (fun e => if e.1 = k then (e.1, g e.2) else e)
            else l ++ [(k, v)]) n =
      if k = n then some ((getenv l k).elim v g) else getenv l n := by
  rw [any_key_eq]
  by_cases hn : k = n
  · subst hn
    cases hg : getenv l k with
    | none => simp [getenv_append, hg, getenv_cons]
    | some x => simp [getenv_map_key, hg]
  · rw [if_neg hn]
    split
    · rw [getenv_map_key, if_neg hn]
    · simp [getenv_append, getenv_cons, getenv_nil, hn]

theorem setenv_get (env : Env) (k v n : String) :
    getenv (setenv env k v) n = if k = n then some v else getenv env n := by
  refine (getenv_upsert env k v n (fun _ => v)).trans ?_
  cases getenv env k <;> rfl

theorem envFirst_eq_findSome? (env : Env) (names : List String) :
    envFirst env names = names.findSome? (getenv env) := by
  induction names with
  | nil => rfl
  | cons n t ih =>
    rw [envFirst, List.findSome?_cons, ih]
    cases getenv env n <;> rfl

def lastVal : List (String × String) → String → Option String
  | [], _ => none
  | kv :: t, n =>
    match lastVal t n with
    | some x => some x
    | none => if kv.1 = n then some kv.2 else none

theorem setenvAll_get (l : List (String × String)) (env : Env) (n : String) :
    getenv (setenvAll env l) n = (lastVal l n).or (getenv env n) := by
  unfold setenvAll
  induction l generalizing env with
  | nil => rfl
  | cons kv t ih =>
    rw [List.foldl_cons, ih, lastVal, setenv_get]
    cases lastVal t n with
    | some x => rfl
    | none => split <;> rfl

theorem lastVal_none_of_not_mem (l : List (String × String)) (n : String) (h : n ∉ keys l) : lastVal l n = none := by
  induction l with
  | nil => rfl
  | cons e t ih =>
    simp only [keys, List.map_cons, List.mem_cons, not_or] at h
    simp [lastVal, ih h.2, Ne.symm h.1]

theorem lastVal_eq_getenv (l : List (String × String)) (n : String) (h : (keys l).Nodup) :
    lastVal l n = getenv l n := by
  induction l with
  | nil => rfl
  | cons e t ih =>
    simp only [keys, List.map_cons, List.nodup_cons] at h
    rw [lastVal, getenv_cons, ih h.2]
    by_cases h1 : e.1 = n
    · rw [(getenv_eq_none t n).2 (h1 ▸ h.1)]
    · cases getenv t n <;> simp [h1]

def sepTail : List String → String
  | [] => ""
  | v :: t => "," ++ v ++ sepTail t

def commaJoin : List String → String
  | [] => ""
  | a :: t => a ++ sepTail t

theorem commaJoin_eq_intercalate (l : List String) : commaJoin l = ",".intercalate l := by
  induction l with
  | nil => rfl
  | cons a t ih =>
    cases t with
    | nil => simp [commaJoin, sepTail]
    | cons b r => rw [String.intercalate_cons_cons, ← ih]; simp [commaJoin, sepTail, String.append_assoc]

def joinFrom : Option String → List String → Option String
  | o, [] => o
  | none, v :: t => joinFrom (some v) t
  | some a, v :: t => joinFrom (some (a ++ "," ++ v)) t

theorem joinFrom_some (a : String) (vs : List String) : joinFrom (some a) vs = some (a ++ sepTail vs) := by
  induction vs generalizing a with
  | nil => simp [joinFrom, sepTail]
  | cons v t ih => simp [joinFrom, ih, sepTail, String.append_assoc]

theorem joinFrom_none (vs : List String) :
    joinFrom none vs = if vs = [] then none else some (commaJoin vs) := by
  cases vs with
  | nil => rfl
  | cons v t => simp [joinFrom, joinFrom_some, commaJoin]

theorem joinFrom_append (o : Option String) (a b : List String) :
    joinFrom o (a ++ b) = joinFrom (joinFrom o a) b := by
  induction a generalizing o with
  | nil => simp [joinFrom]
  | cons v t ih =>
    cases o <;> simp [joinFrom, ih]

theorem processArg_keys_nodup (acc : List (String × String)) (p v : String) (h : (keys acc).Nodup) :
    (keys (processArg acc p v)).Nodup := by
  unfold processArg
  split
  · rwa [keys_map_key acc p (fun x => x ++ "," ++ v)]
  · next ha =>
    rw [any_key_eq, Option.not_isSome_iff_eq_none, getenv_eq_none] at ha
    rw [keys, List.map_append, List.nodup_append]
    exact ⟨h, by simp, fun a ha1 b hb e =>
      ha ((show a = p from e.trans (List.mem_singleton.1 hb)) ▸ ha1)⟩

theorem processArg_get (acc : List (String × String)) (p v n : String) :
    getenv (processArg acc p v) n =
      if p = n then joinFrom (getenv acc n) [v] else getenv acc n := by
  refine (getenv_upsert acc p v n (fun x => x ++ "," ++ v)).trans ?_
  by_cases h : p = n
  · subst h
    cases getenv acc p <;> simp [joinFrom]
  · rw [if_neg h, if_neg h]

def valuesOf (l : List (String × String)) (n : String) : List String :=
  (l.filter (fun e => e.1 = n)).map (·.2)

theorem foldl_processArg_get (l : List (String × String)) (acc : List (String × String)) (n : String) :
    getenv (l.foldl (fun a e => processArg a e.1 e.2) acc) n = joinFrom (getenv acc n) (valuesOf l n) := by
  induction l generalizing acc with
  | nil => rfl
  | cons e t ih =>
    rw [List.foldl_cons, ih, processArg_get]
    by_cases h : e.1 = n
    · subst h
      rw [if_pos rfl, ← joinFrom_append]
      simp [valuesOf]
    · simp [valuesOf, h]

theorem foldl_processArg_nodup (l : List (String × String)) (acc : List (String × String))
    (h : (keys acc).Nodup) : (keys (l.foldl (fun a e => processArg a e.1 e.2) acc)).Nodup := by
  induction l generalizing acc with
  | nil => exact h
  | cons e t ih => exact ih _ (processArg_keys_nodup acc e.1 e.2 h)

def pairsOf (insts : List (Opt × List String)) (o : Opt) : List (String × String) :=
  (insts.filter (fun i => i.1 = o)).map (fun i => (i.2.getD 0 "", i.2.getD 1 ""))

theorem collect_eq (insts : List (Opt × List String)) (o : Opt) :
    collect insts o = (pairsOf insts o).foldl (fun a e => processArg a e.1 e.2) [] := by
  unfold collect pairsOf
  rw [List.foldl_map]

/-- what one option kind asks for parameter `n` -/
def asked (insts : List (Opt × List String)) (o : Opt) (n : String) : Option String :=
  if valuesOf (pairsOf insts o) n = [] then none else some (commaJoin (valuesOf (pairsOf insts o) n))

theorem setenvAll_collect (env : Env) (insts : List (Opt × List String)) (o : Opt) (n : String) :
    getenv (setenvAll env (collect insts o)) n = (asked insts o n).or (getenv env n) := by
  rw [setenvAll_get, collect_eq, lastVal_eq_getenv _ _ (foldl_processArg_nodup _ [] List.nodup_nil),
    foldl_processArg_get, getenv_nil, joinFrom_none]
  rfl

/-- `none` = no entry named `n`, `some none` = an entry with NULL -/
def fvValue (fvs : List FV) (n : String) : Option (Option String) :=
  match fvs.find? (fun fv => fv.name = n) with
  | some fv => some fv.value
  | none => none

theorem fvValue_nil (n : String) : fvValue [] n = none := rfl

theorem fvValue_cons (fv : FV) (t : List FV) (n : String) :
    fvValue (fv :: t) n = if fv.name = n then some fv.value else fvValue t n := by
  unfold fvValue
  by_cases h : fv.name = n <;> simp [h]

theorem saveValue_cons (e : FV) (t : List FV) (file name : String) (value : Option String) :
    saveValue (e :: t) file name value =
      if e.name = name then ⟨name, value, file⟩ :: t else e :: saveValue t file name value := by
  unfold saveValue
  by_cases h : e.name = name
  · simp [h, saveValue.replaceFirst]
  · simp only [List.any_cons, h, decide_false, Bool.false_or, saveValue.replaceFirst, if_false]
    split <;> rfl

theorem saveValue_value (fvs : List FV) (file name : String) (value : Option String) (n : String) :
    fvValue (saveValue fvs file name value) n = if name = n then some value else fvValue fvs n := by
  induction fvs with
  | nil => simp [saveValue, fvValue_cons, fvValue_nil]
  | cons e t ih =>
    rw [saveValue_cons]
    split
    · next h1 =>
      rw [fvValue_cons, fvValue_cons, h1]
      split <;> rfl
    · next h1 =>
      rw [fvValue_cons, fvValue_cons, ih]
      by_cases h2 : e.name = n
      · simp [h2 ▸ Ne.symm h1, h2]
      · simp [h2]

def lastLine : FileContent → String → Option (Option String)
  | [], _ => none
  | e :: t, n =>
    match lastLine t n with
    | some x => some x
    | none => if e.1 = n then some e.2 else none

theorem parseFile_value (c : FileContent) (fvs : List FV) (file n : String) :
    fvValue (parseFile fvs file c) n = (lastLine c n).or (fvValue fvs n) := by
  unfold parseFile
  induction c generalizing fvs with
  | nil => rfl
  | cons e t ih =>
    rw [List.foldl_cons, ih, lastLine, saveValue_value]
    cases lastLine t n with
    | some x => rfl
    | none => split <;> rfl

theorem lastLine_none_of_not_mem (c : FileContent) (n : String) (h : ∀ e ∈ c, e.1 ≠ n) : lastLine c n = none := by
  induction c with
  | nil => rfl
  | cons e t ih =>
    rw [List.forall_mem_cons] at h
    simp [lastLine, ih h.2, h.1]

theorem readFiles_value (fs : Files) (fvs : List FV) (names : List String) (n : String) :
    fvValue (readFiles fs fvs names) n =
      (names.findSome? fun g => (fileContent fs g).bind (lastLine · n)).or (fvValue fvs n) := by
  induction names with
  | nil => rfl
  | cons g t ih =>
    unfold readFiles at ih ⊢
    rw [List.reverse_cons, List.foldl_append, List.foldl_cons, List.foldl_nil, List.findSome?_cons]
    cases fileContent fs g with
    | none => exact ih
    | some c =>
      rw [parseFile_value, ih, Option.bind_some]
      cases lastLine c n <;> rfl

theorem fvFind_eq_find? (p : Param) (fvs : List FV) : fvFind p fvs = fvs.find? (fvMatches p) := by
  induction fvs with
  | nil => rfl
  | cons x t ih =>
    rw [fvFind, List.find?_cons, ih]
    cases fvMatches p x <;> rfl

theorem fvFind_append (p : Param) (pre : List FV) (fv : FV) (rest : List FV)
    (hpre : ∀ x ∈ pre, fvMatches p x = false) (hfv : fvMatches p fv = true) :
    fvFind p (pre ++ fv :: rest) = some fv := by
  rw [fvFind_eq_find?, List.find?_eq_some_iff_append]
  exact ⟨hfv, pre, rest, rfl, fun x hx => by rw [hpre x hx]; rfl⟩

theorem fvFind_none_iff (p : Param) (fvs : List FV) :
    fvFind p fvs = none ↔ ∀ x ∈ fvs, fvMatches p x = false := by
  simp [fvFind_eq_find?]

theorem fvFind_some_matches (p : Param) (fvs : List FV) (fv : FV) (h : fvFind p fvs = some fv) :
    fvMatches p fv = true ∧ fv ∈ fvs := by
  rw [fvFind_eq_find?] at h
  exact ⟨List.find?_some h, List.mem_of_find?_eq_some h⟩

theorem fvRemove_eq_eraseP (p : Param) (fvs : List FV) : fvRemove p fvs = fvs.eraseP (fvMatches p) := by
  induction fvs with
  | nil => rfl
  | cons x t ih =>
    rw [fvRemove, List.eraseP_cons, ih]
    cases fvMatches p x <;> rfl

/-- 48 is `'0'` -/
def digitChar (d : Nat) : Char := Char.ofNat (48 + d)

theorem digitVal_digitChar : ∀ d : Fin 10, digitVal (digitChar d.val) = some d.val := by decide +kernel

/-- `d.val + 1` for `d : Fin 9` is a digit 1–9, here and below; `0` would announce octal or hex -/
theorem leadDigit_not_special : ∀ d : Fin 9,
    isSpace (digitChar (d.val + 1)) = false ∧ digitChar (d.val + 1) ≠ '-' ∧ digitChar (d.val + 1) ≠ '+' ∧
    digitChar (d.val + 1) ≠ '0' := by decide +kernel

def horner (ds : List (Fin 10)) (acc : Nat) : Nat := ds.foldl (fun a d => a * 10 + d.val) acc

/-- what stops a decimal numeral; a letter has a `digitVal` too, 10 or more -/
def stops10 (rest : List Char) : Prop :=
  rest = [] ∨ ∃ c t, rest = c :: t ∧ (digitVal c = none ∨ ∃ d, digitVal c = some d ∧ ¬ d < 10)

theorem digitsIn_stop (rest : List Char) (h : stops10 rest) (acc : Nat) : digitsIn 10 rest acc = acc := by
  rcases h with rfl | ⟨c, t, rfl, hc | ⟨d, hd, hlt⟩⟩
  · rfl
  · simp [digitsIn, hc]
  · simp [digitsIn, hd, hlt]

theorem digitsIn_decimal (ds : List (Fin 10)) (rest : List Char) (h : stops10 rest) (acc : Nat) :
    digitsIn 10 (ds.map (fun d => digitChar d.val) ++ rest) acc = horner ds acc := by
  induction ds generalizing acc with
  | nil => exact digitsIn_stop rest h acc
  | cons d t ih =>
    simp only [List.map_cons, List.cons_append, digitsIn, digitVal_digitChar d, d.isLt, if_true, ih]
    rfl

theorem magnitude_decimal (d : Fin 9) (ds : List (Fin 10)) (rest : List Char) (h : stops10 rest) :
    magnitude (digitChar (d.val + 1) :: (ds.map (fun x => digitChar x.val) ++ rest)) =
      horner ds (d.val + 1) := by
  simp only [magnitude, if_neg (leadDigit_not_special d).2.2.2]
  exact (digitsIn_decimal (⟨d.val + 1, by omega⟩ :: ds) rest h 0).trans (by simp [horner])

theorem clampLong_of_gt {x : Int} (h : x > longMax) : clampLong x = longMax := if_pos h

theorem clampLong_of_lt {x : Int} (h : x < longMin) : clampLong x = longMin := by
  have h1 : ¬ x > longMax := Int.not_lt.2 (Int.le_of_lt (Int.lt_trans h (by decide +kernel)))
  unfold clampLong
  rw [if_neg h1, if_pos h]

theorem clampLong_of_mem {x : Int} (h1 : longMin ≤ x) (h2 : x ≤ longMax) : clampLong x = x := by
  unfold clampLong
  rw [if_neg (Int.not_lt.2 h2), if_neg (Int.not_lt.2 h1)]

end ParsecVerif.McaParam
