/-
  How each clause of the invariant is carried across a mutation of the store and across the replacement of
  one thread record; what a step may do to the store (`Guar`, `Pre`) and what it owes (`StepOk`).
-/
import ParsecVerif.Base.Interleave
import ParsecVerif.Proofs.HashTableInv

namespace ParsecVerif.HashTable

/-- the stores agree on all that `StructInv`, `Stored` and `KeyIn` read -/
structure SameStore (s s' : Store) : Prop where
  items : ∀ T b, (s'.bk T b).items = (s.bk T b).items
  len : ∀ T b, (s'.bk T b).len = (s.bk T b).len
  next : ∀ T, (s'.tab T).next = (s.tab T).next
  top : s'.top = s.top
  nb0 : s'.nb0 = s.nb0
  hf : s'.hf = s.hf

theorem SameStore.tin {s s' : Store} (e : SameStore s s') (T : Nat) : Tin s' T ↔ Tin s T := by
  unfold Tin; rw [e.top, e.nb0]

theorem SameStore.emptyT {s s' : Store} (e : SameStore s s') (T : Nat) : EmptyT s' T ↔ EmptyT s T := by
  unfold EmptyT; simp only [e.items]

theorem SameStore.stored {s s' : Store} (e : SameStore s s') (it : Item) : Stored s' it ↔ Stored s it := by
  unfold Stored; simp only [e.items, e.tin]

theorem SameStore.keyIn {s s' : Store} (e : SameStore s s') (k T : Nat) : KeyIn s' k T ↔ KeyIn s k T := by
  unfold KeyIn; simp only [e.items, e.hf]

theorem SameStore.usedCount {s s' : Store} (e : SameStore s s') (T : Nat) : s'.usedCount T = s.usedCount T := by
  unfold Store.usedCount; simp only [e.items]

theorem StructInv.congr {s s' : Store} (e : SameStore s s') (h : StructInv s) : StructInv s' := by
  constructor
  all_goals simp only [e.tin, e.emptyT, e.items, e.len, e.next, e.top, e.nb0, e.hf]
  · exact h.nb0
  · exact h.top
  · exact h.hfr
  · exact h.nxt
  · exact h.len
  · exact h.place
  · exact h.skip
  · exact h.nodup
  · exact h.once

theorem sameStore_setLock (s : Store) (T b v : Nat) : SameStore s (s.setLock T b v) :=
  ⟨fun T' b' => items_setLock s T b T' b' v, fun T' b' => len_setLock s T b T' b' v, fun T' => next_setLock s T b T' v, rfl, rfl, rfl⟩

theorem sameStore_decUsed (s : Store) (T : Nat) : SameStore s (s.decUsed T) :=
  ⟨fun T' b' => by rw [bk_decUsed], fun T' b' => by rw [bk_decUsed], fun T' => next_decUsed s T T', rfl, rfl, rfl⟩

theorem SameStore.refl (s : Store) : SameStore s s := ⟨fun _ _ => rfl, fun _ _ => rfl, fun _ => rfl, rfl, rfl, rfl⟩

theorem SameStore.trans {a b c : Store} (e1 : SameStore a b) (e2 : SameStore b c) : SameStore a c :=
  ⟨fun T b => by rw [e2.items, e1.items], fun T b => by rw [e2.len, e1.len], fun T => by rw [e2.next, e1.next],
   by rw [e2.top, e1.top], by rw [e2.nb0, e1.nb0], by rw [e2.hf, e1.hf]⟩

theorem stored_pushFront {s : Store} (hst : s.nb0 ≤ s.top) (b : Nat) (it x : Item) :
    Stored (s.pushFront s.top b it) x ↔ x = it ∨ Stored s x := by
  simp only [Stored, mem_pushFront]
  constructor
  · rintro ⟨T, b', hT, ⟨_, h⟩ | h⟩
    · exact Or.inl h
    · exact Or.inr ⟨T, b', hT, h⟩
  · rintro (h | ⟨T, b', hT, h⟩)
    · exact ⟨s.top, b, ⟨hst, Nat.le_refl _⟩, Or.inl ⟨⟨rfl, rfl⟩, h⟩⟩
    · exact ⟨T, b', hT, Or.inr h⟩

theorem StructInv.pushTop {s : Store} (h : StructInv s) {b : Nat} {it : Item} (hb : b = s.hf it.key s.top)
    (hn : ¬ Stored s it) : StructInv (s.pushFront s.top b it) := by
  have htop := h.tin_top
  refine ⟨h.nb0, h.top, h.hfr, ?_, ?_, ?_, ?_, ?_, ?_⟩
  · intro T hT; rw [next_pushFront]; exact h.nxt T hT
  · intro T b' hT
    rw [len_pushFront, items_pushFront]
    split
    · rw [h.len s.top b htop]; simp
    · exact h.len T b' hT
  · intro T b' x hT hx
    rcases (mem_pushFront ..).1 hx with ⟨hc, hx⟩ | hx
    · rw [hx, hc.1, hc.2]; exact hb
    · exact h.place T b' x hT hx
  · intro T T' hT h1 h2 h3 b'
    rw [next_pushFront] at h1
    rw [items_pushFront, if_neg (fun hc => by have : T ≤ s.top := hT.2; omega)]
    exact h.skip T T' hT h1 h2 h3 b'
  · intro T b' hT
    rw [items_pushFront]
    split
    · exact List.nodup_cons.2 ⟨fun hm => hn ⟨s.top, b, htop, hm⟩, h.nodup s.top b htop⟩
    · exact h.nodup T b' hT
  · intro T T' b1 b2 x hT hT' h1 h2
    rcases (mem_pushFront ..).1 h1 with ⟨c1, e1⟩ | h1 <;> rcases (mem_pushFront ..).1 h2 with ⟨c2, e2⟩ | h2
    · rw [c1.1, c2.1]
    · exact absurd ⟨T', b2, hT', e1 ▸ h2⟩ hn
    · exact absurd ⟨T, b1, hT, e2 ▸ h1⟩ hn
    · exact h.once T T' b1 b2 x hT hT' h1 h2

theorem stored_erase {s : Store} (h : StructInv s) {T b : Nat} {it : Item} (hT : Tin s T) (hit : it ∈ (s.bk T b).items) (x : Item) :
    Stored (s.eraseIt T b it) x ↔ Stored s x ∧ x ≠ it := by
  constructor
  · rintro ⟨T', b', hT', hx⟩
    have hx' := mem_of_mem_eraseIt hx
    refine ⟨⟨T', b', hT', hx'⟩, ?_⟩
    rintro rfl
    obtain rfl := h.once T' T b' b x hT' hT hx' hit
    obtain rfl := (h.place T' b' x hT' hx').trans (h.place T' b x hT hit).symm
    rw [items_eraseIt, if_pos ⟨rfl, rfl⟩] at hx
    exact ((h.nodup T' b' hT).mem_erase_iff.1 hx).1 rfl
  · rintro ⟨⟨T', b', hT', hx⟩, hne⟩
    refine ⟨T', b', hT', ?_⟩
    rw [items_eraseIt]
    split
    · rename_i hc
      rw [hc.1, hc.2] at hx
      exact (List.mem_erase_of_ne hne).2 hx
    · exact hx

theorem StructInv.erase {s : Store} (h : StructInv s) {T b : Nat} {it : Item} (hT : Tin s T) (hit : it ∈ (s.bk T b).items) :
    StructInv (s.eraseIt T b it) := by
  refine ⟨h.nb0, h.top, h.hfr, ?_, ?_, ?_, ?_, ?_, ?_⟩
  · intro T' hT'; rw [next_eraseIt]; exact h.nxt T' hT'
  · intro T' b' hT'
    rw [len_eraseIt, items_eraseIt]
    split
    · rw [h.len T b hT, List.length_erase_of_mem hit]
      have := List.length_pos_of_mem hit
      omega
    · exact h.len T' b' hT'
  · intro T' b' x hT' hx
    exact h.place T' b' x hT' (mem_of_mem_eraseIt hx)
  · intro T1 T' hT1 h1 h2 h3 b'
    rw [next_eraseIt] at h1
    exact List.subset_nil.1 fun x hx => h.skip T1 T' hT1 h1 h2 h3 b' ▸ mem_of_mem_eraseIt hx
  · intro T' b' hT'
    rw [items_eraseIt]
    split
    · exact (h.nodup T b hT).erase it
    · exact h.nodup T' b' hT'
  · intro T1 T2 b1 b2 x hT1 hT2 h1 h2
    exact h.once T1 T2 b1 b2 x hT1 hT2 (mem_of_mem_eraseIt h1) (mem_of_mem_eraseIt h2)

theorem sameItems_setNext (s : Store) (T v : Nat) : ∀ T' b', ((s.setNext T v).bk T' b') = s.bk T' b' :=
  fun T' b' => bk_setNext s T T' b' v

theorem StructInv.setNext {s : Store} (h : StructInv s) {pv nv : Nat} (h1 : nv < pv) (h2 : nv = 0 ∨ s.nb0 ≤ nv)
    (h3 : ∀ T', nv < T' → T' < pv → s.nb0 ≤ T' → EmptyT s T') : StructInv (s.setNext pv nv) := by
  have e : (s.setNext pv nv).bk = s.bk := funext fun T => funext (sameItems_setNext s pv nv T)
  refine ⟨h.nb0, h.top, h.hfr, ?_, by rw [e]; exact h.len, by rw [e]; exact h.place, ?_,
    by rw [e]; exact h.nodup, by rw [e]; exact h.once⟩
  · intro T hT
    rw [next_setNext]
    split
    · rename_i hc; subst hc; exact ⟨h1, h2⟩
    · exact h.nxt T hT
  · intro T T' hT a b c
    rw [EmptyT, e]
    rw [next_setNext] at a
    split at a
    · rename_i hc; subst hc; exact h3 T' a b c
    · exact h.skip T T' hT a b c

theorem mem_resize {s : Store} {T b : Nat} {it : Item} (hT : Tin s.resize T) (hit : it ∈ (s.resize.bk T b).items) :
    Tin s T ∧ it ∈ (s.bk T b).items := by
  rw [bk_resize] at hit
  split at hit
  · cases hit
  · exact ⟨⟨hT.1, by have : T ≤ s.top + 1 := hT.2; omega⟩, hit⟩

theorem StructInv.resize {s : Store} (h : StructInv s) : StructInv s.resize := by
  have tin : ∀ {T}, Tin s.resize T → T = s.top + 1 ∨ Tin s T := fun hT =>
    (Nat.le_succ_iff.1 hT.2).symm.imp_right fun hle => ⟨hT.1, hle⟩
  have old : ∀ {T}, Tin s T → T ≠ s.top + 1 := fun hT => Nat.ne_of_lt (Nat.lt_succ_of_le hT.2)
  have bk : ∀ {T} b, Tin s T → s.resize.bk T b = s.bk T b := fun b hT => by rw [bk_resize, if_neg (old hT)]
  have new : ∀ b, s.resize.bk (s.top + 1) b = {} := fun b => by rw [bk_resize, if_pos rfl]
  refine ⟨h.nb0, Nat.le_succ_of_le h.top, h.hfr, ?_, ?_, ?_, ?_, ?_, ?_⟩
  · intro T hT
    rw [next_resize]
    rcases tin hT with rfl | hc
    · rw [if_pos rfl]; exact ⟨Nat.lt_succ_self _, Or.inr h.top⟩
    · rw [if_neg (old hc)]; exact h.nxt T hc
  · intro T b hT
    rcases tin hT with rfl | hc
    · rw [new]; rfl
    · rw [bk b hc]; exact h.len T b hc
  · exact fun T b it hT hit => h.place T b it (mem_resize hT hit).1 (mem_resize hT hit).2
  · intro T T' hT a b c b'
    rw [next_resize] at a
    rcases tin hT with rfl | hc
    · rw [if_pos rfl] at a; omega
    · rw [if_neg (old hc)] at a
      rw [bk b' ⟨c, Nat.le_trans (Nat.le_of_lt b) hc.2⟩]
      exact h.skip T T' hc a b c b'
  · intro T b hT
    rcases tin hT with rfl | hc
    · rw [new]; exact List.nodup_nil
    · rw [bk b hc]; exact h.nodup T b hc
  · intro T T' b b' it hT hT' a c
    exact h.once T T' b b' it (mem_resize hT a).1 (mem_resize hT' c).1 (mem_resize hT a).2 (mem_resize hT' c).2

theorem stored_resize {s : Store} (x : Item) : Stored s.resize x ↔ Stored s x := by
  constructor
  · exact fun ⟨T, b, hT, hx⟩ => ⟨T, b, mem_resize hT hx⟩
  · rintro ⟨T, b, hT, hx⟩
    refine ⟨T, b, ⟨hT.1, Nat.le_succ_of_le hT.2⟩, ?_⟩
    rw [bk_resize, if_neg (by have := hT.2; omega)]; exact hx

theorem usedCount_congr {s s' : Store} {T : Nat} (h : ∀ b, (s'.bk T b).items = [] ↔ (s.bk T b).items = []) :
    s'.usedCount T = s.usedCount T :=
  List.countP_congr fun b _ => by simp [h b]

theorem usedCount_same {s s' : Store} {T : Nat} (h : ∀ b, (s'.bk T b).items = (s.bk T b).items) :
    s'.usedCount T = s.usedCount T :=
  usedCount_congr fun b => by rw [h b]

theorem usedCount_emptied {s s' : Store} {T b0 : Nat} (hb : b0 < 2 ^ T) (h1 : (s.bk T b0).items ≠ [])
    (h2 : (s'.bk T b0).items = []) (h3 : ∀ b, b ≠ b0 → (s'.bk T b).items = (s.bk T b).items) :
    s'.usedCount T + 1 = s.usedCount T := by
  unfold Store.usedCount
  apply countP_range_off _ _ _ b0 hb
  · simpa using h1
  · simp [h2]
  · intro b hne; simp only [h3 b hne]

theorem emptyT_of_usedCount {s : Store} (h : StructInv s) {T : Nat} (hT : Tin s T) (h0 : s.usedCount T = 0) : EmptyT s T := by
  intro b
  apply List.eq_nil_iff_forall_not_mem.2
  intro it hit
  have hlt : b < 2 ^ T := by rw [h.place T b it hT hit]; exact h.hfr _ _
  have : (s.bk T b).items = [] := by simpa using List.countP_eq_zero.1 h0 b (List.mem_range.2 hlt)
  rw [this] at hit; cases hit

theorem pendingDec_set {thr : List Thread} {u : Nat} {th : Thread} (hu : thr[u]? = some th) (x : Thread) (T : Nat) :
    pendingDec (thr.set u x) T + (if th.pc.isDu T = true then 1 else 0) =
      pendingDec thr T + (if x.pc.isDu T = true then 1 else 0) :=
  Interleave.countP_set_of_getElem? _ hu x

theorem isDu_of_inHand {pc : Pc} (h : pc.inHand = none) (T : Nat) : pc.isDu T = false := by
  cases pc <;> first | rfl | cases h

theorem isReader_of_isDu {pc : Pc} {T : Nat} (h : pc.isDu T = true) : pc.isReader = true := by
  cases pc <;> first | rfl | cases h

theorem pendingDec_zero_of_no_reader {thr : List Thread} (h : ∀ y, y ∈ thr → y.pc.isReader = false) (T : Nat) :
    pendingDec thr T = 0 :=
  List.countP_eq_zero.2 fun y hy hd => by have := h y hy; rw [isReader_of_isDu hd] at this; cases this

theorem UsedInv.same {s m : Store} {thr : List Thread} (h : UsedInv s thr) {u : Nat} {th : Thread} (hu : thr[u]? = some th)
    (x : Thread) (htop : m.top = s.top) (hnb : m.nb0 = s.nb0)
    (hused : ∀ T, T < s.top → (m.tab T).used = (s.tab T).used)
    (huc : ∀ T, T < s.top → m.usedCount T = s.usedCount T)
    (hdu : ∀ T, x.pc.isDu T = th.pc.isDu T) : UsedInv m (thr.set u x) := by
  intro T h1 h2
  rw [hnb] at h1; rw [htop] at h2
  have := pendingDec_set hu x T
  rw [hdu T] at this
  rw [hused T h2, huc T h2, h T h1 h2]
  omega

/-- `hr`, `hw`: the admission rule of the read-write lock -/
theorem Excl.set {thr : List Thread} (h : Excl thr) {u : Nat} {th : Thread} (hu : thr[u]? = some th) (x : Thread)
    (hr : x.pc.isReader = true → th.pc.isReader = true ∨ ∀ y, y ∈ thr → y.pc.isWriter = false)
    (hw : x.pc.isWriter = true → th.pc.isWriter = true ∨ ∀ y, y ∈ thr → y.pc.isReader = false ∧ y.pc.isWriter = false) :
    Excl (thr.set u x) := by
  intro t t' a a' ha ha' hwa hra
  rcases Interleave.getElem?_set_cases ha with ⟨h1, rfl⟩ | ⟨h1, h2⟩
  · rcases Interleave.getElem?_set_cases ha' with ⟨h3, _⟩ | ⟨h3, h4⟩
    · rw [h1, h3]
    · rw [h1]
      refine h u t' th a' hu h4 ((hw hwa).resolve_right fun g => ?_) hra
      have := g a' (List.mem_of_getElem? h4)
      rw [this.1, this.2] at hra
      simp at hra
  · rcases Interleave.getElem?_set_cases ha' with ⟨h3, rfl⟩ | ⟨h3, h4⟩
    · have nw : a.pc.isWriter ≠ false := by simp [hwa]
      have hm := List.mem_of_getElem? h2
      rw [h3]
      exact h t u a th h2 hu hwa (hra.imp (fun r => (hr r).resolve_right fun g => nw (g a hm))
        fun w => (hw w).resolve_right fun g => nw (g a hm).2)
    · exact h t t' a a' h2 h4 hwa hra

theorem Excl.set_same {thr : List Thread} (h : Excl thr) {u : Nat} {th : Thread} (hu : thr[u]? = some th) (x : Thread)
    (hr : x.pc.isReader = true → th.pc.isReader = true) (hw : x.pc.isWriter = true → th.pc.isWriter = true) :
    Excl (thr.set u x) :=
  h.set hu x (fun a => Or.inl (hr a)) (fun a => Or.inl (hw a))

theorem Excl.set_reader {thr : List Thread} (h : Excl thr) {u : Nat} {th : Thread} (hu : thr[u]? = some th) (x : Thread)
    (hr : th.pc.isReader = true) (hw : x.pc.isWriter = false) : Excl (thr.set u x) :=
  h.set_same hu x (fun _ => hr) (by rw [hw]; nofun)

theorem not_writer_of_reader {pc : Pc} (h : pc.isReader = true) : pc.isWriter = false := by
  cases pc <;> first | rfl | cases h

theorem Excl.no_writer {thr : List Thread} (h : Excl thr) {u : Nat} {th : Thread} (hu : thr[u]? = some th)
    (hr : th.pc.isReader = true) {t : Nat} {a : Thread} (ha : thr[t]? = some a) : a.pc.isWriter = false := by
  refine Bool.eq_false_iff.2 fun hw => ?_
  obtain rfl := h t u a th ha hu hw (Or.inl hr)
  rw [hu] at ha; cases ha
  rw [not_writer_of_reader hr] at hw; cases hw

theorem InFlight.set_drop {thr : List Thread} {it : Item} (h : InFlight thr it) {u : Nat} {th : Thread}
    (hu : thr[u]? = some th) (x : Thread) :
    InFlight (thr.set u x) it ∨ (th.op.mv = true ∧ th.pc.inHand = some it) := by
  obtain ⟨t, a, ha, hm, hh⟩ := h
  by_cases htu : t = u
  · subst htu
    rw [hu] at ha; cases ha
    exact Or.inr ⟨hm, hh⟩
  · exact Or.inl ⟨t, a, by rw [List.getElem?_set_ne (Ne.symm htu)]; exact ha, hm, hh⟩

theorem InFlight.set_new {thr : List Thread} {u : Nat} {th : Thread} (hu : thr[u]? = some th) (x : Thread) {it : Item}
    (hm : x.op.mv = true) (hh : x.pc.inHand = some it) : InFlight (thr.set u x) it :=
  ⟨u, x, List.getElem?_set_self (Interleave.lt_of_getElem? hu), hm, hh⟩

theorem InFlight.set_keep {thr : List Thread} {it : Item} (h : InFlight thr it) {u : Nat} {th : Thread}
    (hu : thr[u]? = some th) (x : Thread)
    (hk : th.op.mv = true → th.pc.inHand = some it → x.op.mv = true ∧ x.pc.inHand = some it) :
    InFlight (thr.set u x) it :=
  (h.set_drop hu x).elim id fun ⟨hm, hh⟩ => .set_new hu x (hk hm hh).1 (hk hm hh).2

theorem AbsInv.step {s m : Store} {thr : List Thread} (h : AbsInv s thr) {u : Nat} {th : Thread} (hu : thr[u]? = some th)
    (x : Thread)
    (hin : ∀ y, Stored m y → y ∈ m.abs)
    (hout : ∀ y, y ∈ m.abs → Stored m y ∨ (x.op.mv = true ∧ x.pc.inHand = some y) ∨
              (y ∈ s.abs ∧ (Stored s y → Stored m y) ∧ ¬ (th.op.mv = true ∧ th.pc.inHand = some y)))
    (hkeys : m.abs.Pairwise fun a b => a.key ≠ b.key) : AbsInv m (thr.set u x) := by
  refine ⟨hin, ?_, hkeys⟩
  intro y hy
  rcases hout y hy with h1 | ⟨h1, h2⟩ | ⟨h1, h2, h3⟩
  · exact Or.inl h1
  · exact Or.inr (InFlight.set_new hu x h1 h2)
  · rcases h.absOut y h1 with h4 | h4
    · exact Or.inl (h2 h4)
    -- in flight and not carried by `u` (`h3`): another thread carries it, before and after
    · rcases h4.set_drop hu x with h5 | h5
      · exact Or.inr h5
      · exact absurd h5 h3

theorem AbsInv.same {s m : Store} {thr : List Thread} (h : AbsInv s thr) {u : Nat} {th : Thread} (hu : thr[u]? = some th)
    (x : Thread) (e : ∀ y, Stored m y ↔ Stored s y) (ha : m.abs = s.abs)
    (hh : ∀ y, th.op.mv = true → th.pc.inHand = some y → x.op.mv = true ∧ x.pc.inHand = some y) : AbsInv m (thr.set u x) :=
  ⟨fun y hy => ha ▸ h.absIn y ((e y).1 hy),
   fun y hy => (h.absOut y (ha ▸ hy)).imp (e y).2 fun hf => hf.set_keep hu x (hh y), ha ▸ h.absKeys⟩

/-- the thread has key `k` reserved -/
def Claims (th : Thread) (k : Nat) : Prop := PendIns th k ∨ RmHold th k

theorem UserInv.claims {s : Store} {thr : List Thread} (h : UserInv s thr) {t : Nat} {th : Thread} {k : Nat}
    (ht : thr[t]? = some th) (hc : Claims th k) :
    k ∈ s.kheld ∧ (∀ it, it ∈ s.abs → it.key ≠ k) ∧
      ∀ (t' : Nat) (th' : Thread), thr[t']? = some th' → t' ≠ t → ¬ Claims th' k := by
  rcases hc with hp | hr
  · obtain ⟨g1, g2, g3⟩ := h.uIns t th k ht hp
    exact ⟨g1, g2, fun t' th' ht' hne => not_or.2 (g3 t' th' ht' hne)⟩
  · obtain ⟨g1, g2, g3⟩ := h.uRm t th k ht hr
    refine ⟨g1, g2, fun t' th' ht' hne hc' => hc'.elim (fun hp' => ?_) (g3 t' th' ht' hne)⟩
    exact ((h.uIns t' th' k ht' hp').2.2 t th ht (Ne.symm hne)).2 hr

theorem UserInv.of_claims {m : Store} {thr : List Thread} (hP : ∀ k, k ∈ m.kheld → plainKey k = true)
    (hA : ∀ it, it ∈ m.abs → plainKey it.key = true → it.key ∈ m.kheld)
    (hC : ∀ (t : Nat) (th : Thread) (k : Nat), thr[t]? = some th → Claims th k →
      k ∈ m.kheld ∧ (∀ it, it ∈ m.abs → it.key ≠ k) ∧
        ∀ (t' : Nat) (th' : Thread), thr[t']? = some th' → t' ≠ t → ¬ Claims th' k) : UserInv m thr :=
  ⟨hP, hA,
   fun t th k ht hp => (hC t th k ht (Or.inl hp)).imp_right (.imp_right fun g t' th' ht' hne =>
     not_or.1 (g t' th' ht' hne)),
   fun t th k ht hr => (hC t th k ht (Or.inr hr)).imp_right (.imp_right fun g t' th' ht' hne =>
     (not_or.1 (g t' th' ht' hne)).2)⟩

theorem UserInv.set {s m : Store} {thr : List Thread} (h : UserInv s thr) {u : Nat} {th : Thread} (hu : thr[u]? = some th)
    {x : Thread} (hP : ∀ k, k ∈ m.kheld → plainKey k = true)
    (hA : ∀ it, it ∈ m.abs → plainKey it.key = true → it.key ∈ m.kheld)
    (hx : ∀ k, Claims x k → k ∈ m.kheld ∧ (∀ it, it ∈ m.abs → it.key ≠ k) ∧
      ∀ (t : Nat) (a : Thread), thr[t]? = some a → t ≠ u → ¬ Claims a k)
    (ho : ∀ (t : Nat) (a : Thread) (k : Nat), thr[t]? = some a → t ≠ u → Claims a k →
      k ∈ m.kheld ∧ ∀ it, it ∈ m.abs → it.key ≠ k) : UserInv m (thr.set u x) := by
  refine .of_claims hP hA fun t a k ha hc => ?_
  rcases Interleave.getElem?_set_cases ha with ⟨rfl, rfl⟩ | ⟨hne, hta⟩
  · obtain ⟨g1, g2, g3⟩ := hx k hc
    refine ⟨g1, g2, fun t' a' ha' hne' => ?_⟩
    rcases Interleave.getElem?_set_cases ha' with ⟨e, _⟩ | ⟨_, hta'⟩
    · exact absurd e hne'
    · exact g3 t' a' hta' hne'
  · obtain ⟨g1, g2⟩ := ho t a k hta hne hc
    refine ⟨g1, g2, fun t' a' ha' hne' hc' => ?_⟩
    rcases Interleave.getElem?_set_cases ha' with ⟨_, e⟩ | ⟨_, hta'⟩
    · exact (hx k (e ▸ hc')).2.2 t a hta hne hc
    · exact (h.claims hta hc).2.2 t' a' hta' hne' hc'

theorem UserInv.set_same {s m : Store} {thr : List Thread} (h : UserInv s thr) {u : Nat} {th : Thread}
    (hu : thr[u]? = some th) {x : Thread} (hs : ∀ k, Claims x k → Claims th k) (ha : m.abs = s.abs) (hk : m.kheld = s.kheld) :
    UserInv m (thr.set u x) := by
  refine h.set hu (by rw [hk]; exact h.uPlain) (by rw [ha, hk]; exact h.uAbs) (fun k hc => ?_) (fun t a k hta _ hc => ?_)
  · rw [ha, hk]; exact h.claims hu (hs k hc)
  · rw [ha, hk]; exact ⟨(h.claims hta hc).1, (h.claims hta hc).2.1⟩

theorem not_pendIns_of_pc {th : Thread} (h1 : th.pc ≠ .rd) (h2 : th.pc ≠ .lt) (k : Nat) : ¬ PendIns th k :=
  fun h => h.1.elim h1 h2

theorem not_rmHold_of_linRes {th : Thread} (h : th.pc.linRes = none) (k : Nat) : ¬ RmHold th k := by
  rintro ⟨_, _, r, hr, _⟩; rw [h] at hr; cases hr

theorem not_rmHold_of_op {th : Thread} (h : ∀ k, th.op ≠ .rem k) (k : Nat) : ¬ RmHold th k :=
  fun hh => h k hh.1

theorem not_claims_of_pc {th : Thread} (h1 : th.pc ≠ .rd) (h2 : th.pc ≠ .lt) (h3 : th.pc.linRes = none) (k : Nat) : ¬ Claims th k :=
  fun h => h.elim (not_pendIns_of_pc h1 h2 k) (not_rmHold_of_linRes h3 k)

theorem not_claims_of_mv {th : Thread} (h : th.op.mv = true) (k : Nat) : ¬ Claims th k := by
  rintro (⟨_, i, hi⟩ | ⟨hr, _⟩) <;> simp [*, Op.mv] at h

theorem claims_goto {th : Thread} {pc : Pc}
    (hp : (pc = .rd ∨ pc = .lt) → (th.pc = .rd ∨ th.pc = .lt)) (hl : pc.linRes = th.pc.linRes) (k : Nat)
    (h : Claims (th.goto pc) k) : Claims th k :=
  h.imp (fun c => ⟨hp c.1, c.2⟩) (fun c => by rw [RmHold, ← hl]; exact c)

theorem Spec.step_rejected (σ : List Item) (op : Op) : Spec.step σ op .rejected = some σ := by
  cases op <;> rfl

theorem lookup_of_stored {s : Store} {thr : List Thread} (hS : SInv s thr) {T b : Nat} (hT : Tin s T) {it : Item}
    (hit : it ∈ (s.bk T b).items) : lookup s.abs it.key = some it :=
  lookup_of_mem hS.ab.absKeys (hS.ab.absIn it ⟨T, b, hT, hit⟩)

theorem spec_op_found {σ : List Item} {it : Item} (op : Op) (hni : NoIns op) (hkey : it.key = op.key)
    (hl : lookup σ it.key = some it) : Spec.step σ op (op.res it.id) = some (if op.mv = true then σ else σ.erase it) := by
  cases op with
  | ins k i => exact hni.elim
  | _ =>
    simp only [Op.key] at hkey
    rw [hkey] at hl
    simp [Spec.step, Op.res, Op.mv, hl, idOf]

theorem spec_absent {σ : List Item} {op : Op} (hni : NoIns op) (hf : ∀ k i, op ≠ .foi k i) (hl : lookup σ op.key = none) :
    Spec.step σ op (op.res 0) = some σ := by
  cases op with
  | ins k i => exact hni.elim
  | foi k i => exact absurd rfl (hf k i)
  | _ =>
    simp only [Op.key] at hl
    simp [Spec.step, Op.res, hl, idOf]

theorem spec_foi_absent {σ : List Item} {k i : Nat} (hl : lookup σ k = none) :
    Spec.step σ (.foi k i) (.ptr i) = some (⟨k, i⟩ :: σ) := by
  simp [Spec.step, hl]

theorem spec_ins_absent {σ : List Item} {k i : Nat} (hl : lookup σ k = none) :
    Spec.step σ (.ins k i) .unit = some (⟨k, i⟩ :: σ) := by
  simp [Spec.step, hl]

/-- what thread `u` may do to the store -/
structure Guar (u : Nat) (s m : Store) : Prop where
  top : m.top = s.top
  nb0 : m.nb0 = s.nb0
  hf : m.hf = s.hf
  lock : ∀ T b, (m.bk T b).lock = (s.bk T b).lock ∨ (s.bk T b).lock = 0 ∨ (s.bk T b).lock = u + 1
  items : ∀ T b it, it ∈ (m.bk T b).items → it ∈ (s.bk T b).items ∨
            (T = s.top ∧ b = s.hf it.key s.top ∧ ((s.bk T b).lock = 0 ∨ (s.bk T b).lock = u + 1))
  abs : ∀ it, it ∈ s.abs → it ∈ m.abs ∨ Stored s it

theorem Guar.rely {u t : Nat} {s m : Store} (g : Guar u s m) (h : t ≠ u) : Rely t s m := by
  have free : ∀ {T b}, (s.bk T b).lock = 0 ∨ (s.bk T b).lock = u + 1 → (s.bk T b).lock ≠ t + 1 := by
    intro T b h1 hl; omega
  refine ⟨g.top, g.nb0, g.hf, ?_, ?_, ?_, g.abs⟩
  · intro T b hl
    rcases g.lock T b with h1 | h1
    · rw [h1]; exact hl
    · exact absurd hl (free h1)
  · intro T b it hT hit
    exact (g.items T b it hit).resolve_right fun h1 => Nat.ne_of_lt hT h1.1
  · intro b it hit hn
    obtain ⟨_, h2, h3⟩ := (g.items s.top b it hit).resolve_left hn
    exact ⟨h2, free h3⟩

theorem Guar.same {u : Nat} {s m : Store} (e : SameStore s m)
    (hl : ∀ T b, (m.bk T b).lock = (s.bk T b).lock ∨ (s.bk T b).lock = 0 ∨ (s.bk T b).lock = u + 1)
    (ha : m.abs = s.abs) : Guar u s m :=
  ⟨e.top, e.nb0, e.hf, hl, fun T b it hit => Or.inl (by rw [e.items] at hit; exact hit), fun it hit => Or.inl (by rw [ha]; exact hit)⟩

/-- thread `u` changed at most lock words that were free or its own, and fields that no clause of the invariant reads
    (`warned`, `iheld`) -/
structure Pre (u : Nat) (s s1 : Store) : Prop where
  e : SameStore s s1
  abs : s1.abs = s.abs
  kheld : s1.kheld = s.kheld
  used : ∀ T, (s1.tab T).used = (s.tab T).used
  lockG : ∀ T b', (s1.bk T b').lock = (s.bk T b').lock ∨ (s.bk T b').lock = 0 ∨ (s.bk T b').lock = u + 1

theorem Pre.refl (u : Nat) (s : Store) : Pre u s s := ⟨SameStore.refl s, rfl, rfl, fun _ => rfl, fun _ _ => Or.inl rfl⟩

theorem pre_setLock {u : Nat} {s : Store} {T b : Nat} (v : Nat) (h : (s.bk T b).lock = 0 ∨ (s.bk T b).lock = u + 1) :
    Pre u s (s.setLock T b v) := by
  refine ⟨sameStore_setLock s _ _ _, rfl, rfl, fun T' => used_setLock s _ _ T' _, fun T' b' => ?_⟩
  rw [lock_setLock]
  split
  · rename_i hc; rw [hc.1, hc.2]; exact Or.inr h
  · exact Or.inl rfl

theorem rely_setLock (s : Store) (T b u : Nat) : Rely u s (s.setLock T b (u + 1)) := by
  refine ⟨rfl, rfl, rfl, fun T' b' h => ?_, fun T' b' it _ h => by rwa [items_setLock] at h,
    fun b' it h hn => absurd (by rwa [items_setLock] at h) hn, fun it h => Or.inl h⟩
  rw [lock_setLock]; split
  · rfl
  · exact h

def SpecOk (σ σ' : List Item) : Option LinRec → Prop
  | some l => Spec.step σ l.op l.res = some σ'
  | none => σ' = σ

structure StepOk (s : Store) (thr : List Thread) (u : Nat) (o : Out) : Prop where
  sinv : SInv o.m (thr.set u o.th)
  tinv : TInv o.m u o.th.op o.th.pc
  rely : ∀ t, t ≠ u → ∀ a, thr[t]? = some a → a.pc.isReader = true → Rely t s o.m
  spec : SpecOk s.abs o.m.abs o.lin

theorem StepOk.intro {s m : Store} {thr : List Thread} {u : Nat} {x : Thread} {lin : Option LinRec}
    (sinv : SInv m (thr.set u x)) (tinv : TInv m u x.op x.pc)
    (rely : ∀ t, t ≠ u → Rely t s m) (spec : SpecOk s.abs m.abs lin) : StepOk s thr u ⟨m, x, lin⟩ :=
  ⟨sinv, tinv, fun t ht _ _ _ => rely t ht, spec⟩

section
variable {s m : Store} {thr : List Thread} {u : Nat} {th x : Thread} {lin : Option LinRec}
  (hS : SInv s thr) (hu : thr[u]? = some th)
include hS hu

theorem SInv.same (e : SameStore s m) (ha : m.abs = s.abs)
    (hused : ∀ T, (m.tab T).used = (s.tab T).used) (hth : th.pc.inHand = none) (hx : x.pc.inHand = none)
    (hex : Excl (thr.set u x)) (huser : UserInv m (thr.set u x)) : SInv m (thr.set u x) :=
  ⟨hS.st.congr e, hS.used.same hu x e.top e.nb0 (fun T _ => hused T) (fun T _ => e.usedCount T)
      (fun T => by rw [isDu_of_inHand hth, isDu_of_inHand hx]),
    hS.ab.same hu x e.stored ha (fun y _ h => by rw [hth] at h; cases h), hex, huser⟩

theorem StepOk.same (e : SameStore s m) (ha : m.abs = s.abs)
    (hused : ∀ T, (m.tab T).used = (s.tab T).used)
    (hl : ∀ T b, (m.bk T b).lock = (s.bk T b).lock ∨ (s.bk T b).lock = 0 ∨ (s.bk T b).lock = u + 1)
    (hth : th.pc.inHand = none) (hx : x.pc.inHand = none)
    (hex : Excl (thr.set u x)) (huser : UserInv m (thr.set u x)) (hT : TInv m u x.op x.pc)
    (hsp : SpecOk s.abs s.abs lin) : StepOk s thr u ⟨m, x, lin⟩ :=
  .intro (hS.same hu e ha hused hth hx hex huser) hT (fun _ => (Guar.same e hl ha).rely) (ha ▸ hsp)

theorem StepOk.quiet (p : Pre u s m)
    (hth : th.pc.inHand = none) (hx : x.pc.inHand = none)
    (hex : Excl (thr.set u x)) (hc : ∀ k, Claims x k → Claims th k) (hT : TInv m u x.op x.pc)
    (hsp : SpecOk s.abs s.abs lin) : StepOk s thr u ⟨m, x, lin⟩ :=
  .same hS hu p.e p.abs p.used p.lockG hth hx hex (hS.user.set_same hu hc p.abs p.kheld) hT hsp

theorem stepOk_stay (hth : th.pc.inHand = none) (hT : TInv s u th.op th.pc) : StepOk s thr u (stay s th) :=
  .quiet hS hu (.refl u s) hth hth (hS.excl.set_same hu th id id) (fun _ h => h) hT rfl

/-- Taking a free lock changes nothing the invariant sees, the stepping thread can itself rely on it, and the rely of
    the others composes across it: the rest of the step is verified on the store in which the lock is already held. -/
theorem StepOk.locked {o : Out} {T b : Nat} (hth : th.pc.inHand = none) (hfree : (s.bk T b).lock = 0) (hT : TInv s u th.op th.pc)
    (h : SInv (s.setLock T b (u + 1)) thr → TInv (s.setLock T b (u + 1)) u th.op th.pc →
      ((s.setLock T b (u + 1)).bk T b).lock = u + 1 → StepOk (s.setLock T b (u + 1)) thr u o) : StepOk s thr u o := by
  have p := pre_setLock (u := u) (u + 1) (Or.inl hfree)
  have h := h (Interleave.set_getElem?_self hu ▸ hS.same hu p.e p.abs p.used hth hth (hS.excl.set_same hu th id id)
    (hS.user.set_same hu (fun _ h => h) p.abs p.kheld)) (hT.stable fun _ => rely_setLock s T b u) (by rw [lock_setLock, if_pos ⟨rfl, rfl⟩])
  exact ⟨h.sinv, h.tinv, fun t ht a ha hr =>
    ((Guar.same p.e p.lockG p.abs).rely ht).trans (h.rely t ht a ha hr) fun it => (p.e.stored it).1, h.spec⟩

end

end ParsecVerif.HashTable
