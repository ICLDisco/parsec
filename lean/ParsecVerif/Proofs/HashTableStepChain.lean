/-
  The steps that change a chain: `lt`, `nx`, `lo`, `du`, `cn`.  An item moves in two halves: `Cut`/`Unlinked`
  describe a store with the item out of its chain, `push_top` chains it at the top.  A step that takes a
  lock is verified on the store in which the lock is already held (`StepOk.locked`), so every lemma here
  speaks of one store.
-/
import ParsecVerif.Proofs.HashTableFrame

namespace ParsecVerif.HashTable

theorem holds_congr {s m : Store} (htop : m.top = s.top) (hhf : m.hf = s.hf)
    (hl : ∀ T b, (m.bk T b).lock = (s.bk T b).lock) (u k hd : Nat) :
    (HoldsTop s u k → HoldsTop m u k) ∧ (HoldsOld s u k hd → HoldsOld m u k hd) := by
  unfold HoldsTop HoldsOld
  rw [htop, hhf, hl, hl]; exact ⟨id, id⟩

theorem sameStore_withAbs (m : Store) (A : List Item) : SameStore m { m with abs := A } :=
  ⟨fun _ _ => rfl, fun _ _ => rfl, fun _ => rfl, rfl, rfl, rfl⟩

theorem rem_of_not_mv {op : Op} (h : NoIns op) (hm : op.mv = false) : ∃ k, op = .rem k := by
  cases op with
  | rem k => exact ⟨k, rfl⟩
  | ins k i => exact h.elim
  | find k => cases hm
  | foi k i => cases hm

section
variable (s : Store) (th : Thread) (it : Item)

theorem top_mvInsert : (mvInsert s th it).top = s.top := by unfold mvInsert; split <;> rfl
theorem nb0_mvInsert : (mvInsert s th it).nb0 = s.nb0 := by unfold mvInsert; split <;> rfl
theorem hf_mvInsert : (mvInsert s th it).hf = s.hf := by unfold mvInsert; split <;> rfl
theorem abs_mvInsert : (mvInsert s th it).abs = s.abs := by unfold mvInsert; split <;> rfl
theorem kheld_mvInsert : (mvInsert s th it).kheld = s.kheld := by unfold mvInsert; split <;> rfl

theorem lock_mvInsert (T b : Nat) : ((mvInsert s th it).bk T b).lock = (s.bk T b).lock := by
  unfold mvInsert; split
  · exact lock_pushFront ..
  · rfl

end

theorem userInv_new_item {s m : Store} {thr : List Thread} (h : UserInv s thr) {u : Nat} {th : Thread} (hu : thr[u]? = some th)
    {it : Item} (hma : m.abs = it :: s.abs) (hmk : m.kheld = s.kheld)
    (hplain : plainKey it.key = true → it.key ∈ s.kheld)
    (hoth : ∀ (t : Nat) (a : Thread), thr[t]? = some a → t ≠ u → ¬ Claims a it.key)
    {x : Thread} (hx : ∀ k, ¬ Claims x k) : UserInv m (thr.set u x) := by
  refine h.set hu (by rw [hmk]; exact h.uPlain) (fun y hy hp => ?_) (fun k hc => absurd hc (hx k)) (fun t a k ha hne hc => ?_)
  · rw [hma] at hy; rw [hmk]
    rcases List.mem_cons.1 hy with e | e
    · rw [e] at hp ⊢; exact hplain hp
    · exact h.uAbs y e hp
  · rw [hmk, hma]
    refine ⟨(h.claims ha hc).1, fun y hy hk => ?_⟩
    rcases List.mem_cons.1 hy with e | e
    · exact hoth t a ha hne (by rw [← e, hk]; exact hc)
    · exact (h.claims ha hc).2.1 y e hk

theorem userInv_rem_item {s m : Store} {thr : List Thread} (h : UserInv s thr) (hkeys : s.abs.Pairwise fun a b => a.key ≠ b.key)
    {u : Nat} {th : Thread} (hu : thr[u]? = some th)
    {it : Item} (hit : it ∈ s.abs) (hma : m.abs = s.abs.erase it) (hmk : m.kheld = s.kheld)
    {x : Thread} (hnp : ∀ k, ¬ PendIns x k) (hop : x.op = .rem it.key) : UserInv m (thr.set u x) := by
  have hsub : ∀ y, y ∈ m.abs → y ∈ s.abs := fun y hy => by rw [hma] at hy; exact List.mem_of_mem_erase hy
  refine h.set hu (by rw [hmk]; exact h.uPlain) (fun y hy hp => by rw [hmk]; exact h.uAbs y (hsub y hy) hp)
    (fun k hc => ?_) (fun t a k ha hne hc => by rw [hmk]; exact ⟨(h.claims ha hc).1, fun y hy => (h.claims ha hc).2.1 y (hsub y hy)⟩)
  have hr := hc.resolve_left (hnp k)
  obtain rfl : it.key = k := by have := hr.1; rw [hop] at this; cases this; rfl
  refine ⟨by rw [hmk]; exact h.uAbs it hit hr.2.1, fun y hy hk => ?_, fun t a ha _ hc' => (h.claims ha hc').2.1 it hit rfl⟩
  rw [hma] at hy
  have h1 := (List.Nodup.mem_erase_iff (nodup_of_keys hkeys)).1 hy
  exact h1.1 (eq_of_key_eq hkeys h1.2 hit hk)

theorem usedInv_pushFront {s : Store} {thr : List Thread} (h : UsedInv s thr) (b : Nat) (it : Item) :
    UsedInv (s.pushFront s.top b it) thr := by
  intro T h1 h2
  have h2' : T < s.top := h2
  have hc : ∀ b', ((s.pushFront s.top b it).bk T b').items = (s.bk T b').items := fun b' => by
    rw [items_pushFront, if_neg (fun hc => by omega)]
  rw [used_pushFront, usedCount_same hc]
  exact h T h1 h2'

theorem usedInv_mvInsert {s : Store} {thr : List Thread} (h : UsedInv s thr) (th : Thread) (it : Item) :
    UsedInv (mvInsert s th it) thr := by
  unfold mvInsert
  split
  · exact usedInv_pushFront h _ it
  · exact h

/-- `s'` is `s` with the item `it` in no chain: unlinked in this very step, or in the hand of the stepping
    thread all along -/
structure Cut (s s' : Store) (it : Item) : Prop where
  st : StructInv s'
  top : s'.top = s.top
  nb0 : s'.nb0 = s.nb0
  hf : s'.hf = s.hf
  stored : ∀ y, Stored s' y ↔ Stored s y ∧ y ≠ it
  sub : ∀ T b y, y ∈ (s'.bk T b).items → y ∈ (s.bk T b).items
  lock : ∀ T b, (s'.bk T b).lock = (s.bk T b).lock

theorem Cut.guar {u : Nat} {s s' : Store} {it : Item} (c : Cut s s' it)
    (habs : ∀ y, y ∈ s.abs → y ∈ s'.abs ∨ Stored s y) : Guar u s s' :=
  ⟨c.top, c.nb0, c.hf, fun T b => Or.inl (c.lock T b), fun T b y hy => Or.inl (c.sub T b y hy), habs⟩

theorem Cut.holdsTop {u k : Nat} {s s' : Store} {it : Item} (c : Cut s s' it) : HoldsTop s u k → HoldsTop s' u k :=
  (holds_congr c.top c.hf c.lock u k 0).1

theorem Cut.of_not_stored {s s' : Store} (hst : StructInv s') (hbk : ∀ T b, s'.bk T b = s.bk T b) (htop : s'.top = s.top)
    (hnb : s'.nb0 = s.nb0) (hhf : s'.hf = s.hf) {it : Item} (hns : ¬ Stored s it) : Cut s s' it := by
  refine ⟨hst, htop, hnb, hhf, fun y => ?_, fun T b y hy => by rw [hbk] at hy; exact hy, fun T b => by rw [hbk]⟩
  have : Stored s' y ↔ Stored s y := by unfold Stored Tin; simp only [hbk, htop, hnb]
  rw [this]
  exact ⟨fun h => ⟨h, fun hc => hns (hc ▸ h)⟩, And.left⟩

def pushAbs (s : Store) (it : Item) (A : List Item) : Store := { s.pushFront s.top (s.hf it.key s.top) it with abs := A }

theorem bk_pushAbs (s : Store) (it : Item) (A : List Item) (T b : Nat) :
    (pushAbs s it A).bk T b = (s.pushFront s.top (s.hf it.key s.top) it).bk T b := rfl

theorem mem_iff_eq_or_mem {it : Item} {l : List Item} (h : it ∈ l) (y : Item) : y ∈ l ↔ y = it ∨ y ∈ l :=
  ⟨Or.inr, fun h' => h'.elim (fun e => e ▸ h) id⟩

/-- The ghost map `A` is that of `s`, with the item if it is new: a new item is cut from `s` too, it was
    nowhere. -/
theorem push_top {s s' : Store} {thr : List Thread} {u : Nat} {th : Thread} {it : Item} (c : Cut s s' it) (hab : AbsInv s thr)
    (hu : thr[u]? = some th) {A : List Item} (hA : ∀ y, y ∈ A ↔ y = it ∨ y ∈ s.abs) (hkeys : A.Pairwise fun a b => a.key ≠ b.key)
    (hl : HoldsTop s u it.key) (hth : ∀ y, th.pc.inHand = some y → y = it) (x : Thread) :
    StructInv (pushAbs s' it A) ∧ AbsInv (pushAbs s' it A) (thr.set u x) ∧ HoldsTop (pushAbs s' it A) u it.key ∧
    Guar u s (pushAbs s' it A) := by
  have e : SameStore (s'.pushFront s'.top (s'.hf it.key s'.top) it) (pushAbs s' it A) := sameStore_withAbs _ _
  have hstored : ∀ y, Stored (pushAbs s' it A) y ↔ y = it ∨ Stored s' y := fun y => by
    rw [e.stored, stored_pushFront c.st.top]
  refine ⟨(c.st.pushTop rfl (fun h => ((c.stored it).1 h).2 rfl)).congr e, ?_, ?_, c.top, c.nb0, c.hf, fun T b => ?_,
    fun T b y hy => ?_, fun y hy => Or.inl ((hA y).2 (Or.inr hy))⟩
  · refine hab.step hu x (fun y hy => (hA y).2 ?_) (fun y hy => ?_) hkeys
    · exact ((hstored y).1 hy).imp_right fun h => hab.absIn y ((c.stored y).1 h).1
    · by_cases hyi : y = it
      · exact Or.inl ((hstored y).2 (Or.inl hyi))
      · exact Or.inr (Or.inr ⟨((hA y).1 hy).resolve_left hyi, fun hst => (hstored y).2 (Or.inr ((c.stored y).2 ⟨hst, hyi⟩)),
          fun hc => hyi (hth y hc.2)⟩)
  · unfold HoldsTop
    rw [bk_pushAbs, lock_pushFront]; exact c.holdsTop hl
  · rw [bk_pushAbs, lock_pushFront]; exact Or.inl (c.lock T b)
  · rw [bk_pushAbs] at hy
    rcases (mem_pushFront ..).1 hy with ⟨hc, h⟩ | h
    · rw [h, hc.1, hc.2, c.top, c.hf]; exact Or.inr ⟨rfl, rfl, Or.inr hl⟩
    · exact Or.inl (c.sub T b y h)

theorem push_back {s : Store} {thr : List Thread} (hS : SInv s thr) {u : Nat} {th : Thread} (hu : thr[u]? = some th)
    {it : Item} (hl : HoldsTop s u it.key) (hns : ¬ Stored s it) (hin : it ∈ s.abs)
    (x : Thread) (hth : th.pc.inHand = some it) :
    StructInv (s.pushFront s.top (s.hf it.key s.top) it) ∧
    AbsInv (s.pushFront s.top (s.hf it.key s.top) it) (thr.set u x) ∧
    HoldsTop (s.pushFront s.top (s.hf it.key s.top) it) u it.key ∧ Guar u s (s.pushFront s.top (s.hf it.key s.top) it) :=
  push_top (.of_not_stored hS.st (fun _ _ => rfl) rfl rfl rfl hns) hS.ab hu (mem_iff_eq_or_mem hin) hS.ab.absKeys hl
    (fun y hy => by rw [hth] at hy; cases hy; rfl) x

theorem mv_tail {s s' : Store} {thr : List Thread} {u : Nat} {th : Thread} {it : Item} (c : Cut s s' it) (hab : AbsInv s thr)
    (hu : thr[u]? = some th) (habs : s'.abs = s.abs) (hl : HoldsTop s u it.key) (hmv : th.op.mv = true → it ∈ s.abs)
    (hrm : th.op.mv = false → ¬ Stored s it)
    (hth : ∀ y, th.pc.inHand = some y → y = it) (hkey : it.key = th.op.key) (x : Thread) :
    StructInv (mvInsert s' th it) ∧ AbsInv (mvInsert s' th it) (thr.set u x) ∧ HoldsTop (mvInsert s' th it) u th.op.key ∧
    Guar u s (mvInsert s' th it) := by
  unfold mvInsert tbk
  rw [← hkey]
  cases hm : th.op.mv with
  | true =>
    exact push_top c hab hu (fun y => by rw [habs]; exact mem_iff_eq_or_mem (hmv hm) y) (habs ▸ hab.absKeys) hl hth x
  | false =>
    simp only [Bool.false_eq_true, if_false]
    refine ⟨c.st, ?_, c.holdsTop hl, c.guar fun y hy => Or.inl (by rw [habs]; exact hy)⟩
    refine hab.step hu x (fun y hy => ?_) (fun y hy => ?_) (by rw [habs]; exact hab.absKeys)
    · rw [habs]; exact hab.absIn y ((c.stored y).1 hy).1
    · rw [habs] at hy
      exact Or.inr (Or.inr ⟨hy, fun hst => (c.stored y).2 ⟨hst, fun e => hrm hm (e ▸ hst)⟩, fun hc => by rw [hm] at hc; cases hc.1⟩)

theorem ltBody_of_noIns {op : Op} (h : NoIns op) (s : Store) (t now : Nat) (th : Thread) (b : Nat) :
    ltBody s t now th b op = match scan (s.bk s.top b).items op.key with
      | some it => linAt (if op.mv = true then s else { s.eraseIt s.top b it with abs := s.abs.erase it }) t now th (.ult it.id) it.id
      | none => ⟨s, th.goto (.nx s.top), none⟩ := by
  cases op with
  | ins k i => exact h.elim
  | _ => rfl

theorem ins_of_not_noIns {op : Op} (h : ¬ NoIns op) : ∃ k i, op = .ins k i := by
  cases op with
  | ins k i => exact ⟨k, i, rfl⟩
  | _ => exact absurd trivial h

/-- the tables between `cur` and `cur->next` are empty -/
theorem notIn_above_next {s : Store} (hst : StructInv s) {k cur : Nat} (hcur : Tin s cur) (h : NotIn s k cur) {T : Nat}
    (hT : Tin s T) (hlt : (s.tab cur).next < T) : ¬ KeyIn s k T := by
  rcases Nat.lt_or_ge T cur with hlt' | hge
  · rintro ⟨y, hy, _⟩
    rw [hst.skip cur T hcur hlt hlt' hT.1] at hy; cases hy
  · exact h T hge hT.2

theorem erase_nil_iff {s : Store} (hst : StructInv s) {T b : Nat} (hT : Tin s T) {it : Item} (hit : it ∈ (s.bk T b).items) :
    (s.bk T b).len - 1 = 0 ↔ (s.bk T b).items.erase it = [] := by
  rw [hst.len T b hT, ← List.length_eq_zero_iff, List.length_erase_of_mem hit]
  have := List.length_pos_of_mem hit
  omega

/-- `m` is `s` with `it` unlinked from bucket `b` of table `T`; what becomes of the ghost map is left open -/
structure Unlinked (s m : Store) (T b : Nat) (it : Item) : Prop extends Cut s m it where
  tin : Tin s T
  mem : it ∈ (s.bk T b).items
  kheld : m.kheld = s.kheld
  used : ∀ T', (m.tab T').used = (s.tab T').used
  items : ∀ T' b', (m.bk T' b').items = if T' = T ∧ b' = b then (s.bk T b).items.erase it else (s.bk T' b').items

theorem unlinked_erase {s : Store} (hst : StructInv s) {T b : Nat} {it : Item} (hT : Tin s T)
    (hit : it ∈ (s.bk T b).items) (A : List Item) : Unlinked s { s.eraseIt T b it with abs := A } T b it := by
  have e : SameStore (s.eraseIt T b it) { s.eraseIt T b it with abs := A } := sameStore_withAbs _ _
  refine ⟨⟨(hst.erase hT hit).congr e, rfl, rfl, rfl, fun y => ?_, fun T' b' y hy => mem_of_mem_eraseIt (s := s) hy,
    fun T' b' => lock_eraseIt ..⟩, hT, hit, rfl, fun T' => used_eraseIt .., fun T' b' => items_eraseIt ..⟩
  rw [e.stored, stored_erase hst hT hit]

section
variable {u : Nat} {s m : Store} {T b : Nat} {it : Item} (w : Unlinked s m T b it)
  {thr : List Thread} {th : Thread} (hu : thr[u]? = some th) (x : Thread)
include w hu

/-- `hnn`: the unlink is in the top-level table, or another item stays in the bucket -/
theorem Unlinked.usedInv_same (h : UsedInv s thr) (hnn : T < s.top → (s.bk T b).items.erase it ≠ [])
    (hdu : ∀ T, x.pc.isDu T = th.pc.isDu T) : UsedInv m (thr.set u x) := by
  refine h.same hu x w.top w.nb0 (fun T' _ => w.used T') (fun T' hT' => usedCount_congr fun b' => ?_) hdu
  rw [w.items]
  split
  · rename_i hc
    rw [hc.1, hc.2]
    exact ⟨fun h => absurd h (hnn (hc.1 ▸ hT')), fun h => by have := w.mem; rw [h] at this; cases this⟩
  · rfl

/-- the unlink emptied the bucket: the stepping thread now owes the decrement -/
theorem Unlinked.usedInv_emptied (h : UsedInv s thr) (hb : b < 2 ^ T) (hnil : (s.bk T b).items.erase it = [])
    (hth : ∀ T, th.pc.isDu T = false) (hx : ∀ T', x.pc.isDu T' = (T == T')) : UsedInv m (thr.set u x) := by
  intro T' g1 g2
  rw [w.nb0] at g1; rw [w.top] at g2
  have hp := pendingDec_set hu x T'
  rw [hth T', hx T'] at hp
  rw [w.used, h T' g1 g2]
  by_cases hT : T = T'
  · subst hT
    have := usedCount_emptied (s := s) (s' := m) hb (fun h' => by have := w.mem; rw [h'] at this; cases this)
      (by rw [w.items, if_pos ⟨rfl, rfl⟩]; exact hnil) (fun b' hne => by rw [w.items, if_neg (fun hc => hne hc.2)])
    simp at hp
    omega
  · have hc : m.usedCount T' = s.usedCount T' := usedCount_same fun b' => by rw [w.items, if_neg (fun hc => hT hc.1.symm)]
    simp [hT] at hp
    rw [hc]; omega

end

section
variable {s : Store} {u : Nat} {th : Thread} {hd pv : Nat}
  (hT : TInv s u th.op (.lo hd pv)) (ho : HoldsOld s u th.op.key hd)
include hT ho

theorem tinv_ulo_of_lo {m : Store} (htop : m.top = s.top) (hnb : m.nb0 = s.nb0) (hhf : m.hf = s.hf)
    (hl : ∀ T b, (m.bk T b).lock = (s.bk T b).lock) (r : Option Item) (hr : r = none → NotIn m th.op.key hd) :
    TInv m u th.op (.ulo hd r) := by
  obtain ⟨h1, h2, h3, h4, h5, h6, _⟩ := hT
  have hh := holds_congr htop hhf hl u th.op.key hd
  exact ⟨h1, h2, hh.1 h3, hh.2 ho, by rw [hnb]; exact h4, by rw [htop]; exact Nat.lt_of_lt_of_le h5 h6, hr⟩

theorem tinv_du_of_lo {m : Store} {it : Item} (w : Unlinked s m hd (s.hf th.op.key hd) it)
    (hkey : it.key = th.op.key) (hnil : (s.bk hd (s.hf th.op.key hd)).items.erase it = [])
    (habs : th.op.mv = true → it ∈ m.abs) : TInv m u th.op (.du hd pv it) := by
  obtain ⟨h1, h2, h3, h4, h5, h6, _⟩ := hT
  have hh := holds_congr w.top w.hf w.lock u th.op.key hd
  exact ⟨h1, h2, hh.1 h3, hh.2 ho, by rw [w.nb0]; exact h4, h5, by rw [w.top]; exact h6, hkey,
    fun h => ((w.stored it).1 h).2 rfl, by rw [w.hf, w.items, if_pos ⟨rfl, rfl⟩]; exact hnil, habs⟩

end

section
variable {s : Store} {thr : List Thread} {u now : Nat} {th : Thread} (hS : SInv s thr) (hu : thr[u]? = some th)
include hS hu

/-- the linearization point of an `ins`, or of a find-or-insert that found nothing -/
theorem stepOk_push_new {it : Item} (hkey : it.key = th.op.key) (hl : HoldsTop s u it.key)
    (hk : ∀ y, y ∈ s.abs → y.key ≠ it.key) (hplain : plainKey it.key = true → it.key ∈ s.kheld)
    (hoth : ∀ (t : Nat) (a : Thread), thr[t]? = some a → t ≠ u → ¬ Claims a it.key) (hnr : ∀ k, th.op ≠ .rem k)
    (hth : th.pc.inHand = none) (hrd : th.pc.isReader = true) (r : Nat)
    (hsp : Spec.step s.abs th.op (th.op.res r) = some (it :: s.abs)) :
    StepOk s thr u (linAt { s.pushFront s.top (tbk s th) it with abs := it :: s.abs } u now th (.ult r) r) := by
  rw [show tbk s th = s.hf it.key s.top by rw [hkey]; rfl]
  obtain ⟨pst, pab, ptop, pg⟩ := push_top (A := it :: s.abs)
    (.of_not_stored hS.st (fun _ _ => rfl) rfl rfl rfl fun h => hk it (hS.ab.absIn it h) rfl) hS.ab hu (fun y => List.mem_cons)
    (List.pairwise_cons.2 ⟨fun y hy => (hk y hy).symm, hS.ab.absKeys⟩) hl
    (fun y hy => by rw [hth] at hy; cases hy) { th with pc := .ult r, tLin := now }
  refine .intro ⟨pst, usedInv_pushFront (hS.used.same hu { th with pc := .ult r, tLin := now } rfl rfl (fun _ _ => rfl)
    (fun _ _ => rfl) (fun T => (isDu_of_inHand hth T).symm)) _ it, pab, hS.excl.set_reader hu _ hrd rfl, ?_⟩ ?_
    (fun t => pg.rely) hsp
  · exact userInv_new_item (m := pushAbs s it (it :: s.abs)) hS.user hu rfl rfl hplain hoth
      fun k hc => hc.elim (not_pendIns_of_pc (by simp) (by simp) k) (fun c => hnr k c.1)
  · show HoldsTop _ u th.op.key
    rw [← hkey]; exact ptop

theorem stepOk_rm {m : Store} {T b : Nat} {it : Item} (w : Unlinked s m T b it) (habs : m.abs = s.abs.erase it)
    (hth : th.pc.inHand = none) (hrd : th.pc.isReader = true) {x : Thread} (hop : x.op = .rem it.key)
    (hxw : x.pc.isWriter = false) (hx1 : x.pc ≠ .rd) (hx2 : x.pc ≠ .lt)
    (hused : UsedInv m (thr.set u x)) (htinv : TInv m u x.op x.pc) (lin : Option LinRec)
    (hsp : SpecOk s.abs (s.abs.erase it) lin) : StepOk s thr u ⟨m, x, lin⟩ := by
  have hst : Stored s it := ⟨T, b, w.tin, w.mem⟩
  refine .intro ⟨w.st, hused, ?_, hS.excl.set_reader hu _ hrd hxw,
      userInv_rem_item hS.user hS.ab.absKeys hu (hS.ab.absIn it hst) habs w.kheld (not_pendIns_of_pc hx1 hx2) hop⟩
    htinv (fun t => (w.guar fun y hy => ?_).rely) (by rw [habs]; exact hsp)
  · refine hS.ab.step hu x (fun y hy => ?_) (fun y hy => ?_) (by rw [habs]; exact hS.ab.absKeys.sublist List.erase_sublist)
    · rw [habs]
      have := (w.stored y).1 hy
      exact (List.mem_erase_of_ne this.2).2 (hS.ab.absIn y this.1)
    · rw [habs] at hy
      have h1 := (nodup_of_keys hS.ab.absKeys).mem_erase_iff.1 hy
      exact Or.inr (Or.inr ⟨h1.2, fun hst => (w.stored y).2 ⟨hst, h1.1⟩, fun hc => by rw [hth] at hc; cases hc.2⟩)
  · rw [habs]
    by_cases hyi : y = it
    · rw [hyi]; exact Or.inr hst
    · exact Or.inl ((List.mem_erase_of_ne hyi).2 hy)

theorem stepOk_ltBody (hpc : th.pc = .lt) (hT : TInv s u th.op .lt) (hl : HoldsTop s u th.op.key) :
    StepOk s thr u (ltBody s u now th (tbk s th) th.op) := by
  have hh : th.pc.inHand = none := by rw [hpc]; rfl
  have hrd : th.pc.isReader = true := by rw [hpc]; rfl
  have hTop := hS.st.tin_top
  by_cases hni : NoIns th.op
  · rw [ltBody_of_noIns hni]
    split
    · rename_i it hsc
      obtain ⟨hit, hkey⟩ := scan_some hsc
      have hsp := spec_op_found th.op hni hkey (lookup_of_stored hS hTop hit)
      cases hmv : th.op.mv <;> rw [hmv] at hsp
      · simp only [Bool.false_eq_true, if_false]
        obtain ⟨k, hop⟩ := rem_of_not_mv hni hmv
        have w := unlinked_erase hS.st hTop hit (s.abs.erase it)
        exact stepOk_rm hS hu w rfl hh hrd (x := { th with pc := .ult it.id, tLin := now })
          (by rw [hkey, hop]; rfl) rfl (by simp) (by simp)
          (w.usedInv_same hu _ hS.used (fun h => absurd h (Nat.lt_irrefl _)) (fun T => (isDu_of_inHand hh T).symm))
          (w.holdsTop hl) _ hsp
      · exact .quiet hS hu (.refl u s) hh rfl (hS.excl.set_reader hu _ hrd rfl)
          (fun k hc => absurd hc (not_claims_of_mv (th := { th with pc := .ult it.id, tLin := now }) hmv k)) hl hsp
    · rename_i hsc
      refine .quiet hS hu (.refl u s) hh rfl
        (hS.excl.set_reader hu _ hrd rfl) (claims_goto (by simp) (by rw [hpc]; rfl))
        ⟨hT, hni, hl, hS.st.top, Nat.le_refl _, ?_⟩ rfl
      intro T h1 h2 hk
      obtain rfl : T = s.top := Nat.le_antisymm h2 h1
      obtain ⟨it, hit, hkey⟩ := hk
      exact scan_eq_none.1 hsc it hit hkey
  · obtain ⟨k, i, hop⟩ := ins_of_not_noIns hni
    obtain ⟨g1, g2, g3⟩ := hS.user.claims hu (Or.inl ⟨Or.inr hpc, i, hop⟩)
    rw [hop] at hl ⊢
    exact stepOk_push_new hS hu (it := ⟨k, i⟩) (by rw [hop]; rfl) hl g2 (fun _ => g1) g3 (by rw [hop]; nofun) hh hrd 0
      (by rw [hop]; exact spec_ins_absent (lookup_eq_none.2 g2))

theorem stepOk_lt (hpc : th.pc = .lt) (hT : TInv s u th.op th.pc) : StepOk s thr u (stepLt s u now th) := by
  unfold stepLt
  split
  · rename_i hfree
    exact .locked hS hu (by rw [hpc]; rfl) hfree hT fun hS1 hT1 hl => stepOk_ltBody hS1 hu hpc (hpc ▸ hT1) hl
  · exact stepOk_stay hS hu (by rw [hpc]; rfl) hT

/-- the walk reached the last table: the key is in no table, and in nobody's hand since a thread that
    carries an item holds the top-level bucket of its key -/
theorem absent_of_nx_end (hAll : ∀ (t : Nat) (a : Thread), thr[t]? = some a → TInv s t a.op a.pc)
    {cur : Nat} (hpc : th.pc = .nx cur) (hz : (s.tab cur).next = 0) : ∀ y, y ∈ s.abs → y.key ≠ th.op.key := by
  have hT := hAll u th hu
  rw [hpc] at hT
  obtain ⟨_, _, h3, h4, h5, h6⟩ := hT
  intro y hy hk
  rcases hS.ab.absOut y hy with ⟨T, b, hT, hm⟩ | ⟨t, a, ha, _, hin⟩
  · have hb := hS.st.place T b y hT hm
    rw [hk] at hb
    exact notIn_above_next hS.st ⟨h4, h5⟩ h6 hT (by rw [hz]; have := hT.1; have := hS.st.nb0; omega) ⟨y, by rw [← hb]; exact hm, hk⟩
  · have := (inHand_holds (hAll t a ha) hin).1
    rw [hk] at this
    unfold HoldsTop at h3 this
    rw [h3] at this
    obtain rfl : u = t := Nat.succ.inj this
    rw [hu] at ha; cases ha
    rw [hpc] at hin; cases hin

theorem stepOk_nx (hAll : ∀ (t : Nat) (a : Thread), thr[t]? = some a → TInv s t a.op a.pc)
    {cur : Nat} (hpc : th.pc = .nx cur) : StepOk s thr u (stepNx s u now th cur) := by
  have hT := hAll u th hu
  rw [hpc] at hT
  obtain ⟨h1, h2, h3, h4, h5, h6⟩ := hT
  have hcur : Tin s cur := ⟨h4, h5⟩
  have hnx := hS.st.nxt cur hcur
  have hnone : th.pc.inHand = none := by rw [hpc]; rfl
  have hrd : th.pc.isReader = true := by rw [hpc]; rfl
  unfold stepNx
  split
  · rename_i hz
    have habs := absent_of_nx_end hS hu hAll hpc hz
    cases hop : th.op with
    | foi k i =>
      rw [hop] at h1 h3 habs
      refine stepOk_push_new hS hu (it := ⟨k, i⟩) (by rw [hop]; rfl) h3 habs (fun hp => by rw [h1] at hp; cases hp)
        (fun t a ha _ hc => ?_) (by rw [hop]; nofun) hnone hrd i
        (by rw [hop]; exact spec_foi_absent (lookup_eq_none.2 habs))
      have := hS.user.uPlain k (hS.user.claims ha hc).1
      rw [h1] at this; cases this
    | _ =>
      exact .quiet hS hu (.refl u s) hnone rfl
        (hS.excl.set_reader hu _ hrd rfl)
        (fun k hc => hc.elim (fun hp => absurd hp (not_pendIns_of_pc (by simp) (by simp) k))
          (fun ⟨_, _, r, hr1, hr2⟩ => by cases hr1; exact absurd rfl hr2)) h3
        (spec_absent h2 (by rw [hop]; nofun) (lookup_eq_none.2 habs))
  · rename_i hz
    have hnb : s.nb0 ≤ (s.tab cur).next := hnx.2.resolve_left hz
    exact .quiet hS hu (.refl u s) hnone rfl
      (hS.excl.set_reader hu _ hrd rfl) (claims_goto (by simp) (by rw [hpc]; rfl))
      ⟨h1, h2, h3, hnb, hnx.1, h5, fun T a b => notIn_above_next hS.st hcur h6 ⟨Nat.le_trans hnb (Nat.le_of_succ_le a), b⟩ a⟩ rfl

/-- end of `du` and of `cn`: `s'` is `s` after the decrement or the CAS, which touch no bucket.  What the thread knows
    at `du` is enough (at `cn` it knows more). -/
theorem tail_step {s' : Store} {hd pv : Nat} {it : Item} (hT : TInv s u th.op (.du hd pv it))
    (hh : ∀ y, th.pc.inHand = some y → y = it) (hlin : th.pc.linRes = some it.id) (hrd : th.pc.isReader = true)
    (hbk : ∀ T b, s'.bk T b = s.bk T b) (hst' : StructInv s') (htop : s'.top = s.top) (hnb : s'.nb0 = s.nb0)
    (hhf : s'.hf = s.hf) (habs : s'.abs = s.abs) (hkh : s'.kheld = s.kheld)
    (hused : UsedInv s' (thr.set u (th.goto (.ulo hd (some it))))) :
    StepOk s thr u ⟨mvInsert s' th it, th.goto (.ulo hd (some it)), none⟩ := by
  obtain ⟨hok, hni, h3, h4, h5, h6, h7, hkey, h9, _, h11⟩ := hT
  obtain ⟨pst, pab, ptop, pg⟩ := mv_tail (.of_not_stored hst' hbk htop hnb hhf h9) hS.ab hu habs (hkey ▸ h3) h11
    (fun _ => h9) hh hkey (th.goto (.ulo hd (some it)))
  refine .intro ⟨pst, usedInv_mvInsert hused _ _, pab, hS.excl.set_reader hu _ hrd rfl, ?_⟩ ?_ (fun t => pg.rely)
    ((abs_mvInsert ..).trans habs)
  · exact hS.user.set_same hu (claims_goto (fun h => by rcases h with h | h <;> cases h) (by rw [hlin]; rfl))
      ((abs_mvInsert ..).trans habs) ((kheld_mvInsert ..).trans hkh)
  · exact ⟨hok, hni, ptop, by unfold HoldsOld; rw [lock_mvInsert, pg.hf, hbk]; exact h4,
      by rw [pg.nb0]; exact h5, by rw [pg.top]; exact Nat.lt_of_lt_of_le h6 h7, nofun⟩

theorem stepOk_cn {hd pv nv : Nat} {it : Item} (hpc : th.pc = .cn hd pv nv it) (hT : TInv s u th.op th.pc) :
    StepOk s thr u (stepCn s th hd pv nv it) := by
  rw [hpc] at hT
  obtain ⟨h1, h2, h3, h4, h5, h6, h7, h8, h9, h11, h12, h13, h14, h15⟩ := hT
  have hlt : hd < s.top := Nat.lt_of_lt_of_le h6 h7
  unfold stepCn
  have common : ∀ s' : Store, (∀ T b, s'.bk T b = s.bk T b) → (∀ T, (s'.tab T).used = (s.tab T).used) → StructInv s' →
      s'.top = s.top → s'.nb0 = s.nb0 → s'.hf = s.hf → s'.abs = s.abs → s'.kheld = s.kheld →
      StepOk s thr u ⟨mvInsert s' th it, th.goto (.ulo hd (some it)), none⟩ := by
    intro s' hbk hus hst' htop hnb hhf habs hkh
    exact tail_step hS hu ⟨h1, h2, h3, h4, h5, h6, h7, h8, h9, h12 _, h11⟩ (fun y hy => by rw [hpc] at hy; cases hy; rfl)
      (by rw [hpc]; rfl) (by rw [hpc]; rfl) hbk hst' htop hnb hhf habs hkh
      (hS.used.same hu _ htop hnb (fun T _ => hus T) (fun T _ => usedCount_same fun b => by rw [hbk]) (fun T => by rw [hpc]; rfl))
  split
  · rename_i hc
    refine common (s.setNext pv nv) (fun T b => bk_setNext s pv T b nv) (fun T => used_setNext s pv T nv) ?_ rfl rfl rfl rfl rfl
    refine hS.st.setNext (by omega) h14 ?_
    intro T' a b c
    rcases Nat.lt_trichotomy T' hd with hlt' | heq | hgt
    · exact h15 T' a hlt' c
    · rw [heq]; exact h12
    · exact hS.st.skip pv T' ⟨by omega, h7⟩ (by rw [hc]; exact hgt) b c
  · exact common s (fun _ _ => rfl) (fun _ => rfl) hS.st rfl rfl rfl rfl rfl

theorem stepOk_du {hd pv : Nat} {it : Item} (hpc : th.pc = .du hd pv it) (hT : TInv s u th.op th.pc) :
    StepOk s thr u (stepDu s th hd pv it) := by
  obtain ⟨h1, h2, h3, h4, h5, h6, h7, h8, h9, _, h11⟩ : TInv s u th.op (.du hd pv it) := hpc ▸ hT
  have hlt : hd < s.top := Nat.lt_of_lt_of_le h6 h7
  have hTin : Tin s hd := ⟨h5, Nat.le_of_lt hlt⟩
  have e : SameStore s (s.decUsed hd) := sameStore_decUsed s hd
  -- the thread performs the decrement it owed
  have hused : ∀ x : Thread, (∀ T, x.pc.isDu T = false) → UsedInv (s.decUsed hd) (thr.set u x) := by
    intro x hx T g1 g2
    have hp := pendingDec_set hu x T
    rw [hpc, hx T] at hp
    rw [used_decUsed, e.usedCount T]
    by_cases hT : T = hd
    · subst hT
      rw [if_pos rfl, hS.used T g1 g2]
      simp [Pc.isDu] at hp
      omega
    · rw [if_neg hT, hS.used T g1 g2]
      simp [Pc.isDu, Ne.symm hT] at hp
      omega
  unfold stepDu
  split
  · rename_i hone
    -- the last used bucket: the table is empty
    have hempty : EmptyT s hd := by
      apply emptyT_of_usedCount hS.st hTin
      have h := hS.used hd h5 hlt
      have hp : 0 < pendingDec thr hd := List.countP_pos_iff.2 ⟨th, List.mem_of_getElem? hu, by rw [hpc]; simp [Pc.isDu]⟩
      rw [hone] at h
      omega
    have hnx := hS.st.nxt hd hTin
    refine .intro ⟨hS.st.congr e, hused _ (fun _ => rfl), ?_, ?_, ?_⟩ ?_
      (fun t => (Guar.same (u := u) e (fun T b => Or.inl (by rw [bk_decUsed])) rfl).rely) rfl
    · exact hS.ab.same hu _ e.stored rfl (fun y hm hy => by rw [hpc] at hy; cases hy; exact ⟨hm, rfl⟩)
    · exact hS.excl.set_reader hu _ (by rw [hpc]; rfl) rfl
    · exact hS.user.set_same hu (claims_goto (by simp) (by rw [hpc]; rfl)) rfl rfl
    · exact ⟨h1, h2, by unfold HoldsTop; rw [bk_decUsed]; exact h3, by unfold HoldsOld; rw [bk_decUsed]; exact h4, h5, h6, h7, h8,
        fun hc => h9 ((e.stored it).1 hc), h11, (e.emptyT hd).2 hempty, hnx.1, hnx.2,
        fun T' a b c => (e.emptyT T').2 (hS.st.skip hd T' hTin a b c)⟩
  · exact tail_step hS hu (hpc ▸ hT) (fun y hy => by rw [hpc] at hy; cases hy; rfl)
      (by rw [hpc]; rfl) (by rw [hpc]; rfl) (fun T b => bk_decUsed s hd T b) (hS.st.congr e) rfl rfl rfl rfl rfl
      (hused _ (fun _ => rfl))

section
variable {hd pv : Nat} (hpc : th.pc = .lo hd pv) (hT : TInv s u th.op (.lo hd pv)) (ho : HoldsOld s u th.op.key hd)
include hpc hT ho

theorem stepOk_lo_miss (hsc : scan (s.bk hd (s.hf th.op.key hd)).items th.op.key = none) :
    StepOk s thr u ⟨s, th.goto (.ulo hd none), none⟩ := by
  refine .quiet hS hu (.refl u s) (by rw [hpc]; rfl) rfl
    (hS.excl.set_reader hu _ (by rw [hpc]; rfl) rfl) (claims_goto (by simp) (by rw [hpc]; rfl))
    (tinv_ulo_of_lo hT ho rfl rfl rfl (fun _ _ => rfl) none fun _ T a b hk => ?_) rfl
  rcases Nat.lt_or_ge hd T with hlt | hge
  · exact hT.2.2.2.2.2.2 T hlt b hk
  · obtain rfl : T = hd := Nat.le_antisymm hge a
    obtain ⟨y, hy, hkey⟩ := hk
    exact scan_eq_none.1 hsc y hy hkey

variable (hTin : Tin s hd) {it : Item} (hit : it ∈ (s.bk hd (s.hf th.op.key hd)).items) (hkey : it.key = th.op.key)
include hTin hit hkey

section
variable (hmv : th.op.mv = true) (hsp : Spec.step s.abs th.op (th.op.res it.id) = some s.abs)
include hmv hsp

theorem stepOk_lo_mv_hand (hnil : (s.bk hd (s.hf th.op.key hd)).items.erase it = []) :
    StepOk s thr u (linAt (s.eraseIt hd (s.hf th.op.key hd) it) u now th (.du hd pv it) it.id) := by
  have w : Unlinked s (s.eraseIt hd (s.hf th.op.key hd) it) hd _ it := unlinked_erase hS.st hTin hit s.abs
  refine .intro ⟨w.st, w.usedInv_emptied hu _ hS.used (hS.st.hfr _ _) hnil (fun T => by rw [hpc]; rfl) (fun T => rfl), ?_,
      hS.excl.set_reader hu _ (by rw [hpc]; rfl) rfl, ?_⟩
    (tinv_du_of_lo hT ho w hkey hnil fun _ => hS.ab.absIn it ⟨hd, _, hTin, hit⟩)
    (fun t => (w.guar fun y hy => Or.inl hy).rely) hsp
  · refine hS.ab.step hu _ (fun y hy => ?_) (fun y hy => ?_) hS.ab.absKeys
    · exact hS.ab.absIn y ((w.stored y).1 hy).1
    · by_cases hyi : y = it
      · rw [hyi]; exact Or.inr (Or.inl ⟨hmv, rfl⟩)
      · exact Or.inr (Or.inr ⟨hy, fun hst => (w.stored y).2 ⟨hst, hyi⟩, fun hc => by rw [hpc] at hc; cases hc.2⟩)
  · exact hS.user.set_same hu (fun k hc => absurd hc (not_claims_of_mv (th := { th with pc := .du hd pv it, tLin := now }) hmv k))
      rfl rfl

theorem stepOk_lo_mv_back (hnn : (s.bk hd (s.hf th.op.key hd)).items.erase it ≠ []) :
    StepOk s thr u (linAt (mvInsert (s.eraseIt hd (s.hf th.op.key hd) it) th it) u now th (.ulo hd (some it)) it.id) := by
  have w : Unlinked s (s.eraseIt hd (s.hf th.op.key hd) it) hd _ it := unlinked_erase hS.st hTin hit s.abs
  have habs : (mvInsert (s.eraseIt hd (s.hf th.op.key hd) it) th it).abs = s.abs := abs_mvInsert ..
  obtain ⟨pst, pab, _, pg⟩ :=
    mv_tail w.toCut hS.ab hu rfl (hkey ▸ hT.holdsTop rfl)
      (fun _ => hS.ab.absIn it ⟨hd, _, hTin, hit⟩) (fun hm => by rw [hmv] at hm; cases hm)
      (fun y hy => by rw [hpc] at hy; cases hy) hkey { th with pc := .ulo hd (some it), tLin := now }
  refine .intro ⟨pst, usedInv_mvInsert (w.usedInv_same hu _ hS.used (fun _ => hnn) (fun T => by rw [hpc]; rfl)) _ _, pab,
      hS.excl.set_reader hu _ (by rw [hpc]; rfl) rfl, ?_⟩
    (tinv_ulo_of_lo hT ho pg.top pg.nb0 pg.hf (fun T b => (lock_mvInsert ..).trans (w.lock T b)) _ nofun)
    (fun t => pg.rely) (by rw [habs]; exact hsp)
  exact hS.user.set_same hu (fun k hc => absurd hc (not_claims_of_mv (th := { th with pc := .ulo hd (some it), tLin := now }) hmv k))
    habs ((kheld_mvInsert ..).trans w.kheld)

end

end

theorem stepOk_loBody {hd pv : Nat} (hpc : th.pc = .lo hd pv) (hT : TInv s u th.op (.lo hd pv)) (ho : HoldsOld s u th.op.key hd) :
    StepOk s thr u (match scan (s.bk hd (s.hf th.op.key hd)).items th.op.key with
      | none => ⟨s, th.goto (.ulo hd none), none⟩
      | some it => loFound (absAfterFound (s.eraseIt hd (s.hf th.op.key hd) it) th it) u now th hd pv it
          (s.bk hd (s.hf th.op.key hd)).len) := by
  split
  · rename_i hsc
    exact stepOk_lo_miss hS hu hpc hT ho hsc
  · rename_i it hsc
    obtain ⟨hit, hkey⟩ := scan_some hsc
    have ⟨_, hni, _, h4, h5, h6, _⟩ := hT
    have hTin : Tin s hd := ⟨h4, Nat.le_of_lt (Nat.lt_of_lt_of_le h5 h6)⟩
    have hnil := erase_nil_iff hS.st hTin hit
    have hsp := spec_op_found th.op hni hkey (lookup_of_stored hS hTin hit)
    unfold loFound absAfterFound
    cases hmv : th.op.mv <;> rw [hmv] at hsp
    · obtain ⟨k, hop⟩ := rem_of_not_mv hni hmv
      have w := unlinked_erase hS.st hTin hit (s.abs.erase it)
      have hxr : th.op = .rem it.key := by rw [hkey, hop]; rfl
      simp only [Bool.false_eq_true, if_false]
      split
      · rename_i hz
        exact stepOk_rm hS hu w rfl (by rw [hpc]; rfl) (by rw [hpc]; rfl) (x := { th with pc := .du hd pv it, tLin := now }) hxr
          rfl nofun nofun
          (w.usedInv_emptied hu _ hS.used (hS.st.hfr _ _) (hnil.1 hz) (fun T => by rw [hpc]; rfl) (fun T => rfl))
          (tinv_du_of_lo hT ho w hkey (hnil.1 hz) fun hm => by rw [hop] at hm; cases hm) _ hsp
      · rename_i hz
        unfold mvInsert
        simp only [hmv, Bool.false_eq_true, if_false]
        exact stepOk_rm hS hu w rfl (by rw [hpc]; rfl) (by rw [hpc]; rfl) (x := { th with pc := .ulo hd (some it), tLin := now }) hxr
          rfl nofun nofun
          (w.usedInv_same hu _ hS.used (fun _ h => hz (hnil.2 h)) (fun T => by rw [hpc]; rfl))
          (tinv_ulo_of_lo hT ho w.top w.nb0 w.hf w.lock _ nofun) _ hsp
    · simp only [if_true]
      split
      · rename_i hz
        exact stepOk_lo_mv_hand hS hu hpc hT ho hTin hit hkey hmv hsp (hnil.1 hz)
      · rename_i hz
        exact stepOk_lo_mv_back hS hu hpc hT ho hTin hit hkey hmv hsp (fun h => hz (hnil.2 h))

theorem stepOk_lo {hd pv : Nat} (hpc : th.pc = .lo hd pv) (hT : TInv s u th.op th.pc) : StepOk s thr u (stepLo s u now th hd pv) := by
  unfold stepLo
  split
  · rename_i hfree
    refine .locked hS hu (by rw [hpc]; rfl) hfree hT fun hS1 hT1 hl => ?_
    -- `stepLo` scans the chain and reads `cur_len` in `s`, `stepOk_loBody` speaks of the store with the lock taken
    have e := sameStore_setLock s hd (s.hf th.op.key hd) (u + 1)
    rw [← e.items, ← e.len]
    exact stepOk_loBody hS1 hu hpc (hpc ▸ hT1) hl
  · exact stepOk_stay hS hu (by rw [hpc]; rfl) hT

end

end ParsecVerif.HashTable
