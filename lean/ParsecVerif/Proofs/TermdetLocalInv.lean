import ParsecVerif.Proofs.TermdetLocalStep
/-! `local_step` lifted to thread lists; hence the invariant holds in every state reachable under the usage protocol,
    in particular after a schedule that `okRun` accepts. -/
namespace ParsecVerif.TermdetLocal

theorem inv_step (s : State) (t : Nat) (h : Inv s) (he : okStep s t) : Inv (step s t) := by
  unfold step okStep at *
  cases hth : s.ths[t]? with
  | none => simpa [hth] using h
  | some th =>
    simp only [hth] at he ⊢
    obtain ⟨hi, rfl⟩ := getElem_of_getElem? hth
    -- the sums split into those over the other threads and the weights of thread `t`, before and after
    have e := total_set s.ths t s.ths[t] hi
    rw [List.set_getElem_self] at e
    have e' := total_set s.ths t (tstep s.sh s.ths[t]).2 hi
    exact Core.inv' (e' ▸ local_step he _ (e ▸ total_bounded s.ths) (e ▸ h.core)) (total_bounded _)

theorem total_init (scripts : List (List Op)) :
    total (scripts.map mkThread) = ⟨0, 0, 0, 0, 0, 0, 0, 0, 0, 0, 0, 0⟩ := by
  induction scripts with
  | nil => rfl
  | cons sc t ih =>
    show (W (mkThread sc)).add (total (t.map mkThread)) = _
    rw [ih]
    rfl

theorem inv_init (scripts : List (List Op)) : Inv (init scripts) := by
  unfold Inv init
  rw [total_init]
  constructor <;> simp [sh0]

inductive Reach (scripts : List (List Op)) : State → Prop
  | init : Reach scripts (init scripts)
  | step (s : State) (t : Nat) : Reach scripts s → okStep s t → Reach scripts (step s t)

theorem inv_reach (scripts : List (List Op)) (s : State) (h : Reach scripts s) : Inv s := by
  induction h with
  | init => exact inv_init scripts
  | step s t _ he ih => exact inv_step s t ih he

theorem reach_run (scripts : List (List Op)) (s : State) (sched : List Nat)
    (h : Reach scripts s) (hok : okRun s sched = true) : Reach scripts (run s sched) := by
  induction sched generalizing s with
  | nil => simpa [run] using h
  | cons t r ih =>
    simp only [okRun, Bool.and_eq_true, decide_eq_true_eq] at hok
    simp only [run, List.foldl_cons]
    exact ih (step s t) (Reach.step s t h hok.1) hok.2

end ParsecVerif.TermdetLocal
