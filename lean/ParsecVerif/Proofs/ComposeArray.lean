import ParsecVerif.Model.Compound
/-! The array built by `parsec_compose`, in closed form: members in order, NULL, junk up to an allocation that is a
    multiple of 16 entries; no write falls outside it. -/
namespace ParsecVerif.Compound

/-- the allocation is extended by as many entries as the new capacity asks for: 16 if the count reaches a multiple
    of 16, else none -/
theorem composeAppend_eq (arr : Arr) (x : Nat) (hlt : arr.nb < arr.cap) (hcap : arr.cap = 16 * (arr.nb / 16 + 1)) :
    composeAppend arr x =
      { cap := 16 * ((arr.nb + 1) / 16 + 1), nb := arr.nb + 1, oob := arr.oob,
        slots := ((arr.slots.set arr.nb (.tp x)) ++
          List.replicate (16 * ((arr.nb + 1) / 16 + 1) - arr.cap) Slot.junk).set (arr.nb + 1) .null } := by
  by_cases hg : (arr.nb + 1) % 16 = 0
  · have hc : 16 * ((arr.nb + 1) / 16 + 1) = arr.nb + 1 + 16 := by omega
    simp [composeAppend, Arr.write, hlt, hg, hc]
  · have hc : 16 * ((arr.nb + 1) / 16 + 1) = arr.cap := by omega
    have : arr.nb + 1 < arr.cap := by omega
    simp [composeAppend, Arr.write, hlt, hg, hc, this]

def arrOf (ms : List Nat) : Arr :=
  { cap := 16 * (ms.length / 16 + 1), nb := ms.length, oob := false,
    slots := ms.map .tp ++ .null :: List.replicate (16 * (ms.length / 16 + 1) - ms.length - 1) .junk }

variable (ms : List Nat)

theorem arrOf_lt : (arrOf ms).nb < (arrOf ms).cap :=
  Nat.lt_mul_div_succ ms.length (by decide)

theorem arrOf_length : (arrOf ms).slots.length = (arrOf ms).cap := by
  have := arrOf_lt ms
  simp only [arrOf, List.length_append, List.length_map, List.length_cons, List.length_replicate] at this ⊢
  omega

theorem arrOf_null : (arrOf ms).slots[(arrOf ms).nb]? = some .null :=
  (List.getElem?_append_right (Nat.le_of_eq (List.length_map _))).trans (by rw [List.length_map, Nat.sub_self]; rfl)

theorem arrOf_get {i : Nat} (hi : i < ms.length) : (arrOf ms).slots[i]? = (ms[i]?).map Slot.tp :=
  (List.getElem?_append_left (by rwa [List.length_map])).trans List.getElem?_map

theorem composeNew_eq (a b : Nat) : composeNew a b = arrOf [a, b] := by
  simp [composeNew, arrOf, Arr.write]

theorem composeAppend_arrOf (x : Nat) : composeAppend (arrOf ms) x = arrOf (ms ++ [x]) := by
  have h1 : (ms.map Slot.tp).length = ms.length := List.length_map _
  rw [composeAppend_eq _ x (arrOf_lt ms) rfl]
  simp only [arrOf, List.length_append, List.length_singleton, List.map_append, List.map_cons, List.map_nil]
  congr 1
  -- the junk past the new member, old and new, is not empty: its first entry becomes the NULL
  have hk : 16 * (ms.length / 16 + 1) - ms.length - 1 + (16 * ((ms.length + 1) / 16 + 1) - 16 * (ms.length / 16 + 1)) =
      16 * ((ms.length + 1) / 16 + 1) - (ms.length + 1) - 1 + 1 := by omega
  rw [List.set_append_right _ _ (Nat.le_of_eq h1), h1, Nat.sub_self, List.set_cons_zero, List.append_assoc,
    List.cons_append, List.replicate_append_replicate, hk, List.replicate_succ,
    List.set_append_right _ _ (by rw [h1]; exact Nat.le_succ _), h1, Nat.add_sub_cancel_left, List.set_cons_succ,
    List.set_cons_zero, List.append_assoc]
  rfl

theorem foldl_composeAppend (rest : List Nat) : rest.foldl composeAppend (arrOf ms) = arrOf (ms ++ rest) := by
  induction rest generalizing ms with
  | nil => rw [List.append_nil]; rfl
  | cons x t ih => rw [List.foldl_cons, composeAppend_arrOf, ih, List.append_assoc]; rfl

theorem compose_eq (a b : Nat) (rest : List Nat) : compose (a :: b :: rest) = some (arrOf (a :: b :: rest)) := by
  rw [compose, composeNew_eq, foldl_composeAppend]; rfl

end ParsecVerif.Compound
