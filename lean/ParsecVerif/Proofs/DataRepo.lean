import ParsecVerif.Model.DataRepo
import ParsecVerif.Base.Interleave
/-!
  The inductive invariant of the guarded data-repository machine.  Per key, the cell is tied to five
  measures of the threads working on that key; each critical section carries the invariant from the
  measures before it to the measures after it (`CellInv.cs1` … `CellInv.use`), and a step of the
  machine moves exactly one thread's weights (`meas_split`).
-/
namespace ParsecVerif.DataRepo
open ParsecVerif.Interleave

def contrib (w : Thr → Nat) (k : Nat) (t : Thr) : Nat := if t.key = k then w t else 0

section
variable (w : Thr → Nat) (k : Nat) (l : List Thr)

theorem meas_eq : meas w k l = (l.map (contrib w k)).sum := rfl

theorem contrib_le_meas (i : Nat) (h : i < l.length) :
    contrib w k l[i] ≤ meas w k l :=
  le_sum_map_of_mem _ l _ (List.getElem_mem h)

theorem le_meas_of_mem {l : List Thr} {t : Thr} (h : t ∈ l) : w t ≤ meas w t.key l := by
  have := le_sum_map_of_mem (contrib w t.key) l t h
  rwa [contrib, if_pos rfl] at this

theorem meas_congr (w' : Thr → Nat) (h : ∀ t ∈ l, contrib w k t = contrib w' k t) :
    meas w k l = meas w' k l := by
  rw [meas_eq, meas_eq, List.map_congr_left h]

theorem meas_add (f g : Thr → Nat) :
    meas (fun t => f t + g t) k l = meas f k l + meas g k l := by
  rw [meas_eq, meas_eq, meas_eq]
  induction l with
  | nil => rfl
  | cons a t ih =>
    simp only [List.map_cons, List.sum_cons, ih, contrib]
    split <;> omega

theorem meas_eq_zero : meas w k l = 0 ↔ ∀ t ∈ l, contrib w k t = 0 := by
  rw [meas_eq, List.sum_eq_zero_iff_forall_eq_nat, List.forall_mem_map]

theorem meas_zero_of_pcs {l : List Thr} {p q : Pc}
    (hl : ∀ t ∈ l, t.pc = p ∨ t.pc = q) (hp : ∀ key n, w ⟨key, p, n⟩ = 0) (hq : ∀ key n, w ⟨key, q, n⟩ = 0) :
    meas w k l = 0 :=
  (meas_eq_zero w k l).2 fun ⟨key, pc, n⟩ ht => by
    rw [contrib]
    rcases hl _ ht with e | e <;> cases e <;> simp only [hp, hq, ite_self]

end

theorem meas_split (k : Nat) (l : List Thr) (i : Nat) (h : i < l.length) :
    ∃ R : (Thr → Nat) → Nat, (∀ w, meas w k l = R w + contrib w k l[i]) ∧
      ∀ w y, meas w k (l.set i y) = R w + contrib w k y := by
  refine ⟨fun w => meas w k l - contrib w k l[i], fun w => ?_, fun w y => ?_⟩
  · exact (Nat.sub_add_cancel (contrib_le_meas w k l i h)).symm
  · have := contrib_le_meas w k l i h
    have := sum_map_set (contrib w k) l i _ y (List.getElem?_eq_getElem h)
    show meas w k (l.set i y) = meas w k l - contrib w k l[i] + _
    rw [meas_eq, meas_eq] at *
    omega

theorem pend_zero_of_hold_zero (k : Nat) (l : List Thr) (h : meas wHold k l = 0) : meas wPend k l = 0 := by
  refine (meas_eq_zero ..).2 fun t ht => ?_
  have := (meas_eq_zero ..).1 h t ht
  unfold contrib wHold at this
  unfold contrib wPend
  split
  · rw [if_pos ‹_›] at this
    split at this
    · cases this
    · exact if_neg ‹_›
  · rfl

/-- What holds of a key's cell `c` when `H` creators hold the entry, `P` is the sum of their (not yet
    announced) limits, `A` the sum of the announced limits, `U` the number of uses done and `M` the
    number of private copies in flight. -/
structure CellInv (c : Cell) (H P A U M : Nat) : Prop where
  nofault : c.fault = false
  pool    : c.al = c.ins + c.di + M
  budget  : U ≤ A + P
  absent  : c.ent = none → H = 0 ∧ A = U ∧ c.rc = c.ins
  there   : ∀ e, c.ent = some e →
              e.ret = (H : Int) ∧ e.lmt - e.cnt = (A : Int) - (U : Int) ∧ (0 < H ∨ e.cnt ≠ e.lmt) ∧ c.rc + 1 = c.ins

section
variable {c : Cell} {H P A U M : Nat}

/-- `CellInv` of a cell without / with an entry, field by field: `omega` then sees `c.al + 1`, not a
    projection of a structure update. -/
theorem cellInv_none {al di ins rc : Nat} {fault : Bool} (nf : fault = false) (pool : al = ins + di + M)
    (bud : U ≤ A + P) (hH : H = 0) (hA : A = U) (hc : rc = ins) :
    CellInv ⟨none, al, di, ins, rc, fault⟩ H P A U M :=
  ⟨nf, pool, bud, fun _ => ⟨hH, hA, hc⟩, nofun⟩

theorem cellInv_some {cnt lmt ret : Int} {al di ins rc : Nat} {fault : Bool} (nf : fault = false)
    (pool : al = ins + di + M) (bud : U ≤ A + P) (hr : ret = (H : Int)) (hd : lmt - cnt = (A : Int) - (U : Int))
    (hl : 0 < H ∨ cnt ≠ lmt) (hc : rc + 1 = ins) :
    CellInv ⟨some ⟨cnt, lmt, ret⟩, al, di, ins, rc, fault⟩ H P A U M :=
  ⟨nf, pool, bud, nofun, fun _ h => by cases h; exact ⟨hr, hd, hl, hc⟩⟩

/-- The reclaim test of the C code decides exactly the liveness clause of `there`, so the cell is in
    the invariant whichever way the test goes. -/
theorem cellInv_reclaimIf (e : Entry) (nf : c.fault = false) (pool : c.al = c.ins + c.di + M)
    (bud : U ≤ A + P) (hr : e.ret = (H : Int)) (hd : e.lmt - e.cnt = (A : Int) - (U : Int))
    (hc : c.rc + 1 = c.ins) : CellInv (reclaimIf c e) H P A U M := by
  unfold reclaimIf
  split
  · exact cellInv_none nf pool bud (by omega) (by omega) hc
  · exact cellInv_some nf pool bud hr hd (by omega) hc

theorem CellInv.cs1 (n : Nat) (inv : CellInv c H P A U M) :
    ((cs1 c).2 = .hold ∧ CellInv (cs1 c).1 (H + 1) (P + n) A U M) ∨
    ((cs1 c).2 = .c1 ∧ CellInv (cs1 c).1 H P A U (M + 1)) := by
  obtain ⟨nf, pool, bud, ab, th⟩ := inv
  unfold DataRepo.cs1
  cases he : c.ent with
  | none =>
    obtain ⟨h1, h2, h3⟩ := ab he
    exact .inr ⟨rfl, cellInv_none nf (by omega) bud h1 h2 h3⟩
  | some e =>
    obtain ⟨h1, h2, _, h4⟩ := th e he
    exact .inl ⟨rfl, cellInv_some nf pool (by omega) (by omega) h2 (by omega) h4⟩

theorem CellInv.cs2 (n : Nat) (inv : CellInv c H P A U (M + 1)) :
    (cs2 c).2 = .hold ∧ CellInv (cs2 c).1 (H + 1) (P + n) A U M := by
  obtain ⟨nf, pool, bud, ab, th⟩ := inv
  unfold DataRepo.cs2
  cases he : c.ent with
  | none =>
    obtain ⟨h1, h2, h3⟩ := ab he
    exact ⟨rfl, cellInv_some nf (by omega) (by omega) (by omega) (by omega) (by omega) (by omega)⟩
  | some e =>
    obtain ⟨h1, h2, _, h4⟩ := th e he
    exact ⟨rfl, cellInv_some nf (by omega) (by omega) (by omega) h2 (by omega) h4⟩

theorem CellInv.announce (n : Nat) (inv : CellInv c (H + 1) (P + n) A U M) :
    CellInv (csAnnounce n c) H P (A + n) U M := by
  obtain ⟨nf, pool, bud, ab, th⟩ := inv
  unfold csAnnounce
  cases he : c.ent with
  | none => have := (ab he).1; omega
  | some e =>
    obtain ⟨h1, h2, _, h4⟩ := th e he
    exact cellInv_reclaimIf _ nf pool (by omega) (show e.ret - 1 = H by omega)
      (show e.lmt + n - e.cnt = (A + n : Nat) - U by omega) h4

/-- `used_once` issued under the protocol (`useOk`) -/
theorem CellInv.use (inv : CellInv c H P A U M) (hp : c.ent.isSome = true) (hb : U < A + P) :
    CellInv (csUse c) H P A (U + 1) M := by
  obtain ⟨nf, pool, _, _, th⟩ := inv
  unfold csUse
  cases he : c.ent with
  | none => rw [he] at hp; cases hp
  | some e =>
    obtain ⟨h1, h2, _, h4⟩ := th e he
    exact cellInv_reclaimIf _ nf pool hb h1 (show e.lmt - (e.cnt + 1) = A - (U + 1 : Nat) by omega) h4

end

/-- `H P A U M` are the measures of the other threads, to which `th` adds its weights before and
    after the section. -/
theorem cellInv_step (ok : Bool) (c : Cell) (th : Thr) (H P A U M : Nat)
    (inv : CellInv c (H + wHold th) (P + wPend th) (A + wAnn th) (U + wUse th) (M + wMid th))
    (hok : ok = true → th.pc = .u0 →
      c.ent.isSome = true ∧ U + wUse th < A + wAnn th + (P + wPend th)) :
    ∀ th', th' = { th with pc := (stepCell ok c th).2 } →
      CellInv (stepCell ok c th).1 (H + wHold th') (P + wPend th') (A + wAnn th') (U + wUse th') (M + wMid th') := by
  rintro _ rfl
  obtain ⟨key, pc, n⟩ := th
  cases pc with
  | c0 =>
    rcases CellInv.cs1 n inv with ⟨e, h⟩ | ⟨e, h⟩ <;> simp only [stepCell, e] <;> exact h
  | c1 =>
    obtain ⟨e, h⟩ := CellInv.cs2 n inv
    simp only [stepCell, e]; exact h
  | hold => exact CellInv.announce n inv
  | done => exact inv
  | udone => exact inv
  | u0 =>
    cases ok with
    | false => exact inv
    | true => exact CellInv.use inv (hok rfl rfl).1 (hok rfl rfl).2

def Inv (s : State) : Prop :=
  ∀ k, CellInv (s.cell k) (holders s k) (promised s k) (announced s k) (uses s k) (inflight s k)

theorem inv_init (descr : List (Bool × Nat × Nat)) : Inv (init descr) := by
  intro k
  have hl : ∀ t ∈ (init descr).thr, t.pc = .c0 ∨ t.pc = .u0 := fun t ht => by
    obtain ⟨d, _, rfl⟩ := List.mem_map.1 ht
    unfold mkThr
    split
    · exact .inr rfl
    · exact .inl rfl
  have z := fun w => meas_zero_of_pcs w k hl
  unfold holders promised announced uses inflight
  rw [z wHold, z wPend, z wAnn, z wUse, z wMid]
  · exact ⟨rfl, rfl, Nat.le_refl _, fun _ => ⟨rfl, rfl, rfl⟩, nofun⟩
  all_goals exact fun _ _ => rfl

theorem useOk_spec (s : State) (k : Nat) (h : useOk s k = true) :
    (s.cell k).ent.isSome = true ∧ uses s k < announced s k + promised s k := by
  simpa only [useOk, present, Bool.and_eq_true, decide_eq_true_eq] using h

theorem inv_step (s : State) (t : Nat) (h : Inv s) : Inv (step s t) := by
  unfold step stepG
  cases hth : s.thr[t]? with
  | none => exact h
  | some th =>
    obtain ⟨hi, rfl⟩ := getElem_of_getElem? hth
    intro k
    have hk := h k
    have ok := useOk_spec s k
    simp only [holders, promised, announced, uses, inflight] at hk ok ⊢
    obtain ⟨R, e, e'⟩ := meas_split k s.thr t hi
    simp only [e] at hk ok
    simp only [e', setCell, stepThr, Bool.not_true, Bool.false_or]
    unfold contrib at hk ok ⊢
    by_cases ek : k = s.thr[t].key
    · subst ek
      simp only [if_true] at hk ok ⊢
      exact cellInv_step _ _ _ _ _ _ _ _ hk (fun ho _ => ok (by simpa using ho)) _ rfl
    · simp only [if_neg ek, if_neg (Ne.symm ek)] at hk ⊢
      exact hk

theorem inv_run (s : State) (sched : List Nat) (h : Inv s) : Inv (run s sched) :=
  foldl_inv inv_step sched h

def Cell.Counted (c c' : Cell) : Prop :=
  c'.ins = c.ins + (if c.ent.isSome = false ∧ c'.ent.isSome = true then 1 else 0) ∧
  c'.rc = c.rc + (if c.ent.isSome = true ∧ c'.ent.isSome = false then 1 else 0)

theorem Cell.Counted.refl (c : Cell) : c.Counted c := by
  unfold Cell.Counted
  cases c.ent.isSome <;> exact ⟨rfl, rfl⟩

theorem counted_reclaimIf {c : Cell} (h : c.ent.isSome = true) (e : Entry) : c.Counted (reclaimIf c e) := by
  unfold Cell.Counted reclaimIf
  by_cases t : e.lmt = e.cnt ∧ e.ret = 0
  · rw [if_pos t, h]; exact ⟨rfl, rfl⟩
  · rw [if_neg t, h]; exact ⟨rfl, rfl⟩

/-- Whatever the cell holds: the only insertion is the miss of `cs2`, and an entry disappears in the
    reclaim test alone. -/
theorem counted_stepCell (ok : Bool) (c : Cell) (th : Thr) : c.Counted (stepCell ok c th).1 := by
  obtain ⟨key, pc, n⟩ := th
  obtain ⟨ent, al, di, ins, rc, fault⟩ := c
  cases ent with
  | none => cases pc <;> cases ok <;> exact ⟨rfl, rfl⟩
  | some e =>
    cases pc
    · exact ⟨rfl, rfl⟩
    · exact ⟨rfl, rfl⟩
    · exact counted_reclaimIf rfl _
    · exact ⟨rfl, rfl⟩
    · cases ok
      · exact ⟨rfl, rfl⟩
      · exact counted_reclaimIf rfl _
    · exact ⟨rfl, rfl⟩

theorem step_counters (s : State) (t k : Nat) :
    ((step s t).cell k).ins = (s.cell k).ins + (if present s k = false ∧ present (step s t) k = true then 1 else 0) ∧
    ((step s t).cell k).rc = (s.cell k).rc + (if present s k = true ∧ present (step s t) k = false then 1 else 0) := by
  show (s.cell k).Counted ((step s t).cell k)
  unfold step stepG
  cases s.thr[t]? with
  | none => exact .refl _
  | some th =>
    simp only [setCell]
    split
    · rename_i hk; subst hk; exact counted_stepCell _ _ th
    · exact .refl _

theorem inv_cases (s : State) (h : Inv s) (k : Nat) :
    (present s k = true ∧ (0 < holders s k ∨ announced s k ≠ uses s k) ∧ (s.cell k).rc + 1 = (s.cell k).ins) ∨
    (present s k = false ∧ holders s k = 0 ∧ announced s k = uses s k ∧ (s.cell k).rc = (s.cell k).ins) := by
  unfold present
  cases he : (s.cell k).ent with
  | none => exact .inr ⟨rfl, (h k).absent he⟩
  | some e =>
    obtain ⟨h1, h2, h3, h4⟩ := (h k).there e he
    exact .inl ⟨rfl, by omega, h4⟩

theorem present_iff_of_inv (s : State) (h : Inv s) (k : Nat) :
    present s k = true ↔ (0 < holders s k ∨ announced s k ≠ uses s k) := by
  rcases inv_cases s h k with ⟨hp, ho, _⟩ | ⟨hp, hH, hA, _⟩ <;> rw [hp]
  · exact ⟨fun _ => ho, fun _ => rfl⟩
  · exact ⟨nofun, fun _ => by omega⟩

theorem count_of_inv (s : State) (h : Inv s) (k : Nat) :
    (s.cell k).rc + (if present s k = true then 1 else 0) = (s.cell k).ins := by
  rcases inv_cases s h k with ⟨hp, _, hc⟩ | ⟨hp, _, _, hc⟩ <;> rw [hp] <;> exact hc

def isCre : Pc → Bool
  | .c0 => true | .c1 => true | .hold => true | .done => true | .u0 => false | .udone => false

def wBud (t : Thr) : Nat := if isCre t.pc = true then t.n else 0
def wUsr (t : Thr) : Nat := if isCre t.pc = true then 0 else 1

theorem meas_init (w : Thr → Nat) (k : Nat) (f : Bool × Nat × Nat → Nat) (hf : ∀ d, contrib w k (mkThr d) = f d)
    (descr : List (Bool × Nat × Nat)) : meas w k (init descr).thr = (descr.map f).sum := by
  rw [← funext hf, meas_eq]
  exact congrArg List.sum List.map_map

theorem stepCell_class (ok : Bool) (c : Cell) (th : Thr) : isCre (stepCell ok c th).2 = isCre th.pc := by
  obtain ⟨key, pc, n⟩ := th
  cases pc <;> simp only [stepCell, cs1, cs2]
  · cases c.ent <;> rfl
  · cases c.ent <;> rfl
  · rfl
  · cases ok <;> rfl

theorem meas_run_class (g : Bool → Nat → Nat) (s : State) (sched : List Nat) (k : Nat) :
    meas (fun t => g (isCre t.pc) t.n) k (run s sched).thr = meas (fun t => g (isCre t.pc) t.n) k s.thr := by
  unfold run
  induction sched generalizing s with
  | nil => rfl
  | cons t ts ih =>
    rw [List.foldl_cons, ih]
    unfold step stepG
    cases hth : s.thr[t]? with
    | none => rfl
    | some th =>
      obtain ⟨hi, rfl⟩ := getElem_of_getElem? hth
      obtain ⟨R, e, e'⟩ := meas_split k s.thr t hi
      rw [e', e, contrib, contrib, stepThr, stepCell_class]

def wU0 (t : Thr) : Nat := if t.pc = .u0 then 1 else 0

/-- A creator that has not announced is enabled; once all have, `announced` is the whole budget, so a
    waiting user finds `uses < announced`, and the entry present because of it. -/
theorem progress_of_inv (s : State) (h : Inv s) (hb : ∀ k, meas wUsr k s.thr = meas wBud k s.thr)
    (hnf : ¬ finished s) : ∃ t, enabled s t = true := by
  have en : ∀ th ∈ s.thr, (match th.pc with | .done => false | .udone => false | .u0 => useOk s th.key | _ => true) = true →
      ∃ t, enabled s t = true := fun th hm hen =>
    let ⟨t, ht⟩ := List.getElem?_of_mem hm
    ⟨t, by unfold enabled; rw [ht]; exact hen⟩
  by_cases hc : ∃ th ∈ s.thr, th.pc = .c0 ∨ th.pc = .c1 ∨ th.pc = .hold
  · obtain ⟨th, hm, hp⟩ := hc
    exact en th hm (by rcases hp with hp | hp | hp <;> rw [hp])
  · have hall : ∀ th ∈ s.thr, th.pc = .done ∨ th.pc = .u0 ∨ th.pc = .udone := by
      intro th hm
      have : ¬ (th.pc = .c0 ∨ th.pc = .c1 ∨ th.pc = .hold) := fun x => hc ⟨th, hm, x⟩
      revert this
      cases th.pc <;> decide
    obtain ⟨th, hm, hp⟩ : ∃ th ∈ s.thr, th.pc = .u0 :=
      Classical.byContradiction fun hno => hnf fun th hm =>
        (hall th hm).elim .inl fun x => x.elim (fun hp => absurd ⟨th, hm, hp⟩ hno) .inr
    refine en th hm ?_
    rw [hp]
    have hA : meas wBud th.key s.thr = announced s th.key :=
      meas_congr _ _ _ _ fun x hxm => by
        unfold contrib wBud wAnn
        rcases hall x hxm with hq | hq | hq <;> rw [hq] <;> rfl
    have hU : meas wUsr th.key s.thr = meas wU0 th.key s.thr + uses s th.key :=
      (meas_congr _ _ _ _ fun x hxm => by
        unfold contrib wUsr wU0 wUse
        dsimp only
        rcases hall x hxm with hq | hq | hq <;> rw [hq] <;> rfl).trans (meas_add ..)
    have h0 := le_meas_of_mem wU0 hm
    rw [wU0, if_pos hp] at h0
    have hk := hb th.key
    rw [hA, hU] at hk
    unfold useOk
    rw [(present_iff_of_inv s h th.key).2 (.inr (by omega)), Bool.true_and, decide_eq_true_eq]
    omega

end ParsecVerif.DataRepo
