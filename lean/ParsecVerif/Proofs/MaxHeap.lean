import ParsecVerif.Proofs.MaxHeapArith
/-!
  Structural invariants of the max-heap model: left-complete shape (`Shape`), heap order (`Ord`),
  and element conservation, for `insPath` (heap_insert) and `detachPath` + `sift` (heap_remove).
-/
namespace ParsecVerif.MaxHeap

/-- `t` is the left-complete binary tree with `n` nodes: all levels full but the last, which is filled from the left -/
def Shape : Nat → Tree → Prop
  | n, .nil => n = 0
  | n, .node l _ r => n ≠ 0 ∧ Shape (lsz n) l ∧ Shape (rsz n) r

def leRoot (t : Tree) (z : Int) : Prop :=
  match t with
  | .nil => True
  | .node _ y _ => y.prio ≤ z

def Ord : Tree → Prop
  | .nil => True
  | .node l x r => leRoot l x.prio ∧ leRoot r x.prio ∧ Ord l ∧ Ord r

-- sizes and paths enter through `lsz_add_rsz`, `next_free`, …; unfolded, `Shape` is reduced down to `log2` at every step
attribute [local irreducible] lsz rsz pathOf

theorem Shape_zero {t : Tree} (h : Shape 0 t) : t = .nil := by
  cases t with
  | nil => rfl
  | node l x r => exact absurd rfl h.1

theorem Shape_size : ∀ (t : Tree) (n : Nat), Shape n t → t.size = n
  | .nil, _, h => h.symm
  | .node l _ r, n, ⟨h0, hl, hr⟩ => by
    rw [Tree.size, Shape_size l _ hl, Shape_size r _ hr]
    exact (lsz_add_rsz n h0).1

theorem elems_length (t : Tree) : t.elems.length = t.size := by
  induction t with
  | nil => rfl
  | node l x r ihl ihr => simp [Tree.elems, Tree.size, ihl, ihr]

theorem count_node (a : Task) (l : Tree) (x : Task) (r : Tree) :
    (Tree.node l x r).elems.count a = (if x = a then 1 else 0) + l.elems.count a + r.elems.count a := by
  simp only [Tree.elems, List.count_cons, List.count_append, beq_iff_eq]
  omega

theorem leRoot_mono {t : Tree} {z z' : Int} (h : leRoot t z) (hz : z ≤ z') : leRoot t z' := by
  cases t with
  | nil => trivial
  | node l y r => exact Int.le_trans h hz

theorem Ord_max : ∀ (t : Tree), Ord t → ∀ z, leRoot t z → ∀ a ∈ t.elems, a.prio ≤ z
  | .node l x r, ⟨h1, h2, h3, h4⟩, z, hz, a, ha => by
    rcases List.mem_cons.1 ha with rfl | ha
    · exact hz
    · rcases List.mem_append.1 ha with ha | ha
      · exact Ord_max l h3 z (leRoot_mono h1 hz) a ha
      · exact Ord_max r h4 z (leRoot_mono h2 hz) a ha

/-- the two shapes `bubble` builds -/
def join (right : Bool) (o : Tree) (x : Task) (c : Tree) : Tree :=
  if right then .node o x c else .node c x o

theorem join_ord {right : Bool} {o c : Tree} {x : Task} :
    Ord (join right o x c) ↔ leRoot o x.prio ∧ leRoot c x.prio ∧ Ord o ∧ Ord c := by
  cases right
  · exact ⟨fun h => ⟨h.2.1, h.1, h.2.2.2, h.2.2.1⟩, fun h => ⟨h.2.1, h.1, h.2.2.2, h.2.2.1⟩⟩
  · exact Iff.rfl

theorem join_count (right : Bool) (o c : Tree) (x a : Task) :
    (join right o x c).elems.count a = (if x = a then 1 else 0) + o.elems.count a + c.elems.count a := by
  cases right
  · rw [join, if_neg Bool.false_ne_true, count_node]; omega
  · exact count_node a o x c

theorem bubble_cases (right : Bool) (o : Tree) (x : Task) (c : Tree × Bool) :
    (∃ cl e cr, c = (.node cl e cr, true) ∧ x.prio < e.prio ∧
        bubble right o x c = (join right o e (.node cl x cr), true)) ∨
    ((c.2 = true → leRoot c.1 x.prio) ∧
        bubble right o x c = (join right o x c.1, false)) := by
  obtain ⟨ct, cf⟩ := c
  cases cf with
  | false => exact .inr ⟨nofun, rfl⟩
  | true =>
    cases ct with
    | nil => exact .inr ⟨fun _ => trivial, rfl⟩
    | node cl e cr =>
      by_cases h : e.prio > x.prio
      · exact .inl ⟨cl, e, cr, rfl, h, if_pos h⟩
      · exact .inr ⟨fun _ => Int.not_lt.1 h, if_neg h⟩

theorem bubble_shape (right : Bool) (o : Tree) (x : Task) (c : Tree × Bool) (n : Nat)
    (h : Shape n (join right o x c.1)) : Shape n (bubble right o x c).1 := by
  rcases bubble_cases right o x c with ⟨cl, e, cr, rfl, -, hbub⟩ | ⟨-, hbub⟩ <;> rw [hbub]
  · cases right <;> exact h
  · exact h

theorem bubble_count (right : Bool) (o : Tree) (x : Task) (c : Tree × Bool) (a : Task) :
    (bubble right o x c).1.elems.count a = o.elems.count a + c.1.elems.count a + (if x = a then 1 else 0) := by
  rcases bubble_cases right o x c with ⟨cl, e, cr, rfl, -, hbub⟩ | ⟨-, hbub⟩ <;> rw [hbub, join_count]
  · rw [count_node, count_node]; omega
  · omega

theorem insPath_shape_count (e : Task) : ∀ (t : Tree) (n : Nat), Shape n t →
    Shape (n + 1) (insPath e (pathOf (n + 1)) t).1 ∧
    ∀ a, (insPath e (pathOf (n + 1)) t).1.elems.count a = t.elems.count a + (if e = a then 1 else 0)
  | .nil, n, h => by
    obtain rfl : n = 0 := h
    rw [pathOf_one]
    refine ⟨⟨Nat.one_ne_zero, lsz_one, rsz_one⟩, fun a => ?_⟩
    rw [insPath, Tree.leaf, count_node, Nat.add_comm]
    rfl
  | .node l x r, n, ⟨h0, hl, hr⟩ => by
    rcases next_free n h0 with ⟨hp, el, er⟩ | ⟨hp, el, er⟩ <;> rw [hp, insPath]
    · obtain ⟨s1, s2⟩ := insPath_shape_count e l _ hl
      rw [if_neg Bool.false_ne_true]
      refine ⟨bubble_shape false r x _ _ ⟨Nat.succ_ne_zero n, el ▸ s1, er ▸ hr⟩, fun a => ?_⟩
      rw [bubble_count, s2, count_node]
      omega
    · obtain ⟨s1, s2⟩ := insPath_shape_count e r _ hr
      rw [if_pos rfl]
      refine ⟨bubble_shape true l x _ _ ⟨Nat.succ_ne_zero n, el ▸ hl, er ▸ s1⟩, fun a => ?_⟩
      rw [bubble_count, s2, count_node]
      omega

/-- what the walk into a subtree returns (`P z`: `z` bounds the old root of that subtree): the root is bounded
    like the old one, or is the new element, still bubbling, over children bounded like the old root -/
def Bubbled (e : Task) (P : Int → Prop) (c : Tree × Bool) : Prop :=
  Ord c.1 ∧ (c.2 = false → ∀ z, P z → leRoot c.1 z) ∧
    (c.2 = true → ∃ cl cr, c.1 = .node cl e cr ∧ ∀ z, P z → leRoot cl z ∧ leRoot cr z)

theorem bubble_ord {e : Task} {P : Int → Prop} {right : Bool} {o : Tree} {x : Task} {c : Tree × Bool}
    (ho : leRoot o x.prio) (oo : Ord o) (hx : P x.prio) (hc : Bubbled e P c) :
    Bubbled e (x.prio ≤ ·) (bubble right o x c) := by
  obtain ⟨oc, h2, h3⟩ := hc
  rcases bubble_cases right o x c with ⟨cl, e', cr, rfl, hlt, hbub⟩ | ⟨hle, hbub⟩ <;> rw [hbub]
  · obtain ⟨_, _, he, hz⟩ := h3 rfl
    cases he
    have hxe := Int.le_of_lt hlt
    refine ⟨join_ord.2 ⟨leRoot_mono ho hxe, hxe, oo, (hz _ hx).1, (hz _ hx).2, oc.2.2⟩, nofun, fun _ => ?_⟩
    cases right
    · exact ⟨_, _, rfl, fun z hz => ⟨hz, leRoot_mono ho hz⟩⟩
    · exact ⟨_, _, rfl, fun z hz => ⟨leRoot_mono ho hz, hz⟩⟩
  · have hcx : leRoot c.1 x.prio := (Bool.eq_false_or_eq_true c.2).elim hle (h2 · _ hx)
    refine ⟨join_ord.2 ⟨ho, hcx, oo, oc⟩, fun _ z hz => ?_, nofun⟩
    cases right <;> exact hz

theorem insPath_ord (e : Task) : ∀ (p : List Bool) (t : Tree), Ord t → Bubbled e (leRoot t) (insPath e p t)
  | [], _, _ => ⟨⟨trivial, trivial, trivial, trivial⟩, nofun, fun _ => ⟨_, _, rfl, fun _ _ => ⟨trivial, trivial⟩⟩⟩
  | _ :: _, .nil, _ => ⟨trivial, fun _ _ _ => trivial, nofun⟩
  | true :: bs, .node .., ⟨h1, h2, h3, h4⟩ => bubble_ord h1 h3 h2 (insPath_ord e bs _ h4)
  | false :: bs, .node .., ⟨h1, h2, h3, h4⟩ => bubble_ord h2 h4 h1 (insPath_ord e bs _ h3)

theorem detachPath_spec : ∀ (t : Tree) (n : Nat), Shape (n + 1) t →
    ∃ last, (detachPath (pathOf (n + 1)) t).2 = some last ∧ Shape n (detachPath (pathOf (n + 1)) t).1 ∧
      (n ≠ 0 → (detachPath (pathOf (n + 1)) t).1.root? = t.root?) ∧
      ∀ a, t.elems.count a = (detachPath (pathOf (n + 1)) t).1.elems.count a + (if last = a then 1 else 0)
  | .node l x r, 0, ⟨_, hl, hr⟩ => by
    rw [Nat.zero_add] at hl hr ⊢
    obtain rfl := Shape_zero (lsz_one ▸ hl)
    obtain rfl := Shape_zero (rsz_one ▸ hr)
    rw [pathOf_one]
    exact ⟨x, rfl, rfl, nofun, fun a => by simp [detachPath, Tree.elems, List.count_cons]⟩
  | .node l x r, n + 1, ⟨_, hl, hr⟩ => by
    have h0 := Nat.succ_ne_zero n
    rcases next_free (n + 1) h0 with ⟨hp, el, er⟩ | ⟨hp, el, er⟩ <;> rw [hp, detachPath]
    · obtain ⟨last, d1, d2, -, d3⟩ := detachPath_spec l _ (el ▸ hl)
      refine ⟨last, d1, ⟨h0, d2, er ▸ hr⟩, fun _ => rfl, fun a => ?_⟩
      rw [if_neg Bool.false_ne_true, count_node, count_node, d3 a]
      omega
    · obtain ⟨last, d1, d2, -, d3⟩ := detachPath_spec r _ (er ▸ hr)
      refine ⟨last, d1, ⟨h0, el ▸ hl, d2⟩, fun _ => rfl, fun a => ?_⟩
      rw [if_pos rfl, count_node, count_node, d3 a]
      omega

theorem detachPath_ord : ∀ (p : List Bool) (t : Tree), Ord t →
    Ord (detachPath p t).1 ∧ ∀ z, leRoot t z → leRoot (detachPath p t).1 z
  | [], .nil, _ | _ :: _, .nil, _ | [], .node .., _ => ⟨trivial, fun _ _ => trivial⟩
  | true :: bs, .node .., ⟨h1, h2, h3, h4⟩ =>
    have ⟨i1, i2⟩ := detachPath_ord bs _ h4
    ⟨⟨h1, i2 _ h2, h3, i1⟩, fun _ hz => hz⟩
  | false :: bs, .node .., ⟨h1, h2, h3, h4⟩ =>
    have ⟨i1, i2⟩ := detachPath_ord bs _ h3
    ⟨⟨i2 _ h1, h2, i1, h4⟩, fun _ hz => hz⟩

/-- `sift` as a relation (`sift_spec`): each rule carries what its comparisons say -/
inductive Sift (b : Task) : Tree → Tree → Prop
  | nil : Sift b .nil .nil
  | left {ll p lr x r s} : b.prio < p.prio → leRoot r p.prio → Sift b (.node ll p lr) s →
      Sift b (.node (.node ll p lr) x r) (.node s p r)
  | right {l x rl q rr s} : b.prio < q.prio → leRoot l q.prio → Sift b (.node rl q rr) s →
      Sift b (.node l x (.node rl q rr)) (.node l q s)
  | stay {l x r} : leRoot l b.prio → leRoot r b.prio → Sift b (.node l x r) (.node l b r)

theorem sift_spec (b : Task) (t : Tree) : Sift b t (sift b t) := by
  induction t with
  | nil => exact .nil
  | node l x r ihl ihr =>
    rw [sift]
    cases l with
    | nil =>
      cases r with
      | nil => exact .stay trivial trivial
      | node rl q rr =>
        show Sift b _ (ite ..)
        split
        · next h => exact .right h trivial ihr
        · next h => exact .stay trivial (Int.not_lt.1 h)
    | node ll p lr =>
      cases r with
      | nil =>
        show Sift b _ (ite ..)
        split
        · next h => exact .left h trivial ihl
        · next h => exact .stay (Int.not_lt.1 h) trivial
      | node rl q rr =>
        show Sift b _ (ite ..)
        split
        · next h => exact .left h.1 h.2 ihl
        · next h =>
          split
          · next h' => exact .right h'.1 (Int.le_of_lt h'.2) ihr
          · next h' => exact .stay (show p.prio ≤ b.prio by omega) (show q.prio ≤ b.prio by omega)

theorem Sift.shape {b : Task} {t s : Tree} (h : Sift b t s) : ∀ n, Shape n t → Shape n s := by
  induction h with
  | nil | stay => exact fun _ h => h
  | left _ _ _ ih => exact fun _ ⟨h0, hl, hr⟩ => ⟨h0, ih _ hl, hr⟩
  | right _ _ _ ih => exact fun _ ⟨h0, hl, hr⟩ => ⟨h0, hl, ih _ hr⟩

theorem Sift.count {b : Task} {t s : Tree} (a : Task) (h : Sift b t s) : ∀ x, t.root? = some x →
    s.elems.count a + (if x = a then 1 else 0) = t.elems.count a + (if b = a then 1 else 0) := by
  induction h with
  | nil => nofun
  | left _ _ _ ih | right _ _ _ ih =>
    rintro _ ⟨⟩
    have := ih _ rfl
    rw [count_node, count_node]
    omega
  | stay =>
    rintro _ ⟨⟩
    rw [count_node, count_node]
    omega

/-- the second part is there for the induction: the parent of the child the walk goes into must still bound that
    child's new root, which is `b` or one of the child's own tasks -/
theorem Sift.ord {b : Task} {t s : Tree} (h : Sift b t s) : Ord t →
    Ord s ∧ ∀ z, b.prio ≤ z → leRoot t z → leRoot s z := by
  induction h with
  | nil => exact fun _ => ⟨trivial, fun _ _ _ => trivial⟩
  | left hlt hr _ ih => exact fun ⟨h1, _, h3, h4⟩ =>
    ⟨⟨(ih h3).2 _ (Int.le_of_lt hlt) (Int.le_refl _), hr, (ih h3).1, h4⟩, fun _ _ hz => Int.le_trans h1 hz⟩
  | right hlt hl _ ih => exact fun ⟨_, h2, h3, h4⟩ =>
    ⟨⟨hl, (ih h4).2 _ (Int.le_of_lt hlt) (Int.le_refl _), h3, (ih h4).1⟩, fun _ _ hz => Int.le_trans h2 hz⟩
  | stay hl hr => exact fun ⟨_, _, h3, h4⟩ => ⟨⟨hl, hr, h3, h4⟩, fun _ hz _ => hz⟩

end ParsecVerif.MaxHeap
