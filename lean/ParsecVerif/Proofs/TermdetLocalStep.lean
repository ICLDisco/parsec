import ParsecVerif.Proofs.TermdetLocal
/-!
  One thread step preserves `Core`, program point by program point; `R` holds the sums over the other threads.
  Only the clauses a step touches are replaced (`{ hI with … }`), the others are the old ones by unfolding.
-/
namespace ParsecVerif.TermdetLocal

variable {sh : Shared} {R : Sums} {script : List Op} {ret : Int} {hT hA hK : Nat}

/-- `Bounded` is what `Core.rest` needs, of the sums before the step; `inv_step` supplies it from `total_bounded`. -/
def Keeps (sh : Shared) (th : Thread) : Prop :=
  ∀ R : Sums, (R.add (W th)).Bounded → Core sh (R.add (W th)) → Core (tstep sh th).1 (R.add (W (tstep sh th).2))

/-- the `nb_tasks` path without a crossing leaves `nbpa` at its initial 1 (`int32_t ov, nbpa = 1` in
    `addto_nb_tasks` and `set_nb_tasks`) and so never goes for the CAS -/
theorem detect_one (sh : Shared) (th : Thread) (r : Int) : detect sh th 1 r = fin th r := by
  simp [detect]

theorem W_detect (sh : Shared) (th : Thread) (n r : Int) :
    W (detect sh th n r) = { W (fin th r) with c2 := if sh.mon = 2 ∧ n = 0 then 1 else 0 } := by
  unfold detect; split <;> rfl

theorem local_tFa {v : Int} (hen : enabled sh ⟨.tFa v, script, ret, hT, hA, hK⟩) :
    Keeps sh ⟨.tFa v, script, ret, hT, hA, hK⟩ := by
  intro R _ hI
  have ia := hI.a
  have ib := hI.b
  have id := hI.d
  dsimp only [enabled, canRaise, W, Sums.add] at hen ia ib id
  -- the protocol keeps the holdings non-negative: the new ones are a natural number `k`
  have hk : ((((hT : Int) + v).toNat : Nat) : Int) = hT + v := Int.toNat_of_nonneg (by omega)
  simp only [tstep, detect_one, fin, ghT]
  generalize ((hT : Int) + v).toNat = k at hk ⊢
  have a' : sh.nt + v = ((R.hT + k + sh.pT : Nat) : Int) := by omega
  -- a thread is parked at `tInc` / `tDec` exactly when `[nb_tasks > 0]` has moved
  split
  · next h =>
    -- d: this is where `canRaise` is needed.  `nb_tasks = 0` leaves the thread no task unit (a), so it holds an
    -- action unit or the token, and the `v > 0` units it adds give it a task unit
    have := pos_of_le (Int.le_of_eq h.1)
    have := pos_of_pos (x := sh.nt + v) (by omega)
    refine { hI with a := a', b := ?_, d := ?_ }
    all_goals dsimp only [W, Sums.add]
    · omega
    · omega
  split
  · next h =>
    have := pos_of_le (Int.le_of_eq h.1)
    have := pos_of_pos h.2
    refine { hI with a := a', b := ?_ }
    dsimp only [W, Sums.add]
    omega
  · have := pos_congr (x := sh.nt + v) (y := sh.nt) (by omega)
    refine { hI with a := a', b := ?_ }
    dsimp only [W, Sums.add]
    omega

theorem local_tInc {r : Int} : Keeps sh ⟨.tInc r, script, ret, hT, hA, hK⟩ := by
  intro R hS hI
  have ib := hI.b
  have id := hI.d
  dsimp only [W, Sums.add] at ib id
  simp only [tstep, W_detect]
  refine { hI with b := ?_, d := ?_, det := hI.det.detect fun hm h0 => ?_ }
  all_goals dsimp only [W, fin, Sums.add]
  · omega
  · omega
  · have := hI.rest hS hm h0; dsimp only [W, Sums.add] at this; omega

theorem local_tDec {r : Int} : Keeps sh ⟨.tDec r, script, ret, hT, hA, hK⟩ := by
  intro R hS hI
  have ib := hI.b
  dsimp only [W, Sums.add] at ib
  simp only [tstep, W_detect]
  refine { hI with b := ?_, det := hI.det.detect fun hm h0 => ?_ }
  all_goals dsimp only [W, fin, Sums.add]
  · omega
  · have := hI.rest hS hm h0; dsimp only [W, Sums.add] at this; omega

theorem local_aFa {v : Int} (hen : enabled sh ⟨.aFa v, script, ret, hT, hA, hK⟩) :
    Keeps sh ⟨.aFa v, script, ret, hT, hA, hK⟩ := by
  intro R hS hI
  have ib := hI.b
  dsimp only [enabled, canRaise, W, Sums.add] at hen ib
  simp only [tstep, W_detect]
  refine { hI with b := ?_, det := hI.det.detect fun hm h0 => ?_ }
  all_goals dsimp only [W, fin, ghA, Sums.add]
  · omega
  · -- at rest nothing is held, so the protocol allows no change
    have := hI.rest hS hm h0
    have := hI.a
    have := hI.c.2 hm
    dsimp only [W, Sums.add] at *
    omega

/-- a successful CAS of `set_runtime_actions` is `addto_runtime_actions (v - ov)` -/
theorem local_aCas {v ov : Int} (hen : enabled sh ⟨.aCas v ov, script, ret, hT, hA, hK⟩) :
    Keeps sh ⟨.aCas v ov, script, ret, hT, hA, hK⟩ := by
  intro R hS hI
  by_cases h : sh.npa = ov
  · subst h
    have hen := hen rfl
    have e : sh.npa + (v - sh.npa) = v := by omega
    have := local_aFa (v := v - sh.npa) (script := script) (ret := ret)
      (by dsimp only [enabled, canRaise] at hen ⊢; omega) R hS hI
    simpa only [tstep, detect, fin, ghA, e, if_true] using this
  · simp only [tstep, h, if_false]
    exact hI

/-- likewise `set_nb_tasks` and `addto_nb_tasks (v - ov)` -/
theorem local_sCas {v ov : Int} (hen : enabled sh ⟨.sCas v ov, script, ret, hT, hA, hK⟩) :
    Keeps sh ⟨.sCas v ov, script, ret, hT, hA, hK⟩ := by
  intro R hS hI
  by_cases h : sh.nt = ov
  · subst h
    have hen := hen rfl
    have e : sh.nt + (v - sh.nt) = v := by omega
    have c : (sh.nt = 0 ∧ v - sh.nt > 0) ↔ (sh.nt = 0 ∧ v > 0) := by omega
    have := local_tFa (v := v - sh.nt) (script := script) (ret := ret)
      (by dsimp only [enabled, canRaise] at hen ⊢; omega) R hS hI
    simpa only [tstep, detect, fin, ghT, e, c, if_true, and_comm] using this
  · simp only [tstep, h, if_false]
    exact hI

theorem local_rCas1 (hen : enabled sh ⟨.rCas1, script, ret, hT, hA, hK⟩) :
    Keeps sh ⟨.rCas1, script, ret, hT, hA, hK⟩ := by
  intro R _ hI
  have ic := hI.c
  have id := hI.det
  have ip := hI.row
  dsimp only [enabled, Det, W, Sums.add] at hen ic id
  -- the caller holds the token, which exists only while NOT_READY
  have hm : sh.mon = 1 := by omega
  simp only [tstep, hm, if_true]
  rw [hm] at ic id ip
  refine { hI with c := ?_, det := ⟨?_, ?_⟩, row := ?_ }
  all_goals simp only [Row, W, Sums.add, true_and] at ip ⊢
  all_goals omega

theorem local_rRetain : Keeps sh ⟨.rRetain, script, ret, hT, hA, hK⟩ := by
  intro R _ hI
  have id := hI.det
  have ip := hI.row
  dsimp only [Det, W, Sums.add] at id
  -- the reference count and the number of threads before their RETAIN move together, none of these while NOT_READY;
  -- the row does not read `c2`, so it is the same whether the thread goes for the CAS or returns
  have row' : Row { sh with rc := sh.rc + 1 } (R.add (W ⟨.idle, script, 0, hT, hA, hK⟩)) sh.mon ∧ sh.mon ≠ 1 := by
    unfold Row at ip ⊢
    split at ip <;> dsimp only [W, Sums.add] at ip ⊢ <;> omega
  simp only [tstep, fin]
  split <;> refine { hI with det := ⟨?_, ?_⟩, row := row'.1 } <;> dsimp only [W, Sums.add] <;> omega

theorem local_dCas2 {r : Int} : Keeps sh ⟨.dCas2 r, script, ret, hT, hA, hK⟩ := by
  intro R _ hI
  have ic := hI.c
  have id := hI.det
  have ip := hI.row
  dsimp only [Det, W, Sums.add] at ic id
  simp only [tstep, fin]
  split
  · next hm =>
    -- the winner is one of the `c2` threads, so `det` says the counter is 0 past NOT_READY: row 2 becomes row 3
    rw [hm] at ic id ip
    refine { hI with c := ?_, det := ⟨?_, ?_⟩, row := ?_ }
    all_goals simp only [Row, W, Sums.add] at ip ⊢
    all_goals omega
  · -- the loser leaves `c2`; the word is not BUSY, so nothing is left unattended by that
    refine { hI with det := ⟨?_, ?_⟩ }
    all_goals dsimp only [W, Sums.add]
    all_goals omega

theorem local_dCas3 {r : Int} : Keeps sh ⟨.dCas3 r, script, ret, hT, hA, hK⟩ := by
  intro R _ hI
  have ic := hI.c
  have id := hI.det
  have ip := hI.row
  dsimp only [Det, W, Sums.add] at ic id
  -- only TERMINATING has a thread between the callback and its final CAS
  have hm : sh.mon = 3 := by
    unfold Row at ip
    split at ip <;> dsimp only [W, Sums.add] at ip <;> omega
  simp only [tstep, hm, if_true]
  rw [hm] at ic id ip
  refine { hI with c := ?_, det := ⟨?_, ?_⟩, row := ?_ }
  all_goals simp only [Row, W, Sums.add] at ip ⊢
  all_goals omega

theorem local_dRel {r : Int} : Keeps sh ⟨.dRel r, script, ret, hT, hA, hK⟩ := by
  intro R _ hI
  have ip := hI.row
  refine { hI with row := ?_ }
  dsimp only [tstep, fin]
  unfold Row at ip ⊢
  split at ip <;> dsimp only [W, Sums.add] at ip ⊢ <;> omega

/-- the invariant reads holdings and pools only through the sums `hT + pT`, `hA + pA`, `hK + pK`
    (the two records are `W` of a thread at `idle` with the holdings given) -/
theorem Core.handover {pT pA pK hT' hA' hK' : Nat}
    (hI : Core sh (R.add ⟨hT, hA, hK, 0, 0, 0, 0, 0, 0, 0, hT, hA + hK⟩))
    (eT : hT' + pT = hT + sh.pT) (eA : hA' + pA = hA + sh.pA) (eK : hK' + pK = hK + sh.pK) :
    Core { sh with pT := pT, pA := pA, pK := pK } (R.add ⟨hT', hA', hK', 0, 0, 0, 0, 0, 0, 0, hT', hA' + hK'⟩) := by
  refine { hI with a := ?_, b := ?_, c := ?_ }
  · have := hI.a; dsimp only [Sums.add] at this ⊢; omega
  · have := hI.b; dsimp only [Sums.add] at this ⊢; omega
  · have := hI.c; dsimp only [Sums.add] at this ⊢; omega

theorem local_idle (hen : enabled sh ⟨.idle, script, ret, hT, hA, hK⟩) :
    Keeps sh ⟨.idle, script, ret, hT, hA, hK⟩ := by
  intro R _ hI
  dsimp only [W] at hI
  rcases script with _ | ⟨op, rest⟩
  · exact hI
  cases op with
  | ready => exact hI
  | addT v => simp only [tstep, begin]; split <;> exact hI
  | addA v => simp only [tstep, begin]; split <;> exact hI
  | setT v => simp only [tstep, begin]; split <;> exact hI
  | setA v => exact hI
  | state => exact hI
  | put c k =>
    -- `k ≤` the holdings of kind `c` (protocol)
    cases c <;> dsimp only [enabled, hold, tstep, begin, addPool, subHold, fin, W] at hen ⊢ <;>
      exact hI.handover (by omega) (by omega) (by omega)
  | take c k =>
    simp only [tstep, begin]
    split
    · next h =>
      cases c <;> dsimp only [pool, subPool, addHold, fin, W] at h ⊢ <;>
        exact hI.handover (by omega) (by omega) (by omega)
    · exact hI

theorem local_step {sh : Shared} {th : Thread} (hen : enabled sh th) : Keeps sh th := by
  obtain ⟨pc, script, ret, hT, hA, hK⟩ := th
  cases pc with
  | idle => exact local_idle hen
  | rCas1 => exact local_rCas1 hen
  | rRetain => exact local_rRetain
  | tFa v => exact local_tFa hen
  | tInc r => exact local_tInc
  | tDec r => exact local_tDec
  | aFa v => exact local_aFa hen
  | sCas v ov => exact local_sCas hen
  | aCas v ov => exact local_aCas hen
  | dCas2 r => exact local_dCas2
  | dCas3 r => exact local_dCas3
  | dRel r => exact local_dRel

end ParsecVerif.TermdetLocal
