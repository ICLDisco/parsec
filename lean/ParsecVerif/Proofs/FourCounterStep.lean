import ParsecVerif.Proofs.FourCounterHist
/-
  Every operation of the model preserves the invariant `Inv`, which therefore holds in every
  reachable state; so does a second, local invariant `Live` used for deadlock freedom.
  `Ev` says once what an operation does to the state; `Inv.step`, `Live.step` and the theorems about
  deliveries in FourCounterAfter go by its cases.
-/
namespace ParsecVerif.FourCounter

theorem st_of_fin {s : State} (h : Fin s) (ht : (s.procs 0).st = .term) {q : Nat} (hq : q < s.n) :
    cls (s.procs q).st = 2 ∨ cls (s.procs q).st = 3 := by
  rcases ((h.q ht).1 q hq).2.2 with t | t <;> rw [t] <;> simp [cls]

theorem Fin.running {s : State} (h : Fin s) {q : Nat} (hq : q < s.n)
    (hv : cls (s.procs q).st ≤ 1 ∨ 0 < (s.procs q).wl ∨ 0 < (s.procs q).opn) : (s.procs 0).st ≠ .term := by
  intro ht
  have := (h.q ht).1 q hq
  rcases st_of_fin h ht hq with t | t <;> omega

theorem Inv.downT_finds {s : State} (h : Inv s) {pk : Packet} (hm : pk ∈ s.net) (hkind : pk.kind = .down true) :
    (s.procs pk.dst).st = .idleWP ∧ (s.procs pk.dst).wl = 0 ∧ (s.procs pk.dst).opn = 0 ∧ 0 < pk.dst ∧ pk.dst < s.n := by
  obtain ⟨a2, b, h0, hme⟩ := h.st.down_finds hm hkind
  have hfin := (h.fi.q (cls_eq.1 (h.st.tr _ (by have := parent_lt h0; omega) b))).1 pk.dst hme
  have hnt : (s.procs pk.dst).st ≠ .term := fun t => by rw [t] at a2; cases a2
  exact ⟨hfin.2.2.resolve_right hnt, hfin.1, hfin.2.1, h0, hme⟩

theorem Fin.op {s : State} (h : Fin s) {l : List Packet} {p : Nat} {v : Proc}
    (hcb : v.cbs = if v.st = .term then 1 else 0)
    (hr : p = 0 → v.st = .term → (s.procs 0).st = .term)
    (hq : (s.procs 0).st = .term →
      (v.wl = 0 ∧ v.opn = 0 ∧ (v.st = .idleWP ∨ v.st = .term)) ∧ cnt isApp l = cnt isApp s.net) :
    Fin (setP { s with net := l } p v) := by
  refine ⟨fun ht => ?_, fun q hq' => ?_⟩
  · have ht0 : (s.procs 0).st = .term := by
      by_cases e : 0 = p
      · subst e; rw [setP_procs_same] at ht; exact hr rfl ht
      · rwa [setP_procs_ne _ _ e] at ht
    refine ⟨fun q hq' => ?_, (hq ht0).2.trans (h.q ht0).2⟩
    by_cases e : q = p
    · rw [e, setP_procs_same]; exact (hq ht0).1
    · rw [setP_procs_ne _ _ e]; exact (h.q ht0).1 q hq'
  · by_cases e : q = p
    · rw [e, setP_procs_same]; exact hcb
    · rw [setP_procs_ne _ _ e]; exact h.cb q hq'

theorem Fin.env {s : State} (h : Fin s) (hnot : (s.procs 0).st ≠ .term) {l : List Packet} {p : Nat} {v : Proc}
    (hp : p < s.n) (hcb : v.cbs = (s.procs p).cbs) (ht : v.st = .term ↔ (s.procs p).st = .term) :
    Fin (setP { s with net := l } p v) :=
  h.op (by rw [hcb, h.cb p hp]; simp only [ht]) (fun e t => e ▸ ht.1 t) fun t => absurd t hnot

theorem rootAfter_fin (n : Nat) {p : Proc} (hnt : p.st ≠ .term) (hcb : p.cbs = 0) :
    ((rootAfter n p).st = .term → rootRes n p = true) ∧
      (rootAfter n p).cbs = if (rootAfter n p).st = .term then 1 else 0 := by
  unfold rootAfter
  split
  · exact ⟨fun _ => ‹_›, by simp [hcb]⟩
  · exact ⟨fun e => absurd e hnt, by simp [hcb]⟩

theorem Inv.sendUp {s : State} (h : Inv s) {me : Nat} (hme : me < s.n)
    (h1 : cls (s.procs me).st = 1) (hncl : (s.procs me).ncl = 0) (hw : (s.procs me).wl = 0) :
    Inv (sendUp s me) := by
  have hnt : (s.procs me).st ≠ .term := fun e => by rw [e] at h1; cases h1
  unfold FourCounter.sendUp
  by_cases e : me = 0
  · subst e
    rw [if_pos rfl]
    have hcb := h.fi.cb 0 hme
    rw [if_neg hnt] at hcb
    obtain ⟨hres, hcb'⟩ := rootAfter_fin s.n (p := accAdd (s.procs 0)) hnt hcb
    refine ⟨h.st.decide hme h1 hncl, h.hi.atDecision h.st h1 hncl hw, fun ht => ?_, fun q hq => ?_⟩
    · obtain ⟨q1, q2, q3⟩ := decision_quiet h.hi h.st hme h1 hncl hw (hres ht)
      have henv := rootDecide_appEq s
      refine ⟨fun q hq => ?_, by simpa [rootDecide, cnt_app_downs] using q2⟩
      rw [(henv q).2.2.1, (henv q).2.2.2]
      refine ⟨(q1 q hq).1, (q1 q hq).2, ?_⟩
      by_cases e : q = 0
      · subst e; exact Or.inr ht
      · rw [rootDecide_procs_ne s e]; exact Or.inl (q3 q (by omega) hq)
    · by_cases e : q = 0
      · subst e; exact hcb'
      · rw [rootDecide_procs_ne s e]; exact h.fi.cb q hq
  · rw [if_neg e]
    have hf := h.fi.env (h.fi.running hme (Or.inl (by omega))) hme (l := (sampleUp s me).net)
      (v := { accAdd (s.procs me) with ncl := nbChildren s.n me, st := .idleWP }) rfl (iff_of_false nofun hnt)
    exact ⟨h.st.sample (by omega) hme h1 hncl, h.hi.sample h.st (by omega) hme h1 hw, hf.q, hf.cb⟩

theorem Inv.checkMsg {s : State} (h : Inv s) {me : Nat} (hme : me < s.n) : Inv (checkMsg s me) := by
  unfold FourCounter.checkMsg
  split
  · rename_i hc
    exact h.sendUp hme (by rw [hc.2.1]; rfl) hc.2.2 hc.1
  · exact h

theorem Inv.downF {s : State} (h : Inv s) {k : Nat} {pk : Packet}
    (hk : s.net[k]? = some pk) (hkind : pk.kind = .down false) {x : St} (x1 : cls x = 1) :
    Inv (pDown s k pk.dst false { s.procs pk.dst with accS := 0, accR := 0, st := x }) := by
  have ha := pDown_app (me := pk.dst) (v := s.procs pk.dst) hk hkind
  obtain ⟨a2, b, h0, hme⟩ := h.st.down_finds (List.mem_of_getElem? hk) hkind
  have hnot := h.fi.running (q := parent pk.dst) (by have := parent_lt h0; omega) (Or.inl (Nat.le_of_eq b))
  have hxt : x ≠ .term := fun e => by rw [e] at x1; cases x1
  exact ⟨h.st.down hk hkind x1 fun _ => ⟨rfl, rfl, rfl⟩,
    h.hi.ctl ⟨rfl, rfl, rfl, rfl⟩ (fun (e : x = _) => by rw [e] at x1; cases x1)
      (fun (e : cls x = 0) => by omega) ha,
    h.fi.env hnot hme rfl (iff_of_false hxt fun e => by rw [e] at a2; cases a2)⟩

/-- `hx` keeps `Hist.h8`: a monitor that is busy waiting for its parent afterwards was so before, with the same
    workload, or has work. -/
theorem Inv.work {s : State} (h : Inv s) {p : Nat} (hp : p < s.n) {a b : Nat} {x : St}
    (hnt : (s.procs p).st ≠ .term)
    (hc : cls x = cls (s.procs p).st)
    (hmay : mayWork (s.procs p) (a + b))
    (hx : x = .busyWP → (s.procs p).st = .busyWP ∧ a + b = (s.procs p).wl ∨ 0 < a + b) :
    Inv (setP s p { s.procs p with nt := a, npa := b, st := x }) := by
  have hxt : x ≠ .term := by intro e; rw [e] at hc; exact hnt (cls_eq.1 hc.symm)
  refine ⟨h.st.env ⟨hc, rfl, rfl, rfl, rfl, rfl⟩ (fun _ => rfl) (fun _ _ => rfl) h.st.pk,
    h.hi.work h.st hp rfl rfl rfl hc hmay fun e => ?_,
    h.fi.op ?_ (fun _ e => absurd e hxt) fun ht => ⟨?_, rfl⟩⟩
  · rcases hx e with t | t
    · have := h.hi.h8 p hp t.1
      rw [← t.2] at this; exact this
    · exact Or.inl t
  · show (s.procs p).cbs = if x = .term then 1 else 0
    rw [h.fi.cb p hp, if_neg hnt, if_neg hxt]
  · -- the root has terminated: `p` is idle without work and stays so
    obtain ⟨hw, ho, hst⟩ := (h.fi.q ht).1 p hp
    have hip := hst.resolve_right hnt
    have hab : a + b = 0 := Nat.eq_zero_of_not_pos fun hh =>
      (hmay hw hh).elim (fun t => by rw [hip] at t; cases t) (fun t => by omega)
    refine ⟨hab, ho, Or.inl ?_⟩
    show x = .idleWP
    rw [hip] at hc hx
    rcases cls_eq.1 hc with t | t
    · rcases hx t with u | u
      · cases u.1
      · omega
    · exact t

/-- the state the monitor moves to when the workload has become `wl` -/
def flip (wl : Nat) : St → St
  | .busyWP => if wl = 0 then .idleWP else .busyWP
  | .busyWC => if wl = 0 then .idleWC else .busyWC
  | .idleWC => if wl = 0 then .idleWC else .busyWC
  | .idleWP => if wl = 0 then .idleWP else .busyWP
  | x => x

theorem flip_spec (wl : Nat) (x : St) :
    cls (flip wl x) = cls x ∧ (flip wl x = .busyWP → 0 < wl) ∧
    (flip wl x = .idleWC ∨ flip wl x = .idleWP → wl = 0) ∧
    (flip wl x = .idleWC → x = .busyWC ∨ x = .idleWC) := by
  by_cases hw : wl = 0 <;> cases x <;> simp [flip, hw, cls] <;> omega

theorem checkWl_eq (s : State) (me : Nat) : checkWl s me =
    if (s.procs me).wl = 0 ∧ (s.procs me).st = .busyWC ∧ (s.procs me).ncl = 0 then
      sendUp (setSt s me .idleWC) me
    else setSt s me (flip (s.procs me).wl (s.procs me).st) := by
  have keep := fun x (e : (s.procs me).st = x) => (e ▸ setP_self s me : setSt s me x = s)
  unfold checkWl
  by_cases hw : (s.procs me).wl = 0 <;> cases hst : (s.procs me).st <;> simp [hw, flip, keep _ hst]

theorem setSt_setP (s : State) (p : Nat) (v : Proc) (x : St) :
    setSt (setP s p v) p x = setP s p { v with st := x } := by
  unfold setSt setP
  congr 1
  funext q
  by_cases e : q = p <;> simp [upd, e]

/-! `Ev s a s'` collects what `step s a = some s'` says about `s` and `s'` (`step_ev`), with the bodies of the handlers
taken apart: `s'` is a change of one monitor and of the network, possibly followed by check_state_message_received
(`checkMsg`) or send_up_messages (`sendUp`).  The post-states (`pReady`, `pSend`, `pRstart`, `pRend`, `pAbsorb`, `pDown`)
are definitionally the terms that `step`, `msgUp` and `msgDown` build; `step_ev` relies on that.  The four workload
operations all end in `setWl`; of these it keeps the guards, not how the arguments of the action determine the new
workload, and leaves the action a variable, so that three constructors serve the four operations; `isWork a` is what
lets an analysis of `Ev s (.deliver k) s'` dismiss them (`ha.elim`). -/

def isWork : Action → Prop
  | .setT .. | .setPA .. | .addT .. | .addPA .. => True
  | _ => False

/-- the state incoming_message_start leaves the monitor in -/
def wake (x : St) : St := if x = .idleWC then .busyWC else if x = .idleWP then .busyWP else x

theorem wake_spec (x : St) : cls (wake x) = cls x ∧ wake x ≠ .idleWC ∧ wake x ≠ .idleWP := by
  cases x <;> exact ⟨rfl, by decide, by decide⟩

inductive Ev (s : State) : Action → State → Prop
  | ready {p : Nat} (hp : p < s.n) (hnr : (s.procs p).st = .notReady) : Ev s (.ready p) (pReady s p)
  /-- check_state_workload_changed is not called: no change of the workload worth one -/
  | workKeep {a : Action} {p nt npa : Nat} (ha : isWork a) (hp : p < s.n)
      (hnt : (s.procs p).st ≠ .term) (hmay : mayWork (s.procs p) (nt + npa))
      (hw : nt + npa = (s.procs p).wl ∨ (0 < (s.procs p).wl ∧ 0 < nt + npa)) :
      Ev s a (setP s p { s.procs p with nt := nt, npa := npa })
  | workFlip {a : Action} {p nt npa : Nat} (ha : isWork a) (hp : p < s.n)
      (hnt : (s.procs p).st ≠ .term) (hmay : mayWork (s.procs p) (nt + npa))
      (hc : ¬ (nt + npa = 0 ∧ (s.procs p).st = .busyWC ∧ (s.procs p).ncl = 0)) :
      Ev s a (setP s p { s.procs p with nt := nt, npa := npa, st := flip (nt + npa) (s.procs p).st })
  | workUp {a : Action} {p nt npa : Nat} (ha : isWork a) (hp : p < s.n)
      (hmay : mayWork (s.procs p) (nt + npa)) (hw : nt + npa = 0) (hst : (s.procs p).st = .busyWC)
      (hncl : (s.procs p).ncl = 0) :
      Ev s a (sendUp (setP s p { s.procs p with nt := nt, npa := npa, st := .idleWC }) p)
  | send {p q : Nat} (hp : p < s.n) (hq : q < s.n) (hpq : p ≠ q) (hw : 0 < (s.procs p).wl) :
      Ev s (.send p q) (pSend s p q)
  | rstart {k : Nat} {pk : Packet} (hk : s.net[k]? = some pk) (happ : isApp pk = true) (hq : pk.dst < s.n)
      (hnt : (s.procs pk.dst).st ≠ .term) :
      Ev s (.rstart k) (pRstart s k pk.dst (wake (s.procs pk.dst).st))
  | rend {q : Nat} (hq : q < s.n) (ho : 0 < (s.procs q).opn) : Ev s (.rend q) (pRend s q)
  | hold {k : Nat} {pk : Packet} (hk : s.net[k]? = some pk) (hdst : pk.dst < s.n)
      (hnr : (s.procs pk.dst).st = .notReady) :
      Ev s (.deliver k) { s with net := s.net.eraseIdx k ++ [{ pk with held := true }] }
  | up {k : Nat} {pk : Packet} {a b : Nat} (hk : s.net[k]? = some pk) (hkind : pk.kind = .up a b)
      (hr : (s.procs pk.dst).st ≠ .notReady) :
      Ev s (.deliver k) (checkMsg (pAbsorb s k pk.dst a b) pk.dst)
  | downT {k : Nat} {pk : Packet} (hk : s.net[k]? = some pk) (hkind : pk.kind = .down true) :
      Ev s (.deliver k)
        (pDown s k pk.dst true { s.procs pk.dst with st := .term, cbs := (s.procs pk.dst).cbs + 1 })
  | downIdle {k : Nat} {pk : Packet} (hk : s.net[k]? = some pk) (hkind : pk.kind = .down false)
      (hdst : pk.dst < s.n) (hip : (s.procs pk.dst).st = .idleWP) :
      Ev s (.deliver k)
        (checkMsg (pDown s k pk.dst false { s.procs pk.dst with accS := 0, accR := 0, st := .idleWC }) pk.dst)
  | downBusy {k : Nat} {pk : Packet} (hk : s.net[k]? = some pk) (hkind : pk.kind = .down false)
      (hnip : (s.procs pk.dst).st ≠ .idleWP) :
      Ev s (.deliver k) (pDown s k pk.dst false { s.procs pk.dst with accS := 0, accR := 0, st := .busyWC })

theorem setWl_ev {s : State} {a : Action} {p nt npa : Nat} {chk : Bool} (ha : isWork a) (hp : p < s.n)
    (hnt : (s.procs p).st ≠ .term) (hmay : mayWork (s.procs p) (nt + npa))
    (hchk : chk = false → nt + npa = (s.procs p).wl ∨ (0 < (s.procs p).wl ∧ 0 < nt + npa)) :
    Ev s a (setWl s p nt npa chk) := by
  unfold setWl
  cases chk with
  | false => exact .workKeep ha hp hnt hmay (hchk rfl)
  | true =>
    simp only [if_true]
    rw [checkWl_eq, setP_procs_same, setSt_setP, setSt_setP]
    split
    · rename_i hc; exact .workUp ha hp hmay hc.1 hc.2.1 hc.2.2
    · rename_i hc; exact .workFlip ha hp hnt hmay hc

theorem msgDown_ev {s : State} {k : Nat} {pk : Packet} {res : Bool} (hk : s.net[k]? = some pk)
    (hkind : pk.kind = .down res) (hdst : pk.dst < s.n) :
    Ev s (.deliver k) (msgDown { s with net := s.net.eraseIdx k } pk.dst res) := by
  unfold msgDown
  cases res with
  | true => exact .downT hk hkind
  | false =>
    simp only [Bool.false_eq_true, if_false]
    split
    · rename_i hip; exact .downIdle hk hkind hdst hip
    · rename_i hnip; exact .downBusy hk hkind hnip

theorem step_ev {s s' : State} {a : Action} (hs : step s a = some s') : Ev s a s' := by
  cases a <;> simp only [FourCounter.step] at hs
  case ready p => split at hs <;> cases hs; rename_i hc; exact .ready hc.1 hc.2
  case setT p v | setPA p v =>
    split at hs <;> cases hs; rename_i hc
    exact setWl_ev trivial hc.1 hc.2.1 hc.2.2 fun e => Or.inl (by
      have := of_decide_eq_false e
      unfold Proc.wl; omega)
  case addT p v | addPA p v =>
    split at hs <;> cases hs; rename_i hc
    exact setWl_ev trivial hc.1 hc.2.1 hc.2.2.2 fun e => by
      have := of_decide_eq_false e
      have := hc.2.2.1
      unfold Proc.wl; omega
  case send p q => split at hs <;> cases hs; rename_i hc; exact .send hc.1 hc.2.1 hc.2.2.1 hc.2.2.2.2
  case rend q => split at hs <;> cases hs; rename_i hc; exact .rend hc.1 hc.2.1
  case rstart k =>
    split at hs
    · cases hs
    · rename_i pk hk
      split at hs <;> cases hs; rename_i hc; exact .rstart hk hc.1 hc.2.1 hc.2.2.2
  case deliver k =>
    split at hs
    · cases hs
    · rename_i pk hk
      split at hs
      · rename_i hdst
        split at hs
        · cases hs
        · rename_i a b hkind
          split at hs
          · rename_i hnr; split at hs <;> cases hs; exact .hold hk hdst hnr
          · rename_i hnr; cases hs; exact .up hk hkind hnr
        · rename_i res hkind
          split at hs
          · rename_i hnr; split at hs <;> cases hs; exact .hold hk hdst hnr
          · cases hs; exact msgDown_ev hk hkind hdst
      · cases hs

theorem Inv.step {s s' : State} (h : Inv s) {a : Action} (hs : step s a = some s') : Inv s' := by
  cases step_ev hs with
  | ready hp hnr =>
    exact ⟨h.st.ready hp hnr, h.hi.ctl ⟨rfl, rfl, rfl, rfl⟩ nofun nofun rfl,
      h.fi.env (h.fi.running hp (Or.inl (by rw [hnr]; decide))) hp rfl (by rw [hnr]; exact ⟨nofun, nofun⟩)⟩
  | workKeep _ hp hnt hmay hw => exact h.work hp hnt rfl hmay fun e => hw.imp (fun t => ⟨e, t⟩) And.right
  | workFlip _ hp hnt hmay =>
    obtain ⟨hc, hb, -, -⟩ := flip_spec _ _
    exact h.work hp hnt hc hmay fun e => Or.inr (hb e)
  | workUp _ hp hmay hw hst hncl =>
    have hI : Inv (setP s _ { s.procs _ with nt := _, npa := _, st := .idleWC }) :=
      h.work hp (by rw [hst]; nofun) (by rw [hst]; rfl) hmay nofun
    exact hI.sendUp hp (by rw [setP_procs_same]; rfl) (by rw [setP_procs_same]; exact hncl)
      (by rw [setP_procs_same]; exact hw)
  | send hp hq hpq hw =>
    refine ⟨h.st.env ⟨rfl, rfl, rfl, rfl, rfl, rfl⟩ (fun r => by simp [U, isUpFrom])
        (fun r x => by simp [D, isDownTo]) fun k hk => ?_,
      h.hi.send hp hq hpq hw, h.fi.env (h.fi.running hp (Or.inr (Or.inl hw))) hp rfl Iff.rfl⟩
    rcases List.mem_append.1 hk with hm | hm
    · exact h.st.pk k hm
    · rw [List.mem_singleton.1 hm]; trivial
  | @rstart k pk hk happ hq hnt =>
    obtain ⟨hc, -, -⟩ := wake_spec (s.procs pk.dst).st
    have hxt : wake (s.procs pk.dst).st ≠ .term := by intro e; rw [e] at hc; exact hnt (cls_eq.1 hc.symm)
    -- an application message in flight: the root has not terminated
    have hnot : (s.procs 0).st ≠ .term := by
      intro ht
      have := (h.fi.q ht).2
      have := cnt_pos_of_mem isApp (List.mem_of_getElem? hk) happ
      omega
    have hkind : pk.kind = .app := by
      unfold isApp at happ; split at happ <;> simp_all
    exact ⟨h.st.env ⟨hc, rfl, rfl, rfl, rfl, rfl⟩
        (fun r => cnt_eraseIdx_of_false _ hk (by simp [isUpFrom, hkind]))
        (fun r y => cnt_eraseIdx_of_false _ hk (by simp [isDownTo, hkind]))
        (fun k' hk' => h.st.pk k' (List.mem_of_mem_eraseIdx hk')),
      h.hi.rstart hk happ hq hc, h.fi.env hnot hq rfl (iff_of_false hxt hnt)⟩
  | rend hq ho =>
    exact ⟨h.st.env ⟨rfl, rfl, rfl, rfl, rfl, rfl⟩ (fun _ => rfl) (fun _ _ => rfl) h.st.pk,
      h.hi.rend hq ho, h.fi.env (h.fi.running hq (Or.inr (Or.inr ho))) hq rfl Iff.rfl⟩
  | @hold k pk hk =>
    have ha := cnt_hold isApp hk rfl
    refine ⟨h.st.hold hk, ?_, fun ht => ⟨(h.fi.q ht).1, ha.trans (h.fi.q ht).2⟩, h.fi.cb⟩
    rw [← setP_self { s with net := _ } 0]; exact h.hi.ctl ⟨rfl, rfl, rfl, rfl⟩ id id ha
  | @up k pk a b hk hkind hr =>
    obtain ⟨h1, -, hrn⟩ := h.st.up_finds (List.mem_of_getElem? hk) hkind hr
    have hI : Inv (pAbsorb s k pk.dst a b) :=
      ⟨h.st.absorb hk hkind hr,
        h.hi.ctl ⟨rfl, rfl, rfl, rfl⟩ id id (cnt_eraseIdx_of_false isApp hk (by simp [isApp, hkind])),
        h.fi.env (h.fi.running hrn (Or.inl (by omega))) hrn rfl Iff.rfl⟩
    exact hI.checkMsg hrn
  | @downT k pk hk hkind =>
    have ha := pDown_app (me := pk.dst) (v := s.procs pk.dst) hk hkind
    obtain ⟨hip, hw, ho, h0, hme⟩ := h.downT_finds (List.mem_of_getElem? hk) hkind
    have hcb := h.fi.cb pk.dst hme
    rw [hip] at hcb
    exact ⟨h.st.down hk hkind rfl nofun, h.hi.ctl ⟨rfl, rfl, rfl, rfl⟩ nofun nofun ha,
      h.fi.op (by simp [hcb]) (fun e => by omega) fun _ => ⟨⟨hw, ho, Or.inr rfl⟩, ha⟩⟩
  | downIdle hk hkind hdst => exact (h.downF hk hkind rfl).checkMsg hdst
  | downBusy hk hkind => exact h.downF hk hkind rfl

structure Local (me : Nat) (s s' : State) : Prop where
  n : s'.n = s.n
  other : ∀ q, q ≠ me → s'.procs q = s.procs q

theorem Local.forall {P : Proc → Prop} {s s' : State} {me : Nat} (hl : Local me s s')
    (h : ∀ q, q < s.n → P (s.procs q)) (hg : me < s.n → P (s'.procs me)) : ∀ q, q < s'.n → P (s'.procs q) := by
  intro q hq
  rw [hl.n] at hq
  by_cases e : q = me
  · rw [e]; exact hg (e ▸ hq)
  · rw [hl.other q e]; exact h q hq

theorem Local.setP (s : State) (me : Nat) (v : Proc) (l : List Packet) :
    Local me s (setP { s with net := l } me v) := ⟨rfl, fun _ e => setP_procs_ne _ _ e⟩

theorem Local.sendUp {s s1 : State} {me : Nat} (h : Local me s s1) : Local me s (sendUp s1 me) := by
  unfold FourCounter.sendUp; split
  · rename_i h0; subst h0
    exact ⟨h.n, fun q e => (rootDecide_procs_ne s1 e).trans (h.other q e)⟩
  · exact ⟨h.n, fun q e => (upd_ne _ _ _ _ e).trans (h.other q e)⟩

theorem Local.checkMsg {s s1 : State} {me : Nat} (h : Local me s s1) : Local me s (checkMsg s1 me) := by
  unfold FourCounter.checkMsg; split
  · exact h.sendUp
  · exact h

theorem Ev.local {s s' : State} {a : Action} (h : Ev s a s') : ∃ me, Local me s s' := by
  cases h with
  | hold => exact ⟨0, rfl, fun _ _ => rfl⟩
  | workUp => exact ⟨_, (Local.setP s _ _ _).sendUp⟩
  | up | downIdle => exact ⟨_, (Local.setP s _ _ _).checkMsg⟩
  | _ => exact ⟨_, .setP s _ _ _⟩

theorem step_n {s s' : State} {a : Action} (hs : step s a = some s') : s'.n = s.n :=
  (step_ev hs).local.elim fun _ h => h.n

theorem Inv.initial (n : Nat) : Inv (init n) := by
  have h0 : sumTo n (fun _ => 0) = 0 := sumTo_zero fun _ _ => rfl
  have ht : transit (FourCounter.init n) = 0 := by simp [transit, FourCounter.init, appCount, h0]
  refine ⟨⟨?_, ?_, ?_, ?_, ?_, ?_, sumTo_congr fun _ _ => ite_self _, sumTo_congr fun _ _ => ite_self _, ?_, ?_⟩,
    ⟨?_, ?_, ?_, ?_, ?_, ?_, by rw [ht]; rfl, ?_, fun _ => ht, ?_⟩, ?_, ?_⟩ <;>
    simp [FourCounter.init, cls, sKS, sKR, Edge, edgeOK, U, D, h0]

theorem Inv.reach {n : Nat} {s : State} (h : Reach n s) : Inv s ∧ s.n = n := by
  induction h with
  | init => exact ⟨Inv.initial n, rfl⟩
  | step a _ hs ih => exact ⟨ih.1.step hs, by rw [step_n hs]; exact ih.2⟩

/-! `Live`: a monitor that is idle and waits for its children still misses at least one contribution (otherwise it
would have contributed itself).  Local to one process: every handler re-establishes it for the process it runs on
and leaves the others untouched. -/

def good (p : Proc) : Prop :=
  ((p.st = .idleWC ∨ p.st = .idleWP) → p.wl = 0) ∧ (p.st = .idleWC → p.ncl ≠ 0)

def Live (s : State) : Prop := ∀ q, q < s.n → good (s.procs q)

theorem good_busy {p : Proc} (h1 : p.st ≠ .idleWC) (h2 : p.st ≠ .idleWP) : good p :=
  ⟨fun h => absurd h (not_or.2 ⟨h1, h2⟩), fun h => absurd h h1⟩

theorem sendUp_good (s : State) (me : Nat) (hw : (s.procs me).wl = 0) :
    good ((sendUp s me).procs me) := by
  unfold sendUp; split
  · rename_i h0; subst h0
    simp only [rootDecide, upd_same]
    unfold rootAfter
    split
    · exact good_busy (by simp) (by simp)
    · rename_i hr
      refine ⟨fun _ => hw, fun _ e => hr ?_⟩
      have : nbChildren s.n 0 = 0 := Int.natCast_eq_zero.1 e
      simp [rootRes, this]
  · simp only [sampleUp, upd_same]
    exact ⟨fun _ => hw, nofun⟩

theorem checkMsg_good (s : State) (me : Nat)
    (hid : ((s.procs me).st = .idleWC ∨ (s.procs me).st = .idleWP) → (s.procs me).wl = 0) :
    good ((checkMsg s me).procs me) := by
  unfold checkMsg; split
  · rename_i hc; exact sendUp_good s me hc.1
  · rename_i hc
    exact ⟨hid, fun hic e => hc ⟨hid (Or.inl hic), hic, e⟩⟩

theorem Live.update {s : State} (h : Live s) {l : List Packet} {p : Nat} {v : Proc} (hg : p < s.n → good v) :
    Live (setP { s with net := l } p v) :=
  (Local.setP s p v l).forall h fun hp => by rw [setP_procs_same]; exact hg hp

theorem Live.step {s s' : State} (h : Live s) {a : Action} (hs : step s a = some s') : Live s' := by
  cases step_ev hs with
  | ready => exact h.update fun _ => good_busy (by simp) (by simp)
  | @workKeep _ p _ _ _ hp _ _ hw =>
    refine h.update fun _ => ⟨fun hi => ?_, (h p hp).2⟩
    have := (h p hp).1 hi
    exact hw.elim (fun e => e.trans this) fun e => absurd this (by omega)
  | @workFlip _ p nt npa _ hp _ _ hc =>
    obtain ⟨_, _, hid, hic⟩ := flip_spec (nt + npa) (s.procs p).st
    refine h.update fun _ => ⟨hid, fun e hn => ?_⟩
    rcases hic e with t | t
    · exact hc ⟨hid (Or.inl e), t, hn⟩
    · exact (h p hp).2 t hn
  | @workUp _ p _ _ _ _ _ hw =>
    exact (Local.setP s p _ _).sendUp.forall h fun _ => sendUp_good _ p (by rw [setP_procs_same]; exact hw)
  | @send p _ hp => exact h.update fun _ => h p hp
  | @rend q hq => exact h.update fun _ => h q hq
  | rstart => exact h.update fun _ => good_busy (wake_spec _).2.1 (wake_spec _).2.2
  | hold => exact h
  | up =>
    exact (Local.setP s _ _ _).checkMsg.forall h fun hq =>
      checkMsg_good _ _ (by rw [setP_procs_same]; exact (h _ hq).1)
  | downT | downBusy => exact h.update fun _ => good_busy (by simp) (by simp)
  | downIdle _ _ _ hip =>
    exact (Local.setP s _ _ _).checkMsg.forall h fun hq =>
      checkMsg_good _ _ (by rw [setP_procs_same]; exact fun _ => (h _ hq).1 (Or.inr hip))

theorem Live.reach {n : Nat} {s : State} (h : Reach n s) : Live s := by
  induction h with
  | init => intro q _; exact good_busy (by simp [init]) (by simp [init])
  | step a _ hs ih => exact ih.step hs

end ParsecVerif.FourCounter
