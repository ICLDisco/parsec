import ParsecVerif.Model.DistRt
import ParsecVerif.Proofs.DataflowLive
namespace ParsecVerif.DistRt
open ParsecVerif.Dataflow
open ParsecVerif.RemoteDep hiding St

/-- The result enters as a variable `r` with an equation: the induction step rewrites and generalizes the fold once,
    in that equation, not at each occurrence of the result in the conclusion. -/
theorem foldl_set_spec {α : Type} (f : Nat → List α → α)
    (hloc : ∀ i (v w : List α), (∀ p, p < i → v[p]? = w[p]?) → f i v = f i w) (init : List α) (n : Nat)
    (hn : n ≤ init.length) {r : List α} (hr : r = (List.range n).foldl (fun v i => v.set i (f i v)) init) :
    r.length = init.length ∧ ∀ i, i < n → r[i]? = some (f i r) := by
  induction n generalizing r with
  | zero => exact ⟨hr ▸ rfl, fun _ hi => absurd hi (Nat.not_lt_zero _)⟩
  | succ n ih =>
    obtain ⟨hlen, hspec⟩ := ih (Nat.le_of_succ_le hn) rfl
    rw [List.range_succ, List.foldl_append] at hr
    generalize (List.range n).foldl (fun v i => v.set i (f i v)) init = r' at hlen hspec hr
    subst hr
    have hsame : ∀ i, i ≤ n → f i (r'.set n (f n r')) = f i r' := fun i hi =>
      hloc i _ _ fun p hp => List.getElem?_set_ne (by omega)
    refine ⟨by simp [hlen], fun i hi => ?_⟩
    show (r'.set n (f n r'))[i]? = some (f i (r'.set n (f n r')))
    rw [hsame i (Nat.le_of_lt_succ hi)]
    by_cases hin : i = n
    · subst hin; exact List.getElem?_set_self (by omega)
    · rw [List.getElem?_set_ne (fun e => hin e.symm)]; exact hspec i (by omega)

theorem seqRun_spec (G : Graph) (F) (hfw : ∀ e ∈ G.E, e.1 < e.2) (i : Nat) (hi : i < G.n) :
    (seqRun G F)[i]? = some (some (F i ((predsOf G i).map fun p => ((seqRun G F)[p]?).getD none))) :=
  (foldl_set_spec (fun i v => some (F i ((predsOf G i).map fun p => (v[p]?).getD none)))
    (fun i v w h => by
      rw [List.map_congr_left fun p hp => by rw [h p (hfw (p, i) ((mem_predsOf G i p).1 hp))]])
    (List.replicate G.n none) G.n (by simp) rfl).2 i hi

theorem ended_vals_eq_seqRun {G : Graph} {F} (hfw : ∀ e ∈ G.E, e.1 < e.2) {s : St} (h : Inv G F s) :
    ∀ i : Nat, s.status[i]? = some Status.ended → s.val[i]? = (seqRun G F)[i]? :=
  ended_vals_unique (rank := id) hfw h (seqRun_spec G F hfw)

theorem quiescent_vals_eq_seqRun {G : Graph} {F} (hfw : ∀ e ∈ G.E, e.1 < e.2) {s : St} (h : Inv G F s)
    (hq : quiescent s) : ∀ i, i < G.n → s.val[i]? = (seqRun G F)[i]? :=
  fun i hi => ended_vals_eq_seqRun hfw h i (quiescent_ended h hq hi)

section look
variable {κ β : Type} [BEq κ] [LawfulBEq κ]

theorem look_cons_self (k : κ) (v : β) (l : List (κ × β)) : look ((k, v) :: l) k = some v := by
  simp [look]

theorem look_cons_ne {k k' : κ} (v : β) (l : List (κ × β)) (h : k ≠ k') : look ((k, v) :: l) k' = look l k' := by
  simp [look, h]

theorem look_cons_forall {P : κ → β → Prop} {k : κ} {v : β} {l : List (κ × β)} (hnew : P k v)
    (hold : ∀ k' w, look l k' = some w → P k' w) : ∀ k' w, look ((k, v) :: l) k' = some w → P k' w := by
  intro k' w h
  by_cases hk : k = k'
  · rw [hk, look_cons_self] at h; exact hk ▸ Option.some.inj h ▸ hnew
  · exact hold k' w (look_cons_ne v l hk ▸ h)

theorem look_cons_isSome {k k' : κ} {v : β} {l : List (κ × β)} (h : (look l k').isSome) :
    (look ((k, v) :: l) k').isSome := by
  by_cases hk : k = k'
  · rw [hk, look_cons_self]; rfl
  · rwa [look_cons_ne v l hk]

end look

theorem denabled_iff {cf : Conf} {s : DSt} {t : DTr} : denabled cf s t = true ↔ match t with
    | .start i => enabled s.core (.start i) = true
    | .again i => enabled s.core (.again i) = true
    | .finish i => enabled s.core (.finish i) = true
    | .releaseLocal a b => enabled s.core (.release a b) = true ∧ cf.place a = cf.place b
    | .recvAct a m eager =>
      m ∈ inflightOf s a ∧ (a, m) ∉ s.xfer ∧ (eager = false ∨ 0 < cf.short ∧ cf.size a ≤ cf.short)
    | .recvData a m => (a, m) ∈ s.xfer := by
  cases t <;> simp [denabled, and_assoc]

section rel
variable {G : Graph} {F : Nat → List (Option Nat) → Nat} {rank : Nat → Nat}

theorem step_release_pending (s : St) (a b : Nat) (ha : s.status[a]? = some .ended) :
    (step G F s (.release a b)).pending = s.pending.erase (a, b) := by
  unfold step
  by_cases hen : enabled s (.release a b) = true
  · simp [hen]
  · have hnm : (a, b) ∉ s.pending := fun hm => hen (enabled_iff.2 ⟨ha, hm⟩)
    simp [hen, List.erase_of_not_mem hnm]

theorem step_ended_iff (hwf : WF G rank) {s : St} (h : Inv G F s) (t : Tr) (hf : ∀ i, t ≠ .finish i) :
    ∀ j : Nat, (step G F s t).status[j]? = some .ended ↔ s.status[j]? = some .ended :=
  step_cases (P := fun t c => (∀ i, t ≠ .finish i) →
      ∀ j : Nat, c.status[j]? = some .ended ↔ s.status[j]? = some .ended) G F s
    (fun _ _ _ _ => Iff.rfl)
    (fun _ hi _ => set_status_iff hi (by decide) (by decide))
    (fun _ hi _ _ => set_status_iff hi (by decide) (by decide))
    (fun i _ _ hf => absurd rfl (hf i))
    (fun a b _ hp _ => release_status_iff (h.waiting_of_pending hwf hp) (by decide) (by decide) _) t hf

theorem step_mu_le (hwf : WF G rank) {s : St} (h : Inv G F s) (t : Tr) : mu (step G F s t) ≤ mu s := by
  cases hen : enabled s t with
  | true => exact Nat.le_of_lt (step_mu_lt hwf h hen)
  | false => unfold step; simp [hen]

/-- the releases done when a message completes: the `core` field of `complete` (`complete_of_mem`) -/
def relFold (G : Graph) (F : Nat → List (Option Nat) → Nat) (a : Nat) (rel : List Nat) (c : St) : St :=
  rel.foldl (fun c b => step G F c (.release a b)) c

theorem relFold_frame (hwf : WF G rank) (a : Nat) (rel : List Nat) {c : St} (h : Inv G F c) :
    (∀ j : Nat, (relFold G F a rel c).status[j]? = some .ended ↔ c.status[j]? = some .ended) ∧
    mu (relFold G F a rel c) ≤ mu c := by
  induction rel generalizing c with
  | nil => exact ⟨fun _ => Iff.rfl, Nat.le_refl _⟩
  | cons b rest ih =>
    obtain ⟨i1, i2⟩ := ih (inv_step hwf c h (.release a b))
    exact ⟨fun j => (i1 j).trans (step_ended_iff hwf h (.release a b) (fun _ => nofun) j),
      Nat.le_trans i2 (step_mu_le hwf h _)⟩

theorem relFold_count (hwf : WF G rank) (a : Nat) (rel : List Nat) {c : St} (h : Inv G F c)
    (ha : c.status[a]? = some .ended) (x y : Nat) :
    (relFold G F a rel c).pending.count (x, y) = c.pending.count (x, y) - if x = a then rel.count y else 0 := by
  induction rel generalizing c with
  | nil => simp [relFold]
  | cons b rest ih =>
    have := ih (inv_step hwf c h (.release a b)) ((step_ended_iff hwf h (.release a b) (fun _ => nofun) a).2 ha)
    rw [step_release_pending c a b ha, List.count_erase] at this
    rw [relFold, List.foldl_cons, ← relFold, this, List.count_cons]
    by_cases hx : x = a
    · subst hx
      simp only [if_true, beq_iff_eq, Prod.mk.injEq, true_and]
      split <;> omega
    · simp [hx, Ne.symm hx]

end rel

theorem count_graph_E (g : DGraph) (a b : Nat) :
    g.graph.E.count (a, b) = g.E.countP (fun e => e.1 == a && e.2.1 == b) := by
  unfold DGraph.graph
  simp only
  rw [List.count_eq_countP, List.countP_map]
  apply List.countP_congr
  intro e _
  simp only [Function.comp, beq_iff_eq, Prod.mk.injEq, Bool.and_eq_true]

theorem count_releasedBy (g : DGraph) (cf : Conf) (a : Nat) (m : Msg) (b : Nat) :
    (releasedBy g cf a m).count b = g.E.countP (fun e => e.1 == a && e.2.1 == b &&
      (m.dst == cf.place b && (m.keys.contains e.2.2 || g.isCtl a e.2.2))) := by
  unfold releasedBy
  rw [List.count_eq_countP, List.countP_map, List.countP_filter]
  apply List.countP_congr
  intro e _
  simp only [Function.comp, Bool.and_eq_true, beq_iff_eq]
  constructor
  · rintro ⟨rfl, ⟨h1, h2⟩, h3⟩; exact ⟨⟨h1, rfl⟩, h2.symm, h3⟩
  · rintro ⟨⟨h1, rfl⟩, h2, h3⟩; exact ⟨rfl, ⟨h1, h2.symm⟩, h3⟩

theorem countP_not_split {α} (l : List α) (p q r : α → Bool) (h : ∀ x, q x = true → r x = false) :
    l.countP (fun x => p x && !r x) =
      l.countP (fun x => p x && q x) + l.countP (fun x => p x && !(q x || r x)) := by
  have key : ∀ p q r : Bool, (q = true → r = false) → (if (p && !r) = true then 1 else 0) =
      (if (p && q) = true then 1 else 0) + if (p && !(q || r)) = true then 1 else 0 := by decide
  induction l with
  | nil => rfl
  | cons x xs ih =>
    simp only [List.countP_cons, ih, key (p x) (q x) (r x) (h x)]
    omega

theorem mem_graph_E (g : DGraph) (a b : Nat) : (a, b) ∈ g.graph.E ↔ ∃ e ∈ g.E, e.1 = a ∧ e.2.1 = b := by
  unfold DGraph.graph
  simp only [List.mem_map, Prod.mk.injEq]

theorem graph_WF (g : DGraph) (h : g.WF) : WF g.graph id := by
  unfold WF DGraph.graph
  simp only [List.forall_mem_map]
  exact ⟨fun e he => ⟨Nat.lt_trans (h e he).1 (h e he).2.1, (h e he).2.1⟩, fun e he => (h e he).1⟩

theorem graph_fw (g : DGraph) (h : g.WF) : ∀ e ∈ g.graph.E, e.1 < e.2 := (graph_WF g h).2

end ParsecVerif.DistRt
