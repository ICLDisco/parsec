/-
  Forward simulation of the LIFO model to the sequential stack.  `stepTh_spec` says what one micro step
  does: `ThStep` (Proofs/LifoThread) for the stepping thread's record and the linearization record it emits,
  `MemOk` for memory.  `Inv` is the global invariant of the linearization; `Inv2` adds the interference invariant:
  a try_pop that gives up, and every retry, is caused by ANOTHER thread's progress.
-/
import ParsecVerif.Proofs.Lifo
import ParsecVerif.Proofs.LifoThread
import ParsecVerif.Base.Interleave

namespace ParsecVerif.Lifo

theorem Spec.replay_append (σ : List Nat) (l1 l2 : List (Op × Res)) :
    Spec.replay σ (l1 ++ l2) = (Spec.replay σ l1).bind fun σ' => Spec.replay σ' l2 := by
  induction l1 generalizing σ with
  | nil => rfl
  | cons a t ih =>
    simp only [List.cons_append, Spec.replay]
    cases Spec.step σ a.1 a.2 with
    | none => rfl
    | some σ' => exact ih σ'

theorem Spec.replay_single {σ σ' : List Nat} {op : Op} {r : Res} (h : Spec.step σ op r = some σ') :
    Spec.replay σ [(op, r)] = some σ' := by
  simp [Spec.replay, h]

theorem Spec.step_rejected (σ : List Nat) (op : Op) : Spec.step σ op .rejected = some σ := by
  cases op <;> rfl

def Effective (l : LinRec) : Prop :=
  match l.op, l.res with
  | .push _ _, .unit => True
  | .pop _, .item x => x ≠ 0
  | _, _ => False

/-- `head`: a step that changes the head word (counter, top) emits an `Effective` record; this is what lets the
    other poppers blame a mismatch of their saved values on it (last case of `Inv2.step`). -/
structure MemOk (m : Mem) (t : Nat) (o : Out) : Prop where
  guar : Guar t m o.mem
  tinv : TInv o.mem t o.th.pc
  spec : Spec.replay m.abs (o.lin.toList.map LinRec.ev) = some o.mem.abs
  head : o.mem.ctr = m.ctr ∧ o.mem.top = m.top ∨ ∃ l ∈ o.lin.toList, Effective l

theorem MemOk.same {m : Mem} {t : Nat} {th' : Thread} {lin : Option LinRec} (hG : GInv m) (hT : TInv m t th'.pc)
    (hl : Spec.replay m.abs (lin.toList.map LinRec.ev) = some m.abs) : MemOk m t ⟨m, th', lin⟩ :=
  ⟨.refl hG, hT, hl, .inl ⟨rfl, rfl⟩⟩

theorem MemOk.ownWrite {m : Mem} {t x v : Nat} {th' : Thread} {lin : Option LinRec} (hG : GInv m)
    (hx : m.who x = t + 1) (hT : TInv { m with next := upd m.next x v } t th'.pc)
    (hl : Spec.replay m.abs (lin.toList.map LinRec.ev) = some m.abs) :
    MemOk m t ⟨{ m with next := upd m.next x v }, th', lin⟩ :=
  ⟨.ownWrite hG hx, hT, hl, .inl ⟨rfl, rfl⟩⟩

def Interfered (lins : List LinRec) (t since : Nat) : Prop :=
  ∃ l ∈ lins, l.tid ≠ t ∧ since < l.tLin ∧ Effective l

theorem Interfered.mono {lins : List LinRec} {t since : Nat} (h : Interfered lins t since) (more : List LinRec) :
    Interfered (lins ++ more) t since :=
  h.imp fun _ hl => ⟨List.mem_append_left _ hl.1, hl.2⟩

def TryInvPc (m : Mem) (lins : List LinRec) (t ti : Nat) : Pc → Prop
  | .popFence _ c => m.ctr ≠ c → Interfered lins t ti
  | .popRdI _ c => m.ctr ≠ c → Interfered lins t ti
  | .popRdN _ c it => ¬ (m.ctr = c ∧ m.top = it) → Interfered lins t ti
  | .popCas _ c it _ => ¬ (m.ctr = c ∧ m.top = it) → Interfered lins t ti
  | _ => True

def TryInv (m : Mem) (lins : List LinRec) (t : Nat) (th : Thread) : Prop := TryInvPc m lins t th.tInv th.pc

theorem TryInvPc.congr {m m' : Mem} {lins : List LinRec} {u ti : Nat} {pc : Pc} (h : TryInvPc m lins u ti pc)
    (hc : m'.ctr = m.ctr) (ht : m'.top = m.top) (more : List LinRec) : TryInvPc m' (lins ++ more) u ti pc := by
  cases pc <;> simp only [TryInvPc, hc, ht] at h ⊢ <;> first | trivial | exact fun hne => (h hne).mono more

theorem TryInvPc.of_interfered {m : Mem} {lins : List LinRec} {u ti : Nat} {pc : Pc}
    (h : pc ≠ .idle → Interfered lins u ti) : TryInvPc m lins u ti pc := by
  cases pc <;> first | trivial | exact fun _ => h nofun

/-- The last conjunct is the stepping thread's own interference invariant: the saved values are the ones
    it had, or have just been read. -/
theorem stepTh_spec (m : Mem) (n t now : Nat) (th : Thread) (hG : GInv m) (hT : TInv m t th.pc)
    (lins : List LinRec) (hI : TryInv m lins t th) :
    ThStep t now th (stepTh m n t now th).th (stepTh m n t now th).lin ∧ MemOk m t (stepTh m n t now th) ∧
    TryInv (stepTh m n t now th).mem (lins ++ (stepTh m n t now th).lin.toList) t (stepTh m n t now th).th := by
  obtain ⟨pc, todo, hist, ti, tl⟩ := th
  cases pc with
  | idle =>
    cases todo with
    | nil => exact ⟨.stay, .same hG trivial rfl, trivial⟩
    | cons op rest =>
      cases op with
      | pop tr => exact ⟨.start rfl rfl rfl rfl, .same hG trivial rfl, trivial⟩
      | push pre tl =>
        simp only [stepTh, stepPc, invoke]; split
        · exact ⟨.start rfl rfl rfl rfl, .same hG ‹_› rfl, trivial⟩
        · exact ⟨.reject rfl rfl, .same hG trivial (Spec.replay_single (Spec.step_rejected ..)), trivial⟩
      | setNext x v =>
        simp only [stepTh, stepPc, invoke]; split
        · exact ⟨.start rfl rfl rfl rfl, .same hG (And.left ‹_›) rfl, trivial⟩
        · exact ⟨.reject rfl rfl, .same hG trivial (Spec.replay_single (Spec.step_rejected ..)), trivial⟩
  | pushRd pre tl | pushFence pre tl nxt | popWmb tr it =>
    exact ⟨.goto rfl rfl rfl, .same hG hT rfl, trivial⟩
  | pushWr pre tl nxt =>
    refine ⟨.goto rfl rfl rfl, ?_, trivial⟩
    obtain ⟨ho, hn, hseg⟩ := hT
    have htl : m.who tl = t + 1 := ho tl (by simp)
    have hnotin : tl ∉ pre := fun h => (List.nodup_append.1 hn).2.2 tl h tl (by simp) rfl
    exact .ownWrite hG htl ⟨ho, hn, (hseg.upd_notin hnotin).snoc (hG.of_owned htl).1 (upd_same ..)⟩ rfl
  | pushCas pre tl nxt =>
    simp only [stepTh, stepPc]; split
    · rename_i htop
      exact ⟨.lin rfl rfl, ⟨.pushCommit hG hT htop, trivial, Spec.replay_single rfl,
        .inr ⟨_, .head _, trivial⟩⟩, trivial⟩
    · exact ⟨.goto rfl rfl rfl, .same hG ⟨hT.1, hT.2.1, hT.2.2.unsnoc⟩ rfl, trivial⟩
  | popRdC tr =>
    exact ⟨.goto rfl rfl rfl, .same hG (Nat.le_refl _) rfl, fun hne => absurd rfl hne⟩
  | popFence tr c => exact ⟨.goto rfl rfl rfl, .same hG hT rfl, fun hne => (hI hne).mono _⟩
  | popRdI tr c =>
    simp only [stepTh, stepPc]; split
    · rename_i htop
      exact ⟨.lin rfl rfl, .same hG trivial
        (Spec.replay_single (by simp [Spec.step, (htop ▸ hG.seg).nil_of_zero])), trivial⟩
    · rename_i htop
      refine ⟨.goto rfl rfl rfl, ?_, fun hne => (hI fun hc => hne ⟨hc, rfl⟩).mono _⟩
      obtain ⟨rest, habs, _⟩ := hG.abs_of_top rfl htop
      exact .same hG ⟨hT, htop, fun _ => habs ▸ List.mem_cons_self ..⟩ rfl
  | popRdN tr c it =>
    exact ⟨.goto rfl rfl rfl, .same hG ⟨hT.1, hT.2.1, fun h => ⟨hT.2.2 h, rfl⟩⟩ rfl,
      fun hne => (hI hne).mono _⟩
  | popCas tr c it nx =>
    simp only [stepTh, stepPc]; split
    · rename_i hcas
      refine ⟨.commit rfl rfl, ?_, trivial⟩
      obtain ⟨rest, habs, hseg⟩ := hT.cas_sound hG hcas.1 hcas.2
      have hit := hT.2.1
      obtain ⟨x, rfl⟩ := Nat.exists_eq_succ_of_ne_zero hit
      exact ⟨.popCommit hG habs hseg, upd_same ..,
        Spec.replay_single (by simp [Spec.step, habs, popCommit]), .inr ⟨_, .head _, hit⟩⟩
    · split
      · rename_i htr
        exact ⟨.lin rfl rfl, .same hG trivial (Spec.replay_single (by simp [Spec.step, htr])), trivial⟩
      · exact ⟨.goto rfl rfl rfl, .same hG trivial rfl, trivial⟩
  | popClr tr it => exact ⟨.ret rfl rfl, .ownWrite hG hT trivial rfl, trivial⟩
  | setNx x v =>
    exact ⟨.lin rfl rfl, .ownWrite hG hT trivial (Spec.replay_single rfl), trivial⟩

structure ThOk (c : Config) (s : State) (t : Nat) (th : Thread) : Prop where
  tinv : TInv s.mem t th.pc
  time : TimeOk t s.time th
  lins : s.lins.filter (fun l => l.tid == t) = linsOf t th
  prog : ProgOk (c.progs.getD t []) th

-- `lins` is kept in the order of the stamps `tLin` (`sorted`); `bound` (every stamp is below the clock) keeps it so
-- when a step appends a record stamped `s.time`.  `stamp`, with `TimeOk`, gives the real-time order (`Inv.linearization`).
structure Inv (c : Config) (s : State) : Prop where
  g : GInv s.mem
  th : ∀ t th, s.thr[t]? = some th → ThOk c s t th
  len : s.thr.length = c.progs.length
  sorted : s.lins.Pairwise (fun a b => a.tLin < b.tLin)
  bound : ∀ l ∈ s.lins, l.tLin < s.time
  stamp : ∀ l ∈ s.lins, l.tInv ≤ l.tLin
  spec : Spec.replay c.stack (s.lins.map LinRec.ev) = some s.mem.abs

theorem init_thr {c : Config} {t : Nat} {th : Thread} (h : (init c).thr[t]? = some th) :
    ∃ p, c.progs[t]? = some p ∧ ⟨.idle, p, [], 0, 0⟩ = th := by
  simpa only [Lifo.init, List.getElem?_map, Option.map_eq_some_iff] using h

structure Inv2 (c : Config) (s : State) : Prop where
  inv : Inv c s
  tryi : ∀ t th, s.thr[t]? = some th → TryInv s.mem s.lins t th

theorem Inv2.init (c : Config) (hc : c.WF) : Inv2 c (init c) := by
  refine ⟨⟨⟨hc.2.1, hc.1, hc.2.2⟩, fun t th hth => ?_, by simp [Lifo.init], .nil, (fun _ h => nomatch h),
    (fun _ h => nomatch h), rfl⟩, fun t th hth => ?_⟩
  · obtain ⟨p, hp, rfl⟩ := init_thr hth
    exact ⟨trivial, ⟨(fun _ h => nomatch h), (absurd rfl ·), fun _ h => nomatch h⟩, rfl, by simp [ProgOk, pcOp, hp]⟩
  · obtain ⟨p, _, rfl⟩ := init_thr hth
    trivial

theorem Inv2.step {c : Config} {s : State} (h : Inv2 c s) (t : Nat) : Inv2 c (step s t) := by
  unfold Lifo.step
  cases hth : s.thr[t]? with
  | none => exact h
  | some th =>
    simp only
    have ht := h.inv.th t th hth
    obtain ⟨hs, hm, htry⟩ := stepTh_spec s.mem s.n t s.time th h.inv.g ht.tinv s.lins (h.tryi t th hth)
    obtain ⟨hT, hls⟩ := hs.time ht.time
    generalize stepTh s.mem s.n t s.time th = o at *
    refine ⟨⟨hm.guar.g, Interleave.forall_getElem?_set ?_ fun u thu hne hu => ?_, by simp [h.inv.len], ?_, ?_, ?_, ?_⟩,
      Interleave.forall_getElem?_set htry fun u thu hne hu => ?_⟩
    · refine ⟨hm.tinv, hT, ?_, hs.prog ht.prog⟩
      rw [List.filter_append, List.filter_eq_self.2 fun l hl => beq_iff_eq.2 (hls l hl).1, ht.lins, hs.lins]
    · have hu' := h.inv.th u thu hu
      refine ⟨hu'.tinv.stable (hm.guar.stable u hne), hu'.time.mono, ?_, hu'.prog⟩
      rw [List.filter_append, List.filter_eq_nil_iff.2 fun l hl h => hne ((beq_iff_eq.1 h).symm.trans (hls l hl).1),
        List.append_nil, hu'.lins]
    · exact List.pairwise_append.2 ⟨h.inv.sorted, by cases o.lin <;> simp,
        fun a ha b hb => (hls b hb).2.2 ▸ h.inv.bound a ha⟩
    · exact List.forall_mem_append.2 ⟨fun l hl => Nat.lt_succ_of_lt (h.inv.bound l hl),
        fun l hl => (hls l hl).2.2 ▸ Nat.lt_succ_self _⟩
    · exact List.forall_mem_append.2 ⟨h.inv.stamp, fun l hl => (hls l hl).2.1⟩
    · rw [List.map_append, Spec.replay_append, h.inv.spec]; exact hm.spec
    · -- the head is as before, or the step's record is the interference
      rcases hm.head with hch | ⟨l, hl, heff⟩
      · exact (h.tryi u thu hu).congr hch.1 hch.2 _
      · exact .of_interfered fun hrun => ⟨l, List.mem_append_right _ hl, (hls l hl).1 ▸ Ne.symm hne,
          (hls l hl).2.2 ▸ (h.inv.th u thu hu).time.run hrun, heff⟩

theorem Inv2.run (c : Config) (hc : c.WF) (sched : List Nat) : Inv2 c (run c sched) :=
  Interleave.foldl_inv (fun _ t h => h.step t) sched (Inv2.init c hc)

theorem Inv.run (c : Config) (hc : c.WF) (sched : List Nat) : Inv c (run c sched) :=
  (Inv2.run c hc sched).inv

def Before (S : List LinRec) (a b : LinRec) : Prop := ∃ l1 l2 l3, S = l1 ++ a :: l2 ++ b :: l3

end ParsecVerif.Lifo
