import ParsecVerif.Proofs.MatrixOpsApply
/-!
  The recurrences of reduce.jdf / reduce_col.jdf / reduce_row.jdf read off explicit `RTree`s: a
  tree's value is the fold of its leaves; a schedule stores at a node only its sub-tree's value.
-/
namespace ParsecVerif.MatrixOps

theorem two_mul_pow (p l : Nat) : 2 * p * 2 ^ l = p * 2 ^ (l + 1) := by
  rw [Nat.pow_succ]; ac_rfl

theorem two_mul_add_one_pow (p l : Nat) : (2 * p + 1) * 2 ^ l = p * 2 ^ (l + 1) + 2 ^ l := by
  rw [Nat.add_mul, Nat.one_mul, two_mul_pow]

theorem clog2Aux_spec (n : Nat) : ∀ fuel d, n ≤ 2 ^ (d + fuel) → (∀ e, e < d → 2 ^ e < n) →
    n ≤ 2 ^ clog2Aux n fuel d ∧ ∀ e, e < clog2Aux n fuel d → 2 ^ e < n := by
  intro fuel
  induction fuel with
  | zero => intro d h hm; exact ⟨h, hm⟩
  | succ fuel ih =>
    intro d h hm
    rw [clog2Aux]
    split
    · rename_i hc; exact ⟨hc, hm⟩
    · rename_i hc
      refine ih (d + 1) (by rwa [Nat.add_right_comm]) fun e he => ?_
      rcases Nat.lt_succ_iff_lt_or_eq.1 he with h' | rfl
      · exact hm e h'
      · omega

theorem redLeaves_eq (MT : Nat) : ∀ l p, p * 2 ^ l < MT →
    redLeaves MT l p = List.range' (p * 2 ^ l) (min (2 ^ l) (MT - p * 2 ^ l)) := by
  intro l
  induction l with
  | zero => intro p h; rw [redLeaves, Nat.min_eq_left (by omega), Nat.pow_zero, Nat.mul_one]; rfl
  | succ l ih =>
    intro p h
    have hp : 2 ^ (l + 1) = 2 * 2 ^ l := Nat.pow_succ'
    rw [redLeaves, ih (2 * p) (by rwa [two_mul_pow]), two_mul_pow]
    split
    · rw [List.append_nil, Nat.min_eq_right (by omega), Nat.min_eq_right (by omega)]
    · rw [ih _ (by rw [two_mul_add_one_pow]; omega), two_mul_add_one_pow, Nat.min_eq_left (by omega),
        List.range'_append_1]
      congr 1; omega

theorem redLeaves_root (MT d : Nat) (h1 : 1 ≤ MT) (hd : MT ≤ 2 ^ d) :
    redLeaves MT (d + 1) 0 = List.range MT := by
  have hp : 2 ^ (d + 1) = 2 * 2 ^ d := Nat.pow_succ'
  rw [redLeaves_eq MT (d + 1) 0 (by omega), Nat.zero_mul, Nat.min_eq_right (by omega), List.range_eq_range']
  rfl

theorem mem_redSpace (MT l p : Nat) :
    (l, p) ∈ redSpace MT ↔ 1 ≤ l ∧ l ≤ clog2 MT + 1 ∧ p ≤ MT / 2 ^ l := by
  unfold redSpace
  rw [mem_pairs _ (fun l => List.range (MT / 2 ^ l + 1))]
  simp only [List.mem_range'_1, List.mem_range]
  omega

theorem colLeaves_eq : ∀ lv i, colLeaves lv i = List.range' (i * 2 ^ lv) (2 ^ lv) := by
  intro lv
  induction lv with
  | zero => intro i; simp [colLeaves]
  | succ lv ih =>
    intro i
    rw [colLeaves, ih, ih, two_mul_pow, two_mul_add_one_pow, List.range'_append_1, Nat.pow_succ', Nat.two_mul]

theorem colLeaves_root (d : Nat) : colLeaves d 0 = List.range (2 ^ d) := by
  rw [colLeaves_eq, Nat.zero_mul, List.range_eq_range']

theorem redTree_leaves (MT : Nat) : ∀ l p, (redTree MT l p).leaves = redLeaves MT l p := by
  intro l
  induction l with
  | zero => intro p; rfl
  | succ l ih =>
    intro p
    rw [redTree, redLeaves]
    by_cases hc : p * 2 ^ (l + 1) + 2 ^ l ≥ MT
    · rw [if_pos hc, if_pos hc, RTree.leaves, ih, List.append_nil]
    · rw [if_neg hc, if_neg hc, RTree.leaves, ih, ih]

variable {α : Type _} {f : α → α → α} {v : Nat → α}

theorem redTree_eval (MT : Nat) :
    ∀ l p, (redTree MT l p).eval f v = redVal MT f v l p := by
  intro l
  induction l with
  | zero => intro p; rfl
  | succ l ih =>
    intro p
    rw [redTree, redVal]
    by_cases hc : p * 2 ^ (l + 1) + 2 ^ l ≥ MT
    · rw [if_pos hc, if_pos hc, RTree.eval, ih]
    · rw [if_neg hc, if_neg hc, RTree.eval, ih, ih]

theorem colTree_leaves : ∀ lv i, (colTree lv i).leaves = colLeaves lv i := by
  intro lv
  induction lv with
  | zero => intro i; rfl
  | succ lv ih => intro i; rw [colTree, colLeaves, RTree.leaves, ih, ih]

theorem colTree_eval :
    ∀ lv i, (colTree lv i).eval f v = colVal f v lv i := by
  intro lv
  induction lv with
  | zero => intro i; rfl
  | succ lv ih => intro i; rw [colTree, colVal, RTree.eval, ih, ih]

theorem foldl_leaves (hassoc : ∀ a b c, f (f a b) c = f a (f b c))
    (t : RTree) : ∀ acc, (t.leaves.map v).foldl (foldStep f) acc = foldStep f acc (t.eval f v) := by
  induction t with
  | leaf i => intro acc; rfl
  | un t ih => intro acc; exact ih acc
  | bin a b iha ihb =>
    intro acc
    simp only [RTree.leaves, RTree.eval, List.map_append, List.foldl_append, iha, ihb]
    cases acc with
    | none => rfl
    | some x => simp only [foldStep]; rw [hassoc]

theorem eval_eq_foldSeq (hassoc : ∀ a b c, f (f a b) c = f a (f b c))
    (t : RTree) : foldSeq f (t.leaves.map v) = some (t.eval f v) := by
  unfold foldSeq
  rw [foldl_leaves hassoc]
  rfl

theorem foldSeq_perm (hassoc : ∀ a b c, f (f a b) c = f a (f b c))
    (hcomm : ∀ a b, f a b = f b a) {l1 l2 : List α} (h : l1.Perm l2) : foldSeq f l1 = foldSeq f l2 := by
  unfold foldSeq
  apply List.Perm.foldl_eq' h
  intro x _ y _ z
  cases z with
  | none =>
    show some (f x y) = some (f y x)
    rw [hcomm]
  | some a =>
    show some (f (f a x) y) = some (f (f a y) x)
    rw [hassoc, hassoc, hcomm x y]

def StoreOK {α} (f : α → α → α) (v : Nat → α) (root : RTree) (s : Store α) : Prop :=
  ∀ p x, s.get p = some x → ∃ t, root.sub p = some t ∧ x = t.eval f v

theorem sub_append : ∀ (p q : List Bool) (root : RTree), root.sub (p ++ q) = (root.sub p).bind (·.sub q) := by
  intro p q
  induction p with
  | nil => intro root; rw [RTree.sub]; rfl
  | cons d r ih =>
    intro root
    cases root with
    | leaf i => rfl
    | un t =>
      cases d with
      | false => exact ih t
      | true => rfl
    | bin x y =>
      cases d with
      | false => exact ih x
      | true => exact ih y

theorem ok_cons {root : RTree} {s : Store α} (hs : StoreOK f v root s)
    (p : List Bool) (x : α) (hx : ∃ t, root.sub p = some t ∧ x = t.eval f v) :
    StoreOK f v root ((p, x) :: s) := by
  intro q y h
  simp only [Store.get] at h
  by_cases e : p = q
  · rw [if_pos e] at h
    cases h
    subst e
    exact hx
  · rw [if_neg e] at h
    exact hs q y h

theorem fire_ok {root : RTree} {s : Store α} (hs : StoreOK f v root s)
    (p : List Bool) : StoreOK f v root (fire f v root s p) := by
  have child : ∀ {t : RTree} {b : Bool} {x : α}, root.sub p = some t → s.get (p ++ [b]) = some x →
      ∃ c, t.sub [b] = some c ∧ x = c.eval f v := fun ht hx => by
    obtain ⟨c, h1, h2⟩ := hs _ _ hx
    rw [sub_append, ht] at h1
    exact ⟨c, h1, h2⟩
  unfold fire
  split
  · exact hs
  split
  · exact hs
  · rename_i i hsub
    exact ok_cons hs p _ ⟨_, hsub, rfl⟩
  · rename_i a hsub
    split
    · rename_i x ha
      obtain ⟨c, h1, rfl⟩ := child hsub ha
      simp only [RTree.sub] at h1
      cases h1
      exact ok_cons hs p _ ⟨_, hsub, rfl⟩
    · exact hs
  · rename_i a b hsub
    split
    · rename_i x y ha hb
      obtain ⟨c, h1, rfl⟩ := child hsub ha
      obtain ⟨d, h3, rfl⟩ := child hsub hb
      simp only [RTree.sub] at h1 h3
      cases h1; cases h3
      exact ok_cons hs p _ ⟨_, hsub, rfl⟩
    · exact hs

theorem runSched_ok {root : RTree} {s : Store α}
    (hs : StoreOK f v root s) (sched : List (List Bool)) : StoreOK f v root (runSched f v root s sched) := by
  induction sched generalizing s with
  | nil => exact hs
  | cons p t ih => exact ih (fire_ok hs p)

theorem storeOK_nil (root : RTree) : StoreOK f v root ([] : Store α) := by
  intro p x h
  simp [Store.get] at h

end ParsecVerif.MatrixOps
