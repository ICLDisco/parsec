import ParsecVerif.Model.DataOwnership
/-!
  For C26: one `start` call and one complete transfer as functions of the state before the call
  (`StartSpec`, `TransferSpec`), copy by copy through `getC`, so that Props/C26 never unfolds the loops.
  Of the asserts collected in `xferPre` the proofs use three: `NULL != copy`; the target is not OWNED
  unless it is the owner's (`switchPre_not_owned`, the only branch of `switchPre` that is used); a
  requested transfer has a source (`valid_copy ≠ -1`, clause `srcOk`).  `readPre`, `writePre` and
  `endPre` (all on `data_transfer_status`) are not needed by any theorem.
-/
namespace ParsecVerif.DataOwnership

theorem getC_eq_some {cs : List (Option Copy)} {i : Nat} {c : Copy} :
    getC cs i = some c ↔ cs[i]? = some (some c) := by
  unfold getC; cases cs[i]? <;> simp

theorem getC_some_lt {cs : List (Option Copy)} {i : Nat} {c : Copy} (h : getC cs i = some c) :
    i < cs.length :=
  (List.getElem?_eq_some_iff.1 (getC_eq_some.1 h)).1

theorem getC_set_self {cs : List (Option Copy)} {j : Nat} (x : Option Copy) (h : j < cs.length) :
    getC (cs.set j x) j = x := by
  unfold getC; simp [h]

theorem getC_set_ne {cs : List (Option Copy)} {i j : Nat} (x : Option Copy) (h : j ≠ i) :
    getC (cs.set j x) i = getC cs i := by
  unfold getC; rw [List.getElem?_set_ne h]

theorem getC_map (f : Option Copy → Option Copy) (hf : f none = none) (cs : List (Option Copy))
    (i : Nat) : getC (cs.map f) i = f (getC cs i) := by
  unfold getC
  rw [List.getElem?_map]
  cases cs[i]? <;> simp [hf]

theorem getC_modCopy_self (cs : List (Option Copy)) (d : Nat) (f : Copy → Copy) :
    getC (modCopy cs d f) d = (getC cs d).map f := by
  unfold modCopy
  cases h : getC cs d with
  | none => simp [h]
  | some c => simp [getC_set_self _ (getC_some_lt h)]

theorem getC_modCopy_ne (cs : List (Option Copy)) {d i : Nat} (f : Copy → Copy) (h : d ≠ i) :
    getC (modCopy cs d f) i = getC cs i := by
  unfold modCopy
  cases getC cs d with
  | none => rfl
  | some c => exact getC_set_ne _ h

theorem getC_cons_zero (x : Option Copy) (t : List (Option Copy)) : getC (x :: t) 0 = x := rfl

theorem getC_cons_succ (x : Option Copy) (t : List (Option Copy)) (j : Nat) :
    getC (x :: t) (j + 1) = getC t j := rfl

theorem getC_replicate {n i : Nat} {x c : Copy} (h : getC (List.replicate n (some x)) i = some c) :
    c = x :=
  Option.some.inj (List.eq_of_mem_replicate (List.mem_of_getElem? (getC_eq_some.1 h)))

theorem getC_created {n i : Nat} {c : Copy} (h : getC (created n).copies i = some c) :
    (i = 0 ∧ c = ⟨.owned, 0, 0, 0⟩) ∨ c = ⟨.invalid, 0, 0, 0⟩ := by
  unfold created at h
  cases i with
  | zero => left; rw [getC_cons_zero] at h; exact ⟨rfl, (Option.some.inj h).symm⟩
  | succ j => right; rw [getC_cons_succ] at h; exact getC_replicate h

theorem all_iff_getC {cs : List (Option Copy)} (p : Option Copy → Bool) (hn : p none = true) :
    cs.all p = true ↔ ∀ i c, getC cs i = some c → p (some c) = true := by
  rw [List.all_eq_true]
  constructor
  · intro h i c hi
    exact h _ (List.mem_of_getElem? (getC_eq_some.1 hi))
  · intro h x hx
    cases x with
    | none => exact hn
    | some c =>
      obtain ⟨i, hi⟩ := List.getElem?_of_mem hx
      exact h i c (getC_eq_some.2 hi)

theorem any_iff_getC {cs : List (Option Copy)} (p : Option Copy → Bool) (hn : p none = false) :
    cs.any p = true ↔ ∃ i c, getC cs i = some c ∧ p (some c) = true := by
  rw [List.any_eq_not_all_not, Bool.not_eq_true', ← Bool.not_eq_true,
    all_iff_getC (fun x => !p x) (by rw [hn]; rfl)]
  simp

/-- READ-loop body when the target is not OWNED (always the case under the asserts): only
    EXCLUSIVE → SHARED -/
def rb : Option Copy → Option Copy := readBody false 0

theorem readBody_false (tv : Nat) (x : Option Copy) : readBody false tv x = rb x := by
  cases x with
  | none => rfl
  | some c => simp [rb, readBody]

theorem getC_readLoop_ne (cs : List (Option Copy)) {d i : Nat} (tgt : Copy) (w : Bool) (h : d ≠ i) :
    getC (readLoop cs d tgt w) i = readBody (tgt.coh == .owned && !w) tgt.ver (getC cs i) := by
  unfold readLoop
  rw [getC_set_ne _ h, getC_map _ rfl]

theorem getC_readLoop_self (cs : List (Option Copy)) {d : Nat} (tgt : Copy) (w : Bool)
    (h : d < cs.length) : getC (readLoop cs d tgt w) d = some tgt := by
  unfold readLoop
  exact getC_set_self _ (by simpa using h)

theorem getC_writeLoop (cs : List (Option Copy)) (i : Nat) :
    getC (writeLoop cs) i = writeBody (getC cs i) := getC_map _ rfl cs i

/-- effect of one `start` (under its asserts) on a copy other than the target -/
def otherF (ownerIsTarget r w : Bool) (x : Option Copy) : Option Copy :=
  if ownerIsTarget then x
  else if w then writeBody (if r then rb x else x)
  else if r then rb x else x

theorem getC_afterLoops_ne (cs : List (Option Copy)) {d i : Nat} (tgt : Copy) (r w : Bool)
    (hne : d ≠ i) (hno : tgt.coh ≠ .owned) :
    getC (afterLoops cs d tgt r w) i = otherF false r w (getC cs i) := by
  unfold afterLoops otherF
  cases r <;> cases w <;>
    simp [getC_writeLoop, getC_readLoop_ne _ _ _ hne, beq_eq_false_iff_ne.2 hno, readBody_false]

theorem getC_afterLoops_self (cs : List (Option Copy)) {d : Nat} (tgt : Copy) (r w : Bool)
    (h : getC cs d = some tgt) :
    getC (afterLoops cs d tgt r w) d =
      some (setCoh tgt (if w = true ∧ tgt.coh ≠ .invalid then .shared else tgt.coh)) := by
  have hr : getC (if r = true then readLoop cs d tgt w else cs) d = some tgt := by
    split
    · exact getC_readLoop_self _ _ _ (getC_some_lt h)
    · exact h
  unfold afterLoops
  cases w
  · exact hr
  · rw [if_pos rfl, getC_writeLoop, hr, writeBody]
    by_cases hc : tgt.coh = .invalid
    · rw [if_pos hc, if_neg fun h => h.2 hc]; rfl
    · rw [if_neg hc, if_pos ⟨rfl, hc⟩]

theorem getC_bookkeeping_ne {owner : Int} {cs : List (Option Copy)} {d i : Nat} {r w treq : Bool}
    {vc : Int} (h : d ≠ i) : getC (bookkeeping owner cs d r w treq vc).1.copies i = getC cs i := by
  simp only [bookkeeping, getC_modCopy_ne _ _ h]

theorem bookkeeping_target {owner : Int} {cs : List (Option Copy)} {d : Nat} {r w treq : Bool}
    {vc : Int} {t : Copy} (h : getC cs d = some t) :
    ∃ t1, getC (bookkeeping owner cs d r w treq vc).1.copies d = some t1 ∧ t1.ver = t.ver ∧
      t1.xs = t.xs ∧ t1.coh = if treq = true then .invalid else t.coh := by
  refine ⟨invalidateIf treq (incReaders r t), ?_, ?_⟩
  · simp only [bookkeeping, getC_modCopy_self, h, Option.map_some]
  · cases treq <;> cases r <;> exact ⟨rfl, rfl, rfl⟩

theorem switchPre_not_owned {owner : Int} {cs : List (Option Copy)} {tgt : Copy}
    (h : switchPre owner cs tgt = true) : tgt.coh ≠ .owned := by
  intro ho
  simp [switchPre, ho] at h

def startRet (s : St) (d : Nat) (tgt : Copy) (r : Bool) : Int :=
  if s.owner = (d : Int) then -1
  else if (r && switchTreq s.copies tgt) = true then switchValid s.owner s.copies tgt else -1

def startCoh (s : St) (d : Nat) (tgt : Copy) (r w : Bool) : Coh :=
  if s.owner = (d : Int) then tgt.coh
  else if (r && switchTreq s.copies tgt) = true then .invalid
  else if w = true ∧ tgt.coh ≠ .invalid then .shared else tgt.coh

/-- One `start` call on device `d` with target copy `tgt`, made within its asserts: `s1` is the state
    after it, `ret` the source it names (`-1`: none). -/
structure StartSpec (s s1 : St) (d : Nat) (r w : Bool) (ret : Int) (tgt : Copy) : Prop where
  owner : s1.owner = if w then (d : Int) else s.owner
  other : ∀ i, d ≠ i → getC s1.copies i = otherF (decide (s.owner = (d : Int))) r w (getC s.copies i)
  target : ∃ t1, getC s1.copies d = some t1 ∧ t1.ver = tgt.ver ∧ t1.xs = tgt.xs ∧
    t1.coh = startCoh s d tgt r w
  ret : ret = startRet s d tgt r
  notOwned : s.owner ≠ (d : Int) → tgt.coh ≠ .owned
  swPre : s.owner ≠ (d : Int) → switchPre s.owner s.copies tgt = true
  srcOk : s.owner ≠ (d : Int) → (r && switchTreq s.copies tgt) = true →
    switchValid s.owner s.copies tgt ≠ -1

theorem start_spec {s : St} {d : Nat} {r w : Bool} {tgt : Copy}
    (ht : getC s.copies d = some tgt) (hpre : startPre s d r w = true) :
    StartSpec s (startRaw s d r w).1 d r w (startRaw s d r w).2 tgt := by
  unfold startPre at hpre
  unfold startRaw
  simp only [ht] at hpre ⊢
  by_cases ho : s.owner = (d : Int)
  · -- goto bookkeeping
    rw [if_pos ho]
    refine ⟨rfl, fun i hi => ?_, ?_, by simp [startRet, bookkeeping, ho],
      absurd ho, absurd ho, absurd ho⟩
    · rw [getC_bookkeeping_ne hi, decide_eq_true ho]; rfl
    · rw [startCoh, if_pos ho]; exact bookkeeping_target ht
  · rw [if_neg ho] at hpre ⊢
    simp only [Bool.and_eq_true, Bool.or_eq_true, Bool.not_eq_true', bne_iff_ne] at hpre
    obtain ⟨⟨⟨hsw, _⟩, _⟩, hsrc⟩ := hpre
    have hno := switchPre_not_owned hsw
    refine ⟨?_, fun i hi => ?_, ?_,
      by simp [startRet, bookkeeping, ho], fun _ => hno, fun _ => hsw, fun _ h => ?_⟩
    · simp [bookkeeping, readOwner, hno]
    · rw [getC_bookkeeping_ne hi, getC_afterLoops_ne _ _ _ _ hi hno, decide_eq_false ho]
    · rw [startCoh, if_neg ho]; exact bookkeeping_target (getC_afterLoops_self _ _ _ _ ht)
    · exact hsrc.resolve_left (by rw [h]; decide)

def cohF (o r w : Bool) (k : Coh) : Coh :=
  if o then k
  else if k = .invalid then .invalid
  else if w then .shared
  else if r = true ∧ k = .exclusive then .shared
  else k

theorem otherF_eq_map (o r w : Bool) (x : Option Copy) :
    otherF o r w x = x.map fun c => setCoh c (cohF o r w c.coh) := by
  cases x with
  | none => cases o <;> cases r <;> cases w <;> rfl
  | some c =>
    rcases c with ⟨k, v, rd, x⟩
    cases o <;> cases r <;> cases w <;> cases k <;> rfl

theorem cohF_invalid (o r w : Bool) (k : Coh) : cohF o r w k = .invalid ↔ k = .invalid := by
  cases o
  · cases k <;> cases w <;> cases r <;> decide
  · exact Iff.rfl

theorem cohF_owned {o r w : Bool} {k : Coh} (h : cohF o r w k = .owned) :
    k = .owned ∧ (o = true ∨ w = false) := by
  cases o
  · revert h; cases k <;> cases w <;> cases r <;> decide
  · exact ⟨h, Or.inl rfl⟩

theorem cohF_exclusive {o r w : Bool} {k : Coh} (h : cohF o r w k = .exclusive) :
    k = .exclusive ∧ (o = true ∨ (r = false ∧ w = false)) := by
  cases o
  · revert h; cases k <;> cases w <;> cases r <;> decide
  · exact ⟨h, Or.inl rfl⟩

theorem cohF_write {r : Bool} {k : Coh} (h : k ≠ .invalid) : cohF false r true k = .shared := by
  cases k
  · exact absurd rfl h
  all_goals rfl

theorem cohF_nowrite_owned (o r : Bool) : cohF o r false .owned = .owned := by
  cases o <;> cases r <;> rfl

theorem cohF_noaccess (o : Bool) (k : Coh) : cohF o false false k = k := by
  cases o <;> cases k <;> rfl

theorem cohF_shared (o r w : Bool) : cohF o r w .shared = .shared := by
  cases o <;> cases r <;> cases w <;> rfl

theorem otherF_ver (o r w : Bool) (x : Option Copy) :
    (otherF o r w x).map (·.ver) = x.map (·.ver) := by
  rw [otherF_eq_map, Option.map_map]; rfl

theorem StartSpec.ver {s s1 : St} {d : Nat} {r w : Bool} {ret : Int} {tgt : Copy}
    (sp : StartSpec s s1 d r w ret tgt) (ht : getC s.copies d = some tgt) (i : Nat) :
    (getC s1.copies i).map (·.ver) = (getC s.copies i).map (·.ver) := by
  by_cases hi : d = i
  · subst hi
    obtain ⟨t1, h1, h2, _, _⟩ := sp.target
    rw [h1, ht, Option.map_some, h2]; rfl
  · rw [sp.other i hi, otherF_ver]

theorem bumpVer_coh (b n : Nat) (c : Copy) : (bumpVer b n c).coh = c.coh := by
  unfold bumpVer; split
  · rfl
  · split <;> rfl

theorem bumpVer_ver (b n : Nat) (c : Copy) :
    (bumpVer b n c).ver = if b = 0 then c.ver else if b = 1 then c.ver + 1 else n + 1 := by
  unfold bumpVer; split
  · rfl
  · split <;> rfl

theorem endCoh_coh (r w : Bool) (c : Copy) :
    (endCoh r w c).coh = if w then .owned else if r then .shared else c.coh := by
  cases w <;> cases r <;> rfl

theorem endCoh_ver (r w : Bool) (c : Copy) : (endCoh r w c).ver = c.ver := by
  cases w <;> cases r <;> rfl

/-- version the target holds after the caller's synchronisation with the source -/
def syncVer (s : St) (tgt : Copy) (ret : Int) : Nat :=
  if ret < 0 then tgt.ver
  else match getC s.copies ret.toNat with
    | some c => c.ver
    | none => tgt.ver

theorem syncVer_neg {s : St} {tgt : Copy} : syncVer s tgt (-1) = tgt.ver := by
  simp [syncVer]

theorem syncVer_src {s : St} {tgt ck : Copy} {k : Nat} (h : getC s.copies k = some ck) :
    syncVer s tgt (k : Int) = ck.ver := by
  have : ¬ ((k : Int) < 0) := by omega
  simp [syncVer, this, h]

theorem getC_syncFrom_ne (cs : List (Option Copy)) {d i : Nat} (src : Int) (h : d ≠ i) :
    getC (syncFrom cs d src) i = getC cs i := by
  unfold syncFrom
  split
  · rfl
  · split
    · exact getC_modCopy_ne _ _ h
    · rfl

/-- the synchronisation reads the source's version, which `start` has not changed -/
theorem getC_syncFrom_self {s : St} {cs : List (Option Copy)} {d : Nat} {t1 tgt : Copy} (ret : Int)
    (hv : ∀ i, (getC cs i).map (·.ver) = (getC s.copies i).map (·.ver))
    (h1 : getC cs d = some t1) (hv1 : t1.ver = tgt.ver) :
    getC (syncFrom cs d ret) d = some (setVer (syncVer s tgt ret) t1) := by
  have hself : getC cs d = some (setVer tgt.ver t1) := by rw [h1, ← hv1]; rfl
  unfold syncFrom syncVer
  split
  · exact hself
  · have hk := hv ret.toNat
    cases h2 : getC cs ret.toNat <;> cases h3 : getC s.copies ret.toNat <;> rw [h2, h3] at hk <;>
      simp only [Option.map_some, Option.map_none, Option.some.injEq, reduceCtorEq] at hk
    · exact hself
    · rw [getC_modCopy_self, h1, hk]; rfl

/-- One complete transfer (`start`; sync; `end`; bump); `tgt` is the target copy before the call. -/
structure TransferSpec (s s' : St) (d : Nat) (r w : Bool) (b : Nat) (ret : Int) (tgt : Copy) : Prop where
  owner : s'.owner = if w then (d : Int) else s.owner
  other : ∀ i, d ≠ i → getC s'.copies i = otherF (decide (s.owner = (d : Int))) r w (getC s.copies i)
  target : ∃ t', getC s'.copies d = some t' ∧
    t'.coh = (if w then Coh.owned else if r then Coh.shared else tgt.coh) ∧
    t'.ver = (if w then (bumpVer b (newest s.copies) (setVer (syncVer s tgt ret) tgt)).ver
              else syncVer s tgt ret)
  ret : ret = startRet s d tgt r
  notOwned : s.owner ≠ (d : Int) → tgt.coh ≠ .owned
  swPre : s.owner ≠ (d : Int) → switchPre s.owner s.copies tgt = true
  srcOk : s.owner ≠ (d : Int) → (r && switchTreq s.copies tgt) = true →
    switchValid s.owner s.copies tgt ≠ -1

theorem transfer_spec {s s' : St} {d : Nat} {r w : Bool} {b : Nat} {ret : Int}
    (h : transfer s d r w b = some (s', ret)) :
    ∃ tgt, getC s.copies d = some tgt ∧ TransferSpec s s' d r w b ret tgt := by
  obtain ⟨hp, e⟩ := Option.ite_some_none_eq_some.1 h
  cases e
  have hs := (Bool.and_eq_true_iff.1 hp).1
  cases ht : getC s.copies d with
  | none => simp [startPre, ht] at hs
  | some tgt =>
  have sp := start_spec ht hs
  obtain ⟨t1, ht1, hv1, _, hc1⟩ := sp.target
  refine ⟨tgt, rfl, sp.owner, fun i hi => ?_, ?_, sp.ret, sp.notOwned, sp.swPre, sp.srcOk⟩
  · rw [← sp.other i hi, getC_modCopy_ne _ _ hi, getC_modCopy_ne _ _ hi, getC_syncFrom_ne _ _ hi]
  · refine ⟨_, by rw [getC_modCopy_self, getC_modCopy_self,
      getC_syncFrom_self _ (sp.ver ht) ht1 hv1]; rfl, ?_, ?_⟩
    · cases w
      · cases r
        · exact hc1.trans (by simp [startCoh])
        · rfl
      · exact bumpVer_coh _ _ _
    · cases w
      · exact endCoh_ver r false _
      · exact (bumpVer_ver b _ _).trans (bumpVer_ver b _ (setVer _ tgt)).symm

theorem lastValid_spec (cs : List (Option Copy)) (i : Nat) (acc : Int) :
    lastValid cs i acc = acc ∨
    ∃ j c, lastValid cs i acc = ((i + j : Nat) : Int) ∧ getC cs j = some c ∧ c.coh ≠ .invalid := by
  induction cs generalizing i acc with
  | nil => exact Or.inl rfl
  | cons x t ih =>
    unfold lastValid
    rcases ih (i + 1) (if isValid x = true then (i : Int) else acc) with h | ⟨j, c, h1, h2, h3⟩
    · rw [h]
      by_cases hv : isValid x = true
      · rw [if_pos hv]
        cases x with
        | none => cases hv
        | some c => exact Or.inr ⟨0, c, rfl, rfl, bne_iff_ne.1 hv⟩
      · rw [if_neg hv]; exact Or.inl rfl
    · exact Or.inr ⟨j + 1, c, by rw [h1, Nat.add_assoc, Nat.add_comm 1 j], h2, h3⟩

section
variable {s s' : St} {d : Nat} {r w : Bool} {b : Nat} {ret : Int} {tgt : Copy}

theorem TransferSpec.other_some (sp : TransferSpec s s' d r w b ret tgt) {i : Nat} {c : Copy}
    (hi : d ≠ i) (hc : getC s.copies i = some c) :
    getC s'.copies i = some (setCoh c (cohF (decide (s.owner = (d : Int))) r w c.coh)) := by
  rw [sp.other i hi, hc, otherF_eq_map]; rfl

theorem TransferSpec.other_inv (sp : TransferSpec s s' d r w b ret tgt) {i : Nat} {c' : Copy}
    (hi : d ≠ i) (hc' : getC s'.copies i = some c') :
    ∃ c, getC s.copies i = some c ∧ c'.ver = c.ver ∧
      c'.coh = cohF (decide (s.owner = (d : Int))) r w c.coh ∧
      (c'.coh = .invalid ↔ c.coh = .invalid) := by
  rw [sp.other i hi, otherF_eq_map, Option.map_eq_some_iff] at hc'
  obtain ⟨c, hc, rfl⟩ := hc'
  exact ⟨c, hc, rfl, rfl, cohF_invalid _ _ _ _⟩

/-- `target` at `w = false`, with the `if w` reduced: its users rewrite with the coherency clause and
    `split` on the `if r` that is left -/
theorem TransferSpec.nowrite_target (sp : TransferSpec s s' d r false b ret tgt) :
    ∃ t', getC s'.copies d = some t' ∧ t'.coh = (if r = true then Coh.shared else tgt.coh) ∧
      t'.ver = syncVer s tgt ret :=
  sp.target

theorem TransferSpec.coh_noaccess (sp : TransferSpec s s' d false false b ret tgt)
    (ht : getC s.copies d = some tgt) {i : Nat} {c' : Copy} (hc' : getC s'.copies i = some c') :
    ∃ c, getC s.copies i = some c ∧ c'.coh = c.coh := by
  by_cases hid : d = i
  · subst hid
    obtain ⟨t', ht', hcoh, _⟩ := sp.nowrite_target
    rw [ht'] at hc'; cases hc'
    exact ⟨tgt, ht, hcoh⟩
  · obtain ⟨c, hc, _, hk, _⟩ := sp.other_inv hid hc'
    exact ⟨c, hc, hk.trans (cohF_noaccess _ _)⟩

theorem TransferSpec.ret_owner (sp : TransferSpec s s' d r w b ret tgt) (ho : s.owner = (d : Int)) :
    ret = -1 := by
  rw [sp.ret, startRet, if_pos ho]

theorem TransferSpec.ret_ne_iff (sp : TransferSpec s s' d r w b ret tgt) :
    ret ≠ -1 ↔ s.owner ≠ (d : Int) ∧ r = true ∧ switchTreq s.copies tgt = true := by
  rw [sp.ret, startRet]
  by_cases ho : s.owner = (d : Int)
  · simp [ho]
  · by_cases ht : (r && switchTreq s.copies tgt) = true
    · simpa [ho, ht, ← Bool.and_eq_true] using sp.srcOk ho ht
    · simp [ho, ht, ← Bool.and_eq_true]

theorem TransferSpec.source (sp : TransferSpec s s' d r w b ret tgt) (h : ret ≠ -1) :
    ret = s.owner ∨ s.owner = -1 ∧
      ∃ (j : Nat) (c : Copy), ret = (j : Int) ∧ getC s.copies j = some c ∧ c.coh ≠ .invalid := by
  obtain ⟨ho, hr, ht⟩ := sp.ret_ne_iff.1 h
  rw [sp.ret, startRet, if_neg ho, if_pos (by rw [hr, ht]; rfl), switchValid]
  by_cases hc : tgt.coh = .invalid ∧ s.owner = -1
  · rw [if_pos hc]
    rcases lastValid_spec s.copies 0 (-1) with h1 | ⟨j, c, h1, h2⟩
    · exact Or.inl (h1.trans hc.2.symm)
    · exact Or.inr ⟨hc.2, j, c, by rw [h1, Nat.zero_add], h2⟩
  · exact Or.inl (if_neg hc)

end

theorem newerOwned_iff {cs : List (Option Copy)} {v : Nat} :
    newerOwned cs v = true ↔ ∃ i c, getC cs i = some c ∧ c.coh = .owned ∧ v < c.ver := by
  simp only [newerOwned, any_iff_getC (isNewerOwned v) rfl, isNewerOwned, Bool.and_eq_true,
    beq_iff_eq, decide_eq_true_eq]

theorem switchTreq_iff {cs : List (Option Copy)} {tgt : Copy} :
    switchTreq cs tgt = true ↔ tgt.coh = .invalid ∨
      (tgt.coh = .shared ∧ ∃ i c, getC cs i = some c ∧ c.coh = .owned ∧ tgt.ver < c.ver) := by
  unfold switchTreq
  cases tgt.coh <;> simp only [newerOwned_iff, reduceCtorEq, true_and, false_and, false_or, or_false]

theorem newestStep_ge (m : Nat) (x : Option Copy) : m ≤ newestStep m x := by
  cases x with
  | none => exact Nat.le_refl _
  | some c => simp only [newestStep]; split <;> omega

theorem le_foldl_newestStep (l : List (Option Copy)) (m : Nat) : m ≤ l.foldl newestStep m := by
  induction l generalizing m with
  | nil => exact Nat.le_refl _
  | cons x t ih => exact Nat.le_trans (newestStep_ge m x) (ih _)

theorem newest_ge (cs : List (Option Copy)) {j : Nat} {cj : Copy} (hj : getC cs j = some cj)
    (hv : cj.coh ≠ .invalid) : cj.ver ≤ newest cs := by
  unfold newest
  generalize 0 = m
  induction cs generalizing j m with
  | nil => simp [getC] at hj
  | cons x t ih =>
    cases j with
    | zero =>
      cases hj
      refine Nat.le_trans ?_ (le_foldl_newestStep t _)
      simp only [newestStep, hv, if_false]
      exact Nat.le_max_right m cj.ver
    | succ j => exact ih hj _

end ParsecVerif.DataOwnership
