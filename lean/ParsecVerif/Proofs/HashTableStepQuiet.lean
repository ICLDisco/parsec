/-
  Steps that do not touch the chains: invocation, rdlock, the unlocks, rdunlock, return, wrlock + resize.
-/
import ParsecVerif.Proofs.HashTableFrame

namespace ParsecVerif.HashTable

/-- what `acquire` and `release` leave alone when they update the caller's bookkeeping (`kheld`, `iheld`) -/
structure SameTables (s m : Store) : Prop where
  tab : m.tab = s.tab
  top : m.top = s.top
  nb0 : m.nb0 = s.nb0
  hf : m.hf = s.hf
  abs : m.abs = s.abs

theorem sameTables_acquire (s : Store) (op : Op) : SameTables s (acquire s op) := by
  cases op <;> exact ⟨rfl, rfl, rfl, rfl, rfl⟩

theorem sameTables_release (s : Store) (op : Op) (r : Nat) : SameTables s (release s op r) := by
  unfold release; split <;> (try split) <;> exact ⟨rfl, rfl, rfl, rfl, rfl⟩

/-- a step that touches only the caller's bookkeeping, which is what `UserInv` speaks of: that clause stays a
    hypothesis -/
theorem StepOk.bookkeeping {s m : Store} {thr : List Thread} {u : Nat} {th x : Thread} {lin : Option LinRec}
    (hS : SInv s thr) (hu : thr[u]? = some th) (e : SameTables s m)
    (hth : th.pc.inHand = none) (hx : x.pc.inHand = none)
    (hex : Excl (thr.set u x)) (huser : UserInv m (thr.set u x)) (hT : TInv m u x.op x.pc)
    (hsp : SpecOk s.abs s.abs lin) : StepOk s thr u ⟨m, x, lin⟩ := by
  have hbk : ∀ T b, m.bk T b = s.bk T b := fun T b => by unfold Store.bk; rw [e.tab]
  exact .same hS hu ⟨fun T b => by rw [hbk], fun T b => by rw [hbk], fun T => by rw [e.tab], e.top, e.nb0, e.hf⟩ e.abs
    (fun T => by rw [e.tab]) (fun T b => Or.inl (by rw [hbk])) hth hx hex huser hT hsp

theorem opOk_of_admissible {s : Store} {op : Op} (h : op.admissible s = true) : OpOk op := by
  cases op with
  | ins k i => simp only [Op.admissible, Bool.and_eq_true] at h; exact h.1.1.1
  | foi k i =>
    simp only [Op.admissible, Bool.and_eq_true, Bool.not_eq_true'] at h
    exact h.1.1
  | _ => trivial

theorem userInv_invoke {s : Store} {thr : List Thread} (h : UserInv s thr) {u : Nat} {th : Thread} (hu : thr[u]? = some th)
    (op : Op) (hadm : op.admissible s = true) (x : Thread) (hx : x.pc = .rd) (hxo : x.op = op) :
    UserInv (acquire s op) (thr.set u x) := by
  have hx2 : ∀ k, ¬ RmHold x k := not_rmHold_of_linRes (by rw [hx]; rfl)
  cases op with
  | ins k i =>
    simp only [Op.admissible, Bool.and_eq_true, Bool.not_eq_true', bne_iff_ne] at hadm
    obtain ⟨⟨⟨hpl, hk⟩, _⟩, _⟩ := hadm
    have hk' : k ∉ s.kheld := fun hm => by rw [List.contains_iff_mem.2 hm] at hk; cases hk
    have hxk : ∀ k', Claims x k' → k' = k := by
      rintro k' (⟨_, j, hj⟩ | hr)
      · rw [hxo] at hj; cases hj; rfl
      · exact absurd hr (hx2 k')
    refine h.set hu (m := acquire s (.ins k i)) (fun k' hk'' => ?_) (fun it hit hp => List.mem_cons_of_mem _ (h.uAbs it hit hp))
      (fun k' hc => ?_) (fun t a k' ha _ hc => ⟨List.mem_cons_of_mem _ (h.claims ha hc).1, (h.claims ha hc).2.1⟩)
    · rcases List.mem_cons.1 hk'' with h1 | h1
      · rw [h1]; exact hpl
      · exact h.uPlain k' h1
    · obtain rfl := hxk k' hc
      exact ⟨List.mem_cons_self, fun it hit hkey => hk' (hkey ▸ h.uAbs it hit (hkey ▸ hpl)),
        fun t a ha _ hc' => hk' (h.claims ha hc').1⟩
  | _ =>
    refine h.set_same hu (fun k' hc => ?_) rfl rfl
    rcases hc with ⟨_, j, hj⟩ | hr
    · rw [hxo] at hj; cases hj
    · exact absurd hr (hx2 k')

theorem kheld_release (s : Store) (op : Op) (r : Nat) :
    (release s op r).kheld = match op with
      | .rem k => if r ≠ 0 ∧ plainKey k = true then s.kheld.erase k else s.kheld
      | _ => s.kheld := by
  cases op with
  | rem k =>
    simp only [release]
    by_cases hr : r = 0 <;> by_cases hp : plainKey k = true <;> simp [hr, hp]
  | ins k i => rfl
  | find k => rfl
  | foi k i => simp only [release]; split <;> rfl

theorem userInv_finish {s : Store} {thr : List Thread} (h : UserInv s thr) {u : Nat} {th : Thread} (hu : thr[u]? = some th)
    {r : Nat} (hl : th.pc.linRes = some r) {x : Thread} (hx : ∀ k, ¬ Claims x k) :
    UserInv (release s th.op r) (thr.set u x) := by
  have habs := (sameTables_release s th.op r).abs
  by_cases hrm : ∃ k, RmHold th k
  · obtain ⟨k, hk⟩ := hrm
    have hk0 := hk
    obtain ⟨hop, hpl, r', hr', hr0⟩ := hk0
    rw [hl] at hr'; cases hr'
    have hkh : (release s th.op r).kheld = s.kheld.erase k := by
      rw [kheld_release, hop]; simp [hr0, hpl]
    obtain ⟨_, g2, g3⟩ := h.claims hu (Or.inr hk)
    refine h.set hu (fun k' hk'' => ?_) (fun it hit hp => ?_) (fun k' hc => absurd hc (hx k')) (fun t a k' ha hne hc => ?_)
    · rw [hkh] at hk''
      exact h.uPlain k' (List.mem_of_mem_erase hk'')
    · rw [habs] at hit
      rw [hkh]
      exact (List.mem_erase_of_ne (g2 it hit)).2 (h.uAbs it hit hp)
    · have hne' : k' ≠ k := fun e => g3 t a ha hne (e ▸ hc)
      rw [hkh, habs]
      exact ⟨(List.mem_erase_of_ne hne').2 (h.claims ha hc).1, (h.claims ha hc).2.1⟩
  · refine h.set_same hu (fun k hc => absurd hc (hx k)) habs ?_
    rw [kheld_release]
    cases hop : th.op with
    | rem k =>
      simp only
      split
      · rename_i hc
        exact absurd ⟨k, hop, hc.2, r, hl, hc.1⟩ hrm
      · rfl
    | _ => rfl

section
variable {s : Store} {thr : List Thread} {u now : Nat} {th : Thread} (hS : SInv s thr) (hu : thr[u]? = some th)
include hS hu

theorem stepOk_invoke (hpc : th.pc = .idle) : StepOk s thr u (invoke s u now th) := by
  rcases th with ⟨_, op0, todo, hist, tInv, tLin⟩; cases hpc
  unfold invoke
  split
  · exact stepOk_stay hS hu rfl trivial
  · rename_i op rest _
    split
    · rename_i hadm
      exact .bookkeeping hS hu (sameTables_acquire s op) rfl rfl
        (hS.excl.set_same hu _ nofun nofun) (userInv_invoke hS.user hu op hadm _ rfl rfl) (opOk_of_admissible hadm) rfl
    · exact .quiet hS hu (.refl u s) rfl rfl (hS.excl.set_same hu _ nofun nofun)
        (fun k hc => absurd hc (not_claims_of_pc (by simp) (by simp) rfl k)) trivial (Spec.step_rejected _ _)

theorem stepOk_rd (hpc : th.pc = .rd) (hT : TInv s u th.op th.pc) : StepOk s thr u (stepRd s thr th) := by
  rcases th with ⟨_, op, todo, hist, tInv, tLin⟩; cases hpc
  unfold stepRd
  split
  · exact stepOk_stay hS hu rfl hT
  · rename_i hg
    have hnw : ∀ y, y ∈ thr → y.pc.isWriter = false := by simpa using hg
    exact .quiet hS hu (.refl u s) rfl rfl (hS.excl.set hu _ (fun _ => Or.inr hnw) nofun)
      (claims_goto (by simp) rfl) hT rfl

theorem stepOk_ulo {hd : Nat} {r : Option Item} (hpc : th.pc = .ulo hd r) (hT : TInv s u th.op th.pc) :
    StepOk s thr u (stepUlo s th hd r) := by
  rcases th with ⟨_, op, todo, hist, tInv, tLin⟩; cases hpc
  obtain ⟨h1, h2, h3, h4, h5, h6, h7⟩ := hT
  have p : Pre u s (s.setLock hd (s.hf op.key hd) 0) := pre_setLock 0 (Or.inr h4)
  have htop : HoldsTop (s.setLock hd (s.hf op.key hd) 0) u op.key := by
    show ((s.setLock hd (s.hf op.key hd) 0).bk s.top (s.hf op.key s.top)).lock = u + 1
    rw [lock_setLock, if_neg (fun hc => by omega)]; exact h3
  refine .quiet hS hu p rfl (by cases r <;> rfl)
    (hS.excl.set_reader hu _ rfl (by cases r <;> rfl))
    (claims_goto (by cases r <;> simp) (by cases r <;> rfl)) ?_ rfl
  cases r with
  | some it => exact htop
  | none => exact ⟨h1, h2, htop, h5, Nat.le_of_lt h6, fun T a b c => h7 rfl T a b ((p.e.keyIn _ T).1 c)⟩

theorem stepOk_ult {r : Nat} (hpc : th.pc = .ult r) (hT : TInv s u th.op th.pc) : StepOk s thr u (stepUlt s th r) := by
  rcases th with ⟨_, op, todo, hist, tInv, tLin⟩; cases hpc
  have p : Pre u s (s.setLock s.top (s.hf op.key s.top) 0) := pre_setLock 0 (Or.inr hT)
  exact .quiet hS hu ⟨⟨p.e.items, p.e.len, p.e.next, rfl, rfl, rfl⟩, rfl, rfl, p.used, p.lockG⟩ rfl rfl
    (hS.excl.set_reader hu _ rfl rfl) (claims_goto (by simp) rfl) trivial rfl

theorem stepOk_finish {r : Nat} (hl : th.pc.linRes = some r) (hh : th.pc.inHand = none) :
    StepOk s thr u (finish s now th r) :=
  .bookkeeping hS hu (sameTables_release s th.op r) hh rfl
    (hS.excl.set_same hu _ nofun nofun) (userInv_finish hS.user hu hl (not_claims_of_pc (by simp) (by simp) rfl)) trivial rfl

theorem stepOk_rul {r : Nat} {rz : Bool} {ch : Nat} (hpc : th.pc = .rul r rz ch) : StepOk s thr u (stepRul s now th r rz ch) := by
  rcases th with ⟨_, op, todo, hist, tInv, tLin⟩; cases hpc
  unfold stepRul
  split
  · exact .quiet hS hu (.refl u s) rfl rfl (hS.excl.set_same hu _ nofun nofun)
      (claims_goto (by simp) rfl) trivial rfl
  · exact stepOk_finish hS hu rfl rfl

theorem stepOk_wr {ch r : Nat} (hpc : th.pc = .wr ch r) (hT : TInv s u th.op th.pc) : StepOk s thr u (stepWr s thr th ch r) := by
  unfold stepWr
  split
  · exact stepOk_stay hS hu (by rw [hpc]; rfl) hT
  · rename_i hg
    have hnone : ∀ y, y ∈ thr → y.pc.isReader = false ∧ y.pc.isWriter = false := by simpa using hg
    have hcl : ∀ k, Claims (th.goto (.wul r)) k → Claims th k := claims_goto (by simp) (by rw [hpc]; rfl)
    have hexcl := hS.excl.set hu (th.goto (.wul r)) nofun (fun _ => Or.inr hnone)
    have hnr : ∀ y, y ∈ thr.set u (th.goto (.wul r)) → y.pc.isReader = false := fun y hy =>
      (List.mem_or_eq_of_mem_set hy).elim (fun h => (hnone y h).1) (fun h => by rw [h]; rfl)
    have hhand : th.pc.inHand = none := by rw [hpc]; rfl
    split
    · refine ⟨⟨hS.st.resize, ?_, hS.ab.same hu _ stored_resize rfl (fun y _ h => by rw [hhand] at h; cases h), hexcl, hS.user.set_same hu hcl rfl rfl⟩, trivial,
        fun t _ a ha hr => ?_, rfl⟩
      · intro T h1 h2
        have h2' : T < s.top + 1 := h2
        have hne : T ≠ s.top + 1 := by omega
        have hc : s.resize.usedCount T = s.usedCount T := usedCount_same (fun b => by rw [bk_resize, if_neg hne])
        show (s.resize.tab T).used = _
        rw [used_resize, if_neg hne, hc, pendingDec_zero_of_no_reader hnr]
        split
        · rename_i hT; rw [hT]; simp
        · rw [hS.used T h1 (by omega), pendingDec_zero_of_no_reader (fun y hy => (hnone y hy).1)]
      · rw [(hnone a (List.mem_of_getElem? ha)).1] at hr; cases hr
    · exact .quiet hS hu (.refl u s) hhand rfl hexcl hcl trivial rfl

end

end ParsecVerif.HashTable
