import ParsecVerif.Proofs.Dataflow
import ParsecVerif.Model.PtgRt
/-! What a run computes (C02): node actions without a conflict commute, so any two linearisations of the dependency
    order agree, and the completion order of every run is one; the executable race check is sound; the driver's list
    heaps compute the same function. -/
namespace ParsecVerif.PtgRt
open ParsecVerif.Ptg ParsecVerif.Dataflow

theorem applyWrites_cons (w : Cell × Nat) (ws : List (Cell × Nat)) (h : Heap) :
    applyWrites (w :: ws) h = applyWrites ws (h.set w.1 w.2) := rfl

theorem applyWrites_apply (ws : List (Cell × Nat)) (h : Heap) (c : Cell) : applyWrites ws h c = lastW ws c (h c) := by
  induction ws generalizing h with
  | nil => rfl
  | cons w ws ih => rw [applyWrites_cons, ih]; simp only [lastW, List.foldl_cons, Heap.set, eq_comm]

theorem lastW_of_not_mem {ws : List (Cell × Nat)} {c : Cell} (hc : c ∉ ws.map (·.1)) (d : Nat) : lastW ws c d = d := by
  induction ws generalizing d with
  | nil => rfl
  | cons w ws ih =>
    simp only [List.map_cons, List.mem_cons, not_or] at hc
    simp only [lastW, List.foldl_cons, if_neg (Ne.symm hc.1)]
    exact ih hc.2 d

theorem applyWrites_frame (ws : List (Cell × Nat)) (h : Heap) (c : Cell) (hc : c ∉ ws.map (·.1)) :
    applyWrites ws h c = h c := by
  rw [applyWrites_apply, lastW_of_not_mem hc]

theorem applyWrites_comm (wa wb : List (Cell × Nat)) (hd : ∀ c ∈ wa.map (·.1), c ∉ wb.map (·.1)) (h : Heap) :
    applyWrites wa (applyWrites wb h) = applyWrites wb (applyWrites wa h) := by
  funext c
  simp only [applyWrites_apply]
  by_cases hca : c ∈ wa.map (·.1)
  · rw [lastW_of_not_mem (hd c hca), lastW_of_not_mem (hd c hca)]
  · rw [lastW_of_not_mem hca, lastW_of_not_mem hca]

theorem conflict_false {a b : NodeD} (h : a.conflict b = false) :
    (∀ c ∈ a.targets, c ∉ b.reads ∧ c ∉ b.targets) ∧ (∀ c ∈ b.targets, c ∉ a.reads ∧ c ∉ a.targets) := by
  simpa [NodeD.conflict, List.any_eq_false, not_or] using h

theorem reads_unchanged (a b : NodeD) (hb : b.TargetsOK) (hdis : ∀ c ∈ b.targets, c ∉ a.reads) (h : Heap) :
    a.reads.map (b.exec h) = a.reads.map h :=
  List.map_congr_left fun c hc => applyWrites_frame _ _ c fun hm => hdis c (hb _ _ hm) hc

theorem exec_commute (a b : NodeD) (ha : a.TargetsOK) (hb : b.TargetsOK) (hnc : a.conflict b = false) (h : Heap) :
    a.exec (b.exec h) = b.exec (a.exec h) := by
  obtain ⟨h1, h2⟩ := conflict_false hnc
  show applyWrites (a.writes (a.reads.map (b.exec h))) (b.exec h) = applyWrites (b.writes (b.reads.map (a.exec h))) (a.exec h)
  rw [reads_unchanged a b hb (fun c hc => (h2 c hc).1), reads_unchanged b a ha (fun c hc => (h1 c hc).1)]
  exact applyWrites_comm _ _ (fun c hca hm => (h1 c (ha _ _ hca)).2 (hb _ _ hm)) h

theorem foldl_move {σ : Type} (act : Nat → σ → σ) (a : Nat) (p : List Nat)
    (hc : ∀ x ∈ p, ∀ s, act a (act x s) = act x (act a s)) (s : σ) :
    act a (p.foldl (fun s i => act i s) s) = p.foldl (fun s i => act i s) (act a s) := by
  induction p generalizing s with
  | nil => rfl
  | cons x p ih =>
    simp only [List.foldl_cons]
    rw [ih (fun y hy => hc y (List.mem_cons_of_mem _ hy)), hc x (List.mem_cons_self)]

theorem fold_perm_of_commute {σ : Type} (act : Nat → σ → σ) (hb : Nat → Nat → Prop)
    (hc : ∀ i j, i ≠ j → ¬ hb i j → ¬ hb j i → ∀ s, act i (act j s) = act j (act i s)) :
    ∀ (l1 l2 : List Nat), l1.Perm l2 → l1.Pairwise (fun x y => ¬ hb y x) → l2.Pairwise (fun x y => ¬ hb y x) →
      ∀ s, l1.foldl (fun s i => act i s) s = l2.foldl (fun s i => act i s) s := by
  intro l1
  induction l1 with
  | nil =>
    intro l2 hp _ _ s
    rw [List.Perm.nil_eq hp]
  | cons a l1 ih =>
    intro l2 hp hp1 hp2 s
    obtain ⟨p, q, rfl⟩ := List.append_of_mem (hp.subset List.mem_cons_self)
    have hperm : l1.Perm (p ++ q) := (hp.trans List.perm_middle).cons_inv
    rw [List.pairwise_cons] at hp1
    rw [List.pairwise_append, List.pairwise_cons] at hp2
    obtain ⟨hpp, ⟨_, hqq⟩, hcross⟩ := hp2
    -- the head `a` of the first is moved to the front of the second, past `p`, whose elements are unrelated to it
    have hmove : ∀ x ∈ p, ∀ s, act a (act x s) = act x (act a s) := fun x hx => by
      by_cases e : a = x
      · exact fun _ => e ▸ rfl
      · exact hc a x e (hcross x hx a List.mem_cons_self) (hp1.1 x (hperm.symm.subset (List.mem_append_left _ hx)))
    rw [List.foldl_append]
    simp only [List.foldl_cons]
    rw [foldl_move act a p hmove s, ← List.foldl_append]
    exact ih (p ++ q) hperm hp1.2
      (List.pairwise_append.2 ⟨hpp, hqq, fun x hx y hy => hcross x hx y (List.mem_cons_of_mem _ hy)⟩) _

theorem endOrder_append (l1 l2 : List Ev) : endOrder (l1 ++ l2) = endOrder l1 ++ endOrder l2 :=
  List.filterMap_append

theorem count_endOrder (log : List Ev) (i : Nat) : (endOrder log).count i = log.count (.end_ i) := by
  rw [endOrder, List.count_filterMap, List.count_eq_countP]
  exact List.countP_congr fun e _ => by cases e <;> simp

theorem mem_endOrder (log : List Ev) (i : Nat) : i ∈ endOrder log ↔ Ev.end_ i ∈ log := by
  rw [← List.count_pos_iff, count_endOrder, List.count_pos_iff]

theorem endOrder_perm {g : Graph} {F : Nat → List (Option Nat) → Nat} {s : St} (h : Inv g F s) (hq : quiescent s) :
    (endOrder s.log).Perm (List.range g.n) := by
  refine List.perm_iff_count.2 fun i => ?_
  rw [count_endOrder, h.cnt, List.nodup_range.count]
  by_cases hi : i < g.n
  · rw [if_pos (quiescent_ended h hq hi), if_pos (List.mem_range.2 hi)]
  · rw [if_neg fun he => hi (h.lt he), if_neg (mt List.mem_range.1 hi)]

theorem ended_of_path {g : Graph} {F : Nat → List (Option Nat) → Nat} {s : St} (h : Inv g F s) {a b : Nat}
    (hp : Path g a b) : s.status[b]? = some .ended → s.status[a]? = some .ended := by
  induction hp with
  | edge he => exact fun hb => preds_ended h _ he (h.lt hb) (by rw [hb]; decide)
  | step _ he ih => exact fun hb => ih (preds_ended h _ he (h.lt hb) (by rw [hb]; decide))

theorem endOrder_run {g : Graph} {F : Nat → List (Option Nat) → Nat} {rank : Nat → Nat} (hwf : WF g rank)
    (again : List Nat) (ts : List Tr) : (endOrder (run g F again ts).log).Pairwise (fun x y => ¬ Path g y x) :=
  (no_event_below_done hwf (Path g) (fun _ h _ _ hp => ended_of_path h hp) again ts).filterMap _
    fun x y h a hx b hy => by cases x <;> cases y <;> cases hx <;> cases hy <;> exact h a rfl

def Topo (g : Graph) (l : List Nat) : Prop := ∀ L1 j L2, l = L1 ++ j :: L2 → ∀ e ∈ g.E, e.2 = j → e.1 ∈ L1

/-- a node that completes was running, so its predecessors have completed.  This is the predecessor form; `C02_final`
    goes through the ancestor form `endOrder_run`, which is what `fold_perm_of_commute` asks for. -/
theorem topo_run {g : Graph} {F : Nat → List (Option Nat) → Nat} {rank : Nat → Nat} (hwf : WF g rank)
    (again : List Nat) (ts : List Tr) : Topo g (endOrder (run g F again ts).log) := by
  refine log_induction hwf (fun L => Topo g (endOrder L)) again (fun L1 _ _ hl => by cases L1 <;> cases hl)
    (fun s ev st hinv hQ hs hnw _ => ?_) ts
  rw [endOrder_append]
  cases ev with
  | end_ i =>
    exact split_snoc (P := fun L1 j => ∀ e ∈ g.E, e.2 = j → e.1 ∈ L1) hQ fun e he hej =>
      (mem_endOrder _ _).2 ((end_mem_log_iff hinv e.1).2
        (preds_ended hinv e he (hej ▸ hinv.lt hs) (by rw [hej]; exact fun h => hnw (Option.some.inj (hs.symm.trans h)))))
  | _ => simpa [endOrder] using hQ

theorem path_lt {g : Graph} (hwf : WF g id) {a b : Nat} (hp : Path g a b) : a < b := by
  induction hp with
  | edge he => exact hwf.2 _ he
  | step _ he ih => exact Nat.lt_trans ih (hwf.2 _ he)

theorem pairwise_range {g : Graph} (hwf : WF g id) (n : Nat) : (List.range n).Pairwise (fun x y => ¬ Path g y x) :=
  List.pairwise_lt_range.imp (fun hxy hp => by have := path_lt hwf hp; omega)

theorem mem_enumFrom {α : Type} {l : List α} {k : Nat} {d : α} (n : Nat) (h : l[k]? = some d) :
    (n + k, d) ∈ enumFrom n l := by
  induction l generalizing n k with
  | nil => cases h
  | cons x xs ih =>
    cases k with
    | zero => cases h; exact List.mem_cons_self
    | succ k => exact List.mem_cons_of_mem _ (Nat.add_right_comm n k 1 ▸ ih (n + 1) h)

theorem ancTab_eq_map (g : Graph) (k : Nat) : ancTab g k = (List.range k).map fun j => ancRow g (ancTab g j) j := by
  induction k with
  | zero => rfl
  | succ k ih => rw [ancTab, List.range_succ, List.map_append, ← ih]; rfl

theorem reaches_lt {g : Graph} {k a b : Nat} (h : reaches (ancTab g k) a b = true) : b < k := by
  rw [reaches, ancTab_eq_map, List.getElem?_map] at h
  by_cases hb : b < k
  · exact hb
  · rw [List.getElem?_eq_none (by simpa using hb)] at h; cases h

theorem reaches_sound {g : Graph} (a : Nat) :
    ∀ b k, reaches (ancTab g k) a b = true → Path g a b := by
  intro b
  induction b using Nat.strongRecOn with
  | _ b ih =>
    intro k hr
    simp only [reaches, ancTab_eq_map g k, List.getElem?_map, List.getElem?_range (reaches_lt hr), Option.map_some,
      Option.bind_some, ancRow] at hr
    by_cases ha : a < g.n
    · rw [List.getElem?_range ha] at hr
      simp only [Option.map_some, Option.getD_some, List.any_eq_true, Bool.or_eq_true, beq_iff_eq] at hr
      obtain ⟨i, hi, hor⟩ := hr
      have hie : (i, b) ∈ g.E := (mem_predsOf g b i).1 hi
      rcases hor with rfl | h2
      · exact Path.edge hie
      · exact Path.step (ih i (reaches_lt h2) b h2) hie
    · rw [List.getElem?_eq_none (by simpa using ha)] at hr; cases hr

theorem raceFreeB_sound {g : Graph} (hwf : WF g id) (ds : List NodeD) (h : raceFreeB g ds = true) : RaceFree g ds := by
  intro i j di dj hi hj hne hc
  unfold raceFreeB at h
  simp only [List.all_eq_true] at h
  have := h (i, di) (Nat.zero_add i ▸ mem_enumFrom 0 hi) (j, dj) (Nat.zero_add j ▸ mem_enumFrom 0 hj)
  simp only [Bool.or_eq_true, beq_iff_eq, Bool.not_eq_true'] at this
  rcases this with ((h1 | h2) | h3) | h4
  · exact absurd h1 hne
  · rw [hc] at h2; cases h2
  · exact .inl (reaches_sound i j _ h3)
  · exact .inr (reaches_sound j i _ h4)

theorem map_fst_piece (fl : List FlowD) (cellOf : Nat → FlowD → Option Cell) (val : Nat → FlowD → Cell → Nat) :
    (piece fl cellOf val).map (·.1) = (enumFrom 0 fl).filterMap (fun x => cellOf x.1 x.2) := by
  unfold piece
  rw [List.map_filterMap]
  congr 1
  funext x
  cases cellOf x.1 x.2 <;> rfl

theorem map_fst_wbPiece (fl : List FlowD) (val : Cell → Nat) :
    (wbPiece fl val).map (·.1) = fl.flatMap fun f => match f.copy with | some _ => f.wbs.map Cell.tile | none => [] := by
  unfold wbPiece
  rw [List.map_flatMap]
  congr 1
  funext f
  cases f.copy with
  | none => rfl
  | some c => simp [List.map_map, Function.comp_def]

theorem nodeD_targetsOK (H : BodyFn) (j : Nat) (t : Instance) (fl : List FlowD) : (nodeD H j t fl).TargetsOK := by
  intro vs x hx
  simp only [nodeD, nodeWrites, List.map_append, map_fst_piece, map_fst_wbPiece] at hx
  exact hx

theorem nodeDs_targetsOK (p : Program) (cfg : Cfg) (H : BodyFn) (i : Nat) (d : NodeD)
    (h : (nodeDs p cfg H)[i]? = some d) : d.TargetsOK := by
  simp only [nodeDs, List.getElem?_map, Option.map_eq_some_iff] at h
  obtain ⟨x, _, rfl⟩ := h
  exact nodeD_targetsOK H _ _ _

theorem get_nil : LHeap.get [] = initHeap := by
  funext c; rfl

theorem get_cons (w : Cell × Nat) (l : LHeap) : LHeap.get (w :: l) = Heap.set (LHeap.get l) w.1 w.2 := by
  funext c
  unfold LHeap.get Heap.set
  rw [List.find?_cons]
  by_cases h : w.1 = c
  · simp [h]
  · simp [beq_eq_false_iff_ne.2 h, Ne.symm h]

theorem get_reverse_append (ws : List (Cell × Nat)) (l : LHeap) :
    LHeap.get (ws.reverse ++ l) = applyWrites ws (LHeap.get l) := by
  induction ws generalizing l with
  | nil => rfl
  | cons w ws ih =>
    rw [List.reverse_cons, List.append_assoc, List.singleton_append, ih, get_cons, applyWrites_cons]

theorem get_execL (d : NodeD) (l : LHeap) : (d.execL l).get = d.exec l.get :=
  get_reverse_append _ _

theorem get_runOrderL (ds : List NodeD) (order : List Nat) (l : LHeap) :
    (runOrderL ds order l).get = runOrder ds order l.get :=
  (List.foldl_hom LHeap.get fun l i => by
    cases ds[i]? with
    | none => rfl
    | some d => exact (get_execL d l).symm).symm

theorem runOrder_topo_eq (g : Graph) (ds : List NodeD) (hok : ∀ (i : Nat) (d : NodeD), ds[i]? = some d → d.TargetsOK) (hrf : RaceFree g ds)
    (l1 l2 : List Nat) (hperm : l1.Perm l2)
    (h1 : l1.Pairwise (fun x y => ¬ Path g y x)) (h2 : l2.Pairwise (fun x y => ¬ Path g y x)) (h : Heap) :
    runOrder ds l1 h = runOrder ds l2 h := by
  -- the action is the step function of `runOrder`'s fold
  refine fold_perm_of_commute (fun i h => match ds[i]? with | some d => d.exec h | none => h) (Path g)
    (fun i j hne hij hji s => ?_) l1 l2 hperm h1 h2 h
  cases hi : ds[i]? with
  | none => rfl
  | some di =>
    cases hj : ds[j]? with
    | none => rfl
    | some dj =>
      exact exec_commute di dj (hok i di hi) (hok j dj hj)
        (Bool.eq_false_iff.2 fun hc => (hrf i j di dj hi hj hne hc).elim hij hji) s

end ParsecVerif.PtgRt
