/-
  What each primitive mutation of the store does to each observable (`bk`, `used`, `next`, the scalar
  fields); the search for a key in a chain (`scan`) and in the ghost map (`lookup`), whose keys are
  pairwise distinct.
-/
import ParsecVerif.Model.HashTable

namespace ParsecVerif.HashTable

@[simp] theorem upd_same {α : Type} (f : Nat → α) (a : Nat) (v : α) : upd f a v a = v := by simp [upd]

theorem upd_ne {α : Type} (f : Nat → α) (a : Nat) (v : α) (x : Nat) (h : x ≠ a) : upd f a v x = f x := by
  simp [upd, h]

theorem upd_apply {α : Type} (f : Nat → α) (a : Nat) (v : α) (x : Nat) : upd f a v x = if x = a then v else f x := rfl

theorem rehash_lt (h64 nb : Nat) : rehash h64 nb < 2 ^ nb := by
  unfold rehash
  apply Nat.div_lt_of_lt_mul
  rw [← Nat.pow_add]
  exact Nat.mod_lt _ (Nat.pow_pos (by decide))

theorem bk_setBk (s : Store) (T b : Nat) (B : Bucket) (T' b' : Nat) :
    (s.setBk T b B).bk T' b' = if T' = T ∧ b' = b then B else s.bk T' b' := by
  unfold Store.setBk Store.bk upd
  by_cases hT : T' = T <;> by_cases hb : b' = b <;> simp [hT, hb]

@[simp] theorem used_setBk (s : Store) (T b : Nat) (B : Bucket) (T' : Nat) :
    ((s.setBk T b B).tab T').used = (s.tab T').used := by
  unfold Store.setBk upd; by_cases hT : T' = T <;> simp [hT]

@[simp] theorem next_setBk (s : Store) (T b : Nat) (B : Bucket) (T' : Nat) :
    ((s.setBk T b B).tab T').next = (s.tab T').next := by
  unfold Store.setBk upd; by_cases hT : T' = T <;> simp [hT]

@[simp] theorem top_setBk (s : Store) (T b : Nat) (B : Bucket) : (s.setBk T b B).top = s.top := rfl
@[simp] theorem nb0_setBk (s : Store) (T b : Nat) (B : Bucket) : (s.setBk T b B).nb0 = s.nb0 := rfl
@[simp] theorem hf_setBk (s : Store) (T b : Nat) (B : Bucket) : (s.setBk T b B).hf = s.hf := rfl
@[simp] theorem abs_setBk (s : Store) (T b : Nat) (B : Bucket) : (s.setBk T b B).abs = s.abs := rfl
@[simp] theorem kheld_setBk (s : Store) (T b : Nat) (B : Bucket) : (s.setBk T b B).kheld = s.kheld := rfl
@[simp] theorem hint_setBk (s : Store) (T b : Nat) (B : Bucket) : (s.setBk T b B).hint = s.hint := rfl
@[simp] theorem maxb_setBk (s : Store) (T b : Nat) (B : Bucket) : (s.setBk T b B).maxb = s.maxb := rfl

section obs
variable (s : Store) (T b : Nat) (T' b' : Nat)

theorem items_setLock (v : Nat) : ((s.setLock T b v).bk T' b').items = (s.bk T' b').items := by
  rw [Store.setLock, bk_setBk]; split <;> simp [*]

theorem len_setLock (v : Nat) : ((s.setLock T b v).bk T' b').len = (s.bk T' b').len := by
  rw [Store.setLock, bk_setBk]; split <;> simp [*]

theorem lock_setLock (v : Nat) :
    ((s.setLock T b v).bk T' b').lock = if T' = T ∧ b' = b then v else (s.bk T' b').lock := by
  rw [Store.setLock, bk_setBk]; split <;> rfl

theorem lock_pushFront (it : Item) : ((s.pushFront T b it).bk T' b').lock = (s.bk T' b').lock := by
  rw [Store.pushFront, bk_setBk]; split <;> simp [*]

theorem items_pushFront (it : Item) :
    ((s.pushFront T b it).bk T' b').items = if T' = T ∧ b' = b then it :: (s.bk T b).items else (s.bk T' b').items := by
  rw [Store.pushFront, bk_setBk]; split <;> rfl

theorem len_pushFront (it : Item) :
    ((s.pushFront T b it).bk T' b').len = if T' = T ∧ b' = b then (s.bk T b).len + 1 else (s.bk T' b').len := by
  rw [Store.pushFront, bk_setBk]; split <;> rfl

theorem lock_eraseIt (it : Item) : ((s.eraseIt T b it).bk T' b').lock = (s.bk T' b').lock := by
  rw [Store.eraseIt, bk_setBk]; split <;> simp [*]

theorem items_eraseIt (it : Item) :
    ((s.eraseIt T b it).bk T' b').items = if T' = T ∧ b' = b then (s.bk T b).items.erase it else (s.bk T' b').items := by
  rw [Store.eraseIt, bk_setBk]; split <;> rfl

theorem len_eraseIt (it : Item) :
    ((s.eraseIt T b it).bk T' b').len = if T' = T ∧ b' = b then (s.bk T b).len - 1 else (s.bk T' b').len := by
  rw [Store.eraseIt, bk_setBk]; split <;> rfl

theorem mem_pushFront {it x : Item} :
    x ∈ ((s.pushFront T b it).bk T' b').items ↔ (T' = T ∧ b' = b) ∧ x = it ∨ x ∈ (s.bk T' b').items := by
  rw [items_pushFront]; split
  · rename_i h; simp [h]
  · rename_i h; simp [h]

variable {s T b T' b'} in
theorem mem_of_mem_eraseIt {it x : Item} (h : x ∈ ((s.eraseIt T b it).bk T' b').items) : x ∈ (s.bk T' b').items := by
  rw [items_eraseIt] at h; split at h
  · rename_i hc; rw [hc.1, hc.2]; exact List.mem_of_mem_erase h
  · exact h

@[simp] theorem used_setLock (v : Nat) : ((s.setLock T b v).tab T').used = (s.tab T').used := used_setBk ..
@[simp] theorem next_setLock (v : Nat) : ((s.setLock T b v).tab T').next = (s.tab T').next := next_setBk ..
@[simp] theorem used_pushFront (it : Item) : ((s.pushFront T b it).tab T').used = (s.tab T').used := used_setBk ..
@[simp] theorem next_pushFront (it : Item) : ((s.pushFront T b it).tab T').next = (s.tab T').next := next_setBk ..
@[simp] theorem used_eraseIt (it : Item) : ((s.eraseIt T b it).tab T').used = (s.tab T').used := used_setBk ..
@[simp] theorem next_eraseIt (it : Item) : ((s.eraseIt T b it).tab T').next = (s.tab T').next := next_setBk ..

@[simp] theorem bk_decUsed : ((s.decUsed T).bk T' b') = s.bk T' b' := by
  unfold Store.decUsed Store.bk upd; by_cases hT : T' = T <;> simp [hT]

theorem used_decUsed : ((s.decUsed T).tab T').used = if T' = T then (s.tab T).used - 1 else (s.tab T').used := by
  unfold Store.decUsed upd; by_cases hT : T' = T <;> simp [hT]

@[simp] theorem next_decUsed : ((s.decUsed T).tab T').next = (s.tab T').next := by
  unfold Store.decUsed upd; by_cases hT : T' = T <;> simp [hT]

@[simp] theorem bk_setNext (v : Nat) : ((s.setNext T v).bk T' b') = s.bk T' b' := by
  unfold Store.setNext Store.bk upd; by_cases hT : T' = T <;> simp [hT]

@[simp] theorem used_setNext (v : Nat) : ((s.setNext T v).tab T').used = (s.tab T').used := by
  unfold Store.setNext upd; by_cases hT : T' = T <;> simp [hT]

theorem next_setNext (v : Nat) : ((s.setNext T v).tab T').next = if T' = T then v else (s.tab T').next := by
  unfold Store.setNext upd; by_cases hT : T' = T <;> simp [hT]

end obs

theorem bk_resize (s : Store) (T b : Nat) :
    (s.resize).bk T b = if T = s.top + 1 then ({} : Bucket) else s.bk T b := by
  unfold Store.resize Store.bk upd
  by_cases h1 : T = s.top + 1 <;> by_cases h2 : T = s.top <;> simp [h1, h2]

theorem next_resize (s : Store) (T : Nat) :
    ((s.resize).tab T).next = if T = s.top + 1 then s.top else (s.tab T).next := by
  unfold Store.resize upd
  by_cases h1 : T = s.top + 1 <;> by_cases h2 : T = s.top <;> simp [h1, h2]

theorem used_resize (s : Store) (T : Nat) :
    ((s.resize).tab T).used = if T = s.top + 1 then 0 else if T = s.top then ((s.usedCount s.top : Nat) : Int) else (s.tab T).used := by
  unfold Store.resize upd
  by_cases h1 : T = s.top + 1 <;> by_cases h2 : T = s.top <;> simp [h1, h2]

@[simp] theorem top_resize (s : Store) : s.resize.top = s.top + 1 := rfl

theorem countP_range_off (n : Nat) (p q : Nat → Bool) (b0 : Nat) (hb : b0 < n) (hp : p b0 = true) (hq : q b0 = false)
    (hrest : ∀ b, b ≠ b0 → q b = p b) : (List.range n).countP q + 1 = (List.range n).countP p := by
  induction n with
  | zero => omega
  | succ n ih =>
    rw [List.range_succ, List.countP_append, List.countP_append]
    by_cases h : b0 = n
    · subst h
      have : (List.range b0).countP q = (List.range b0).countP p := by
        apply List.countP_congr
        intro x hx
        have : x ≠ b0 := by have := List.mem_range.1 hx; omega
        rw [hrest x this]
      simp [hp, hq, this]
    · have hlt : b0 < n := by omega
      have := ih hlt
      have hn : q n = p n := hrest n (fun h' => h h'.symm)
      simp only [List.countP_cons, List.countP_nil, hn]
      omega

theorem scan_some {l : List Item} {k : Nat} {it : Item} (h : scan l k = some it) : it ∈ l ∧ it.key = k := by
  unfold scan at h
  exact ⟨List.mem_of_find?_eq_some h, by simpa using List.find?_some h⟩

theorem scan_eq_none {l : List Item} {k : Nat} : scan l k = none ↔ ∀ it ∈ l, it.key ≠ k := by
  simp [scan]

theorem lookup_of_mem {σ : List Item} (hp : σ.Pairwise fun a b => a.key ≠ b.key) {it : Item} (hm : it ∈ σ) :
    lookup σ it.key = some it := by
  induction σ with
  | nil => cases hm
  | cons x xs ih =>
    rw [List.pairwise_cons] at hp
    unfold lookup
    rw [List.find?_cons]
    rcases List.mem_cons.1 hm with h | h
    · subst h; simp
    · have : x.key ≠ it.key := hp.1 it h
      have hx : (x.key == it.key) = false := by simpa using this
      simp only [hx]
      exact ih hp.2 h

theorem nodup_of_keys {l : List Item} (h : l.Pairwise fun a b => a.key ≠ b.key) : l.Nodup :=
  List.Pairwise.imp (fun hab he => hab (congrArg Item.key he)) h

theorem eq_of_key_eq {l : List Item} (h : l.Pairwise fun a b => a.key ≠ b.key) {a b : Item} (ha : a ∈ l) (hb : b ∈ l)
    (hk : a.key = b.key) : a = b := by
  have h1 := lookup_of_mem h ha
  have h2 := lookup_of_mem h hb
  rw [hk, h2] at h1
  exact (Option.some.inj h1).symm

theorem lookup_some {σ : List Item} {k : Nat} {it : Item} (h : lookup σ k = some it) : it ∈ σ ∧ it.key = k :=
  scan_some h

theorem lookup_eq_none {σ : List Item} {k : Nat} : lookup σ k = none ↔ ∀ it ∈ σ, it.key ≠ k :=
  scan_eq_none

end ParsecVerif.HashTable
