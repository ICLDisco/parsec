/-
  Arithmetic of the arena chunk layout: PARSEC_ALIGN as computed by the macro (bit mask on 64-bit
  words) rounds up to a multiple of a power-of-two alignment.
-/
import ParsecVerif.Model.Arena

namespace ParsecVerif.Arena

/-- `(2 ^ W - 1) ^^^ (2 ^ k - 1)` is `~(a - 1)` on `W`-bit words for `a = 2 ^ k` -/
theorem and_not_low (y W k : Nat) (hy : y < 2 ^ W) (hk : k ≤ W) :
    y &&& ((2 ^ W - 1) ^^^ (2 ^ k - 1)) = y / 2 ^ k * 2 ^ k := by
  apply Nat.eq_of_testBit_eq
  intro i
  rw [Nat.testBit_and, Nat.testBit_xor, Nat.testBit_two_pow_sub_one, Nat.testBit_two_pow_sub_one,
      Nat.testBit_mul_two_pow, Nat.testBit_div_two_pow]
  by_cases h1 : i < k
  · have : i < W := by omega
    simp [h1, this]; omega
  · have h3 : i - k + k = i := by omega
    have h4 : k ≤ i := by omega
    by_cases h2 : i < W
    · simp [h1, h2, h3, h4]
    · have : y < 2 ^ i := Nat.lt_of_lt_of_le hy (Nat.pow_le_pow_right (by decide) (Nat.le_of_not_lt h2))
      simp [h1, h2, Nat.testBit_lt_two_pow this, h3]

/-- `hx`: the addition of the macro does not wrap -/
theorem alignUp_eq (x k : Nat) (hx : x + (2 ^ k - 1) < 2 ^ 64) :
    alignUp x (2 ^ k) = (x + (2 ^ k - 1)) / 2 ^ k * 2 ^ k := by
  have hk : k ≤ 64 := Nat.le_of_not_lt fun h => by
    have := Nat.pow_le_pow_right (n := 2) (by decide) h
    omega
  unfold alignUp
  rw [Nat.mod_eq_of_lt hx]
  exact and_not_low _ 64 k hx hk

theorem alignUp_spec (x k : Nat) (hx : x + (2 ^ k - 1) < 2 ^ 64) :
    alignUp x (2 ^ k) % 2 ^ k = 0 ∧ x ≤ alignUp x (2 ^ k) ∧ alignUp x (2 ^ k) < x + 2 ^ k := by
  rw [alignUp_eq x k hx]
  have h1 := Nat.div_mul_le_self (x + (2 ^ k - 1)) (2 ^ k)
  have h2 := Nat.lt_div_mul_add (a := x + (2 ^ k - 1)) (Nat.two_pow_pos k)
  exact ⟨Nat.mul_mod_left _ _, by omega, by omega⟩

/-- the test `alignment & (alignment - 1)` of `parsec_arena_construct_ex` accepts only powers of two -/
theorem pow2_of_and (a : Nat) (h2 : 0 < a) (h : a &&& (a - 1) = 0) : ∃ k, a = 2 ^ k :=
  (Nat.and_sub_one_eq_zero_iff_isPowerOfTwo (Nat.ne_of_gt h2)).1 h

end ParsecVerif.Arena
