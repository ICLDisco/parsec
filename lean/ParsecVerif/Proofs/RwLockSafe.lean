import ParsecVerif.Proofs.RwLock
/-!
  Safety consequences of the invariant: mutual exclusion (in terms of the occupancy observations
  `readersIn`/`writersIn` and in terms of thread indices) and the order in which writers enter.
-/
namespace ParsecVerif.RwLock

/-- At most one holder is between its drain and its release of the readers, and then no reader is between the spin of
    `rdlock` and the `fetch_add` of `rdunlock`, and nobody is publishing a release. -/
theorem Core.excl {s : State} {A L D : Nat} {g : Grp → Nat} (h : Core s A L D g) :
    g .hold ≤ 1 ∧ (1 ≤ g .hold → g .rent = 0 ∧ g .rel = 0) := by
  rcases h.2.2.2.2.2 with a | a | a | a <;> omega

theorem length_filter_le_gn {p : Thread → Bool} {g : Grp} (s : State) (hp : ∀ t, p t = true → gof t = g) :
    (s.th.filter p).length ≤ gn s g := by
  unfold gn
  rw [← List.countP_eq_length_filter, List.count_eq_countP, List.countP_map]
  exact List.countP_mono_left fun t _ h => beq_iff_eq.2 (hp t h)

theorem excl_counts (s : State) (h : Inv s) : writersIn s ≤ 1 ∧ (writersIn s = 1 → readersIn s = 0) := by
  have hw : writersIn s ≤ gn s .hold := length_filter_le_gn s fun ⟨pc, _⟩ => by cases pc <;> simp [gof, grp, cls]
  have hr : readersIn s ≤ gn s .rent := length_filter_le_gn s fun ⟨pc, _⟩ => by cases pc <;> simp [gof, grp, cls]
  obtain ⟨A, L, D, hc⟩ := h.core
  have := hc.excl
  omega

theorem alone {s : State} (h : Inv s) {i j : Nat} {a b : Thread} (hij : i ≠ j) (hi : s.th[i]? = some a)
    (hj : s.th[j]? = some b) (ha : gof a = .hold) : gof b ≠ .hold ∧ gof b ≠ .rel ∧ gof b ≠ .rent := by
  obtain ⟨r, e, -, pos⟩ := gn_split hi
  have hp := pos j b (Ne.symm hij) hj
  obtain ⟨A, L, D, hc⟩ := h.core
  have hx := hc.excl
  -- `a` is the one holder, so the others count none, and no reader inside and no releaser
  rw [e, ha] at hx
  simp only [plus, reduceCtorEq, reduceIte] at hx
  refine ⟨fun g => ?_, fun g => ?_, fun g => ?_⟩ <;> rw [g] at hp <;> omega

/-- instrumented step: the log records the ticket of every writer at the moment it enters the write
    critical section (the `rmb` that ends `wrlock`) -/
def stepL (p : State × List Nat) (i : Nat) : State × List Nat :=
  (step 0 p.1 i, match pcOf p.1 i with
    | .wFence t => p.2 ++ [t]
    | _ => p.2)

def runL (s : State) (sched : List Nat) : State × List Nat := sched.foldl stepL (s, [])

theorem runL_fst (s : State) (log : List Nat) (sched : List Nat) :
    (sched.foldl stepL (s, log)).1 = run 0 s sched :=
  (List.foldl_hom Prod.fst fun _ _ => rfl).symm

/-- a writer that has entered and not yet published its release -/
def past : Pc → Bool
  | .wIn _ | .wWmb _ | .wAnd _ | .wLoad _ | .wStore _ _ => true
  | _ => false

/-- the initial `wout` plus the number of write critical sections entered so far, in terms of the state -/
def entered (s : State) : Nat := s.wout + s.th.countP fun t => past t.pc

theorem entered_set {s s' : State} {k : Nat} {x y : Thread} (hk : s.th[k]? = some x) (hth : s'.th = s.th.set k y) :
    entered s' + s.wout + (if past x.pc then 1 else 0) = entered s + s'.wout + if past y.pc then 1 else 0 := by
  have := Interleave.countP_set_of_getElem? (fun t => past t.pc) hk y
  simp only [entered, hth]
  omega

theorem entered_keep {s s' : State} {k : Nat} {x : Thread} {pc : Pc} {prog : List Kind} (hk : s.th[k]? = some x)
    (hth : s'.th = s.th.set k ⟨pc, prog⟩ := by rfl) (hw : s'.wout = s.wout := by rfl)
    (e : past pc = past x.pc := by rfl) : entered s' = entered s := by
  have := entered_set hk hth
  rw [hw, e] at this
  omega

theorem entered_step (s : State) (k : Nat) (h : Inv s) :
    match pcOf s k with
    | .wFence t => entered s = t ∧ entered (step 0 s k) = t + 1
    | _ => entered (step 0 s k) = entered s := by
  unfold step pcOf
  cases hk : s.th[k]? with
  | none => rfl
  | some th =>
    obtain ⟨pc, prog⟩ := th
    have hme := h.pt k _ hk
    -- every program point but `wFence` and `wStore` leaves `wout` alone and the mover on its side of the fence
    cases pc <;> simp only [stepT, Nat.mod_zero] <;> (try split) <;> first | rfl | exact entered_keep hk | skip
    case wFence t =>
      -- its ticket is `wout`, and nobody is past the fence (`alone`)
      have hent : entered s = t := by
        have : s.th.countP (fun t => past t.pc) = 0 := List.countP_eq_zero.2 fun b hb => by
          obtain ⟨j, hj⟩ := List.getElem?_of_mem hb
          by_cases hjk : k = j
          · cases (hjk ▸ hk).symm.trans hj; nofun
          · obtain ⟨h1, h2, -⟩ := alone h hjk hk hj rfl
            obtain ⟨pc, _⟩ := b
            cases pc <;> first | exact fun _ => h1 rfl | exact fun _ => h2 rfl | nofun
        rw [entered, this]
        exact hme.symm
      have := entered_set hk (s' := setT s k (.wIn t) prog) rfl
      simp only [setT, past, Bool.false_eq_true, reduceIte] at this ⊢
      exact ⟨hent, by omega⟩
    case wStore t v =>
      -- the release is published: `v = wout`, and the mover is no longer counted
      have := entered_set hk (s' := { setT s k .idle prog with wout := v + 1 }) rfl
      simp only [setT, past, Bool.false_eq_true, reduceIte, PT, PTv] at this hme ⊢
      omega

def LogOk (b : Nat) (p : State × List Nat) : Prop :=
  Inv p.1 ∧ p.2 = List.range' b p.2.length ∧ b + p.2.length = entered p.1

theorem log_step (b : Nat) (p : State × List Nat) (k : Nat) (h : LogOk b p) : LogOk b (stepL p k) := by
  obtain ⟨s, log⟩ := p
  obtain ⟨h, hl, he⟩ : Inv s ∧ log = List.range' b log.length ∧ b + log.length = entered s := h
  refine ⟨inv_step s k h, ?_⟩
  have hs := entered_step s k h
  simp only [stepL]
  generalize pcOf s k = pc at hs ⊢
  cases pc <;> simp only at hs ⊢ <;> first | exact ⟨hl, by omega⟩ | skip
  rw [List.length_append, List.length_singleton, List.range'_concat, ← hl]
  exact ⟨by congr 2; omega, by omega⟩

theorem log_run (a b : Nat) (progs : List (List Kind)) (sched : List Nat) : LogOk b (runL (init a b progs) sched) :=
  Interleave.foldl_inv (log_step b) sched ⟨inv_init a b progs, rfl, by simp [entered, init, List.countP_map, Function.comp_def, past]⟩

end ParsecVerif.RwLock
