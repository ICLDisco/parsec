/-
  `parsec_hash_table_for_all` on a quiescent table visits every stored item exactly once; a step of
  the cooperative scheduler is a run of micro steps of one thread.
-/
import ParsecVerif.Proofs.HashTableInv

namespace ParsecVerif.HashTable

theorem chain_zero (s : Store) (fuel : Nat) : chain s fuel 0 = [] := by cases fuel <;> rfl

theorem chain_succ (s : Store) (fuel T : Nat) : chain s (fuel + 1) (T + 1) = (T + 1) :: chain s fuel (s.tab (T + 1)).next := rfl

theorem chain_desc {s : Store} (h : StructInv s) : ∀ fuel T, Tin s T →
    (chain s fuel T).Pairwise (fun a b => b < a) ∧ ∀ T', T' ∈ chain s fuel T → Tin s T' ∧ T' ≤ T := by
  intro fuel
  induction fuel with
  | zero => intro T _; exact ⟨List.Pairwise.nil, fun _ hm => (nomatch hm)⟩
  | succ f ih =>
    intro T hT
    cases T with
    | zero => rw [chain_zero]; exact ⟨List.Pairwise.nil, fun _ hm => (nomatch hm)⟩
    | succ T0 =>
      rw [chain_succ, List.pairwise_cons]
      have hn := h.nxt (T0 + 1) hT
      rcases hn.2 with hz | hnb
      · rw [hz, chain_zero]
        exact ⟨⟨fun _ hm => (nomatch hm), List.Pairwise.nil⟩, fun T' hm => by rw [List.mem_singleton.1 hm]; exact ⟨hT, Nat.le_refl _⟩⟩
      · obtain ⟨i1, i2⟩ := ih _ ⟨hnb, Nat.le_trans (Nat.le_of_lt hn.1) hT.2⟩
        refine ⟨⟨fun T' hm => Nat.lt_of_le_of_lt (i2 T' hm).2 hn.1, i1⟩, fun T' hm => ?_⟩
        rcases List.mem_cons.1 hm with e | e
        · rw [e]; exact ⟨hT, Nat.le_refl _⟩
        · exact ⟨(i2 T' e).1, Nat.le_trans (i2 T' e).2 (Nat.le_of_lt hn.1)⟩

theorem chain_sub {s : Store} (h : StructInv s) (fuel T : Nat) (hT : Tin s T) (T' : Nat) (hm : T' ∈ chain s fuel T) : Tin s T' :=
  ((chain_desc h fuel T hT).2 T' hm).1

theorem chain_covers {s : Store} (h : StructInv s) : ∀ fuel T, Tin s T → T - s.nb0 < fuel →
    ∀ T', Tin s T' → T' ≤ T → ¬ EmptyT s T' → T' ∈ chain s fuel T := by
  intro fuel
  induction fuel with
  | zero => intro T _ hf; omega
  | succ f ih =>
    intro T hT hf T' hT' hle hne
    have hnb := h.nb0
    cases T with
    | zero => have := hT.1; omega
    | succ T0 =>
      rw [chain_succ]
      rcases Nat.lt_or_ge T' (T0 + 1) with hlt | hge
      · apply List.mem_cons_of_mem
        have hn := h.nxt (T0 + 1) hT
        rcases Nat.lt_or_ge (s.tab (T0 + 1)).next T' with hsk | hle'
        · exact absurd (h.skip (T0 + 1) T' hT hsk hlt hT'.1) hne
        · have hnv : s.nb0 ≤ (s.tab (T0 + 1)).next := Nat.le_trans hT'.1 hle'
          have hTn : Tin s (s.tab (T0 + 1)).next := ⟨hnv, Nat.le_trans (Nat.le_of_lt hn.1) hT.2⟩
          exact ih _ hTn (by omega) T' hT' hle' hne
      · have : T' = T0 + 1 := Nat.le_antisymm hle hge
        rw [this]; exact List.mem_cons_self

theorem mem_tableItems {s : Store} {T : Nat} {it : Item} : it ∈ tableItems s T ↔ ∃ b, b < 2 ^ T ∧ it ∈ (s.bk T b).items := by
  simp only [tableItems, List.mem_flatMap, List.mem_range]

theorem nodup_tableItems {s : Store} (h : StructInv s) {T : Nat} (hT : Tin s T) : (tableItems s T).Nodup := by
  refine List.pairwise_flatMap.2 ⟨fun b _ => h.nodup T b hT, List.Pairwise.imp ?_ (List.nodup_range (n := 2 ^ T))⟩
  rintro a b hab y hya _ hyb rfl
  exact hab ((h.place T a y hT hya).trans (h.place T b y hT hyb).symm)

theorem mem_forAll {s : Store} (h : StructInv s) (it : Item) : it ∈ forAll s ↔ Stored s it := by
  have htop := h.tin_top
  unfold forAll
  rw [List.mem_flatMap]
  constructor
  · rintro ⟨T, hT, hi⟩
    obtain ⟨b, _, hb⟩ := mem_tableItems.1 hi
    exact ⟨T, b, chain_sub h _ _ htop T hT, hb⟩
  · rintro ⟨T, b, hT, hi⟩
    refine ⟨T, ?_, mem_tableItems.2 ⟨b, ?_, hi⟩⟩
    · apply chain_covers h _ _ htop (by omega) T hT hT.2
      intro he; rw [he b] at hi; cases hi
    · rw [h.place T b it hT hi]; exact h.hfr _ _

theorem nodup_forAll {s : Store} (h : StructInv s) : (forAll s).Nodup := by
  have htop := h.tin_top
  refine List.pairwise_flatMap.2 ⟨fun T hT => nodup_tableItems h (chain_sub h _ _ htop T hT),
    List.Pairwise.imp_of_mem ?_ (chain_desc h (s.top + 1) s.top htop).1⟩
  rintro a b ha hb hab y hya _ hyb rfl
  obtain ⟨b1, _, h1⟩ := mem_tableItems.1 hya
  obtain ⟨b2, _, h2⟩ := mem_tableItems.1 hyb
  have := h.once a b b1 b2 y (chain_sub h _ _ htop a ha) (chain_sub h _ _ htop b hb) h1 h2
  omega

theorem forAll_perm {s : Store} {thr : List Thread} (hS : SInv s thr) (hq : ∀ th, th ∈ thr → th.pc = .idle) :
    (forAll s).Perm s.abs ∧ (forAll s).Nodup := by
  refine ⟨?_, nodup_forAll hS.st⟩
  rw [List.perm_ext_iff_of_nodup (nodup_forAll hS.st) (nodup_of_keys hS.ab.absKeys)]
  intro it
  rw [mem_forAll hS.st]
  constructor
  · exact hS.ab.absIn it
  · intro hit
    rcases hS.ab.absOut it hit with h | ⟨t, a, ha, _, hh⟩
    · exact h
    · rw [hq a (List.mem_of_getElem? ha)] at hh; cases hh

theorem runToPark_micro (blk : Bool) (fuel : Nat) (s : State) (t : Nat) :
    ∃ n, runToPark blk fuel s t = (List.replicate n t).foldl step s := by
  induction fuel generalizing s with
  | zero => exact ⟨0, rfl⟩
  | succ f ih =>
    unfold runToPark
    split
    · exact ⟨0, rfl⟩
    · obtain ⟨n, hn⟩ := ih (step s t)
      exact ⟨n + 1, by rw [hn, List.replicate_succ, List.foldl_cons]⟩

theorem macroStep_micro (s : State) (t : Nat) (blk : Bool) : ∃ n, macroStep s t blk = (List.replicate n t).foldl step s := by
  unfold macroStep
  split
  · exact ⟨0, rfl⟩
  · obtain ⟨n, hn⟩ := runToPark_micro blk 16 (step s t) t
    exact ⟨n + 1, by rw [hn, List.replicate_succ, List.foldl_cons]⟩

end ParsecVerif.HashTable
