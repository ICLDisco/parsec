import ParsecVerif.Model.Sched.Vp
import ParsecVerif.Proofs.Sched.Bag
/-! The next_task retention wrapper refines a bag whenever the module below does. -/
namespace ParsecVerif.Sched

variable {M : Module}

structure VpSchedOK (C : M.Correct) (s : VpSt M) (a : SArg) (s' : VpSt M) : Prop where
  n : M.nstreams s'.inner = M.nstreams s.inner
  len : s'.next.length = s.next.length
  bag : C.Inv s.inner → a.es < M.nstreams s.inner → a.es < s.next.length → a.ring ≠ [] →
    C.Inv s'.inner ∧
    (ids (M.pending s'.inner ++ slotsOf s'.next)).Perm (ids a.ring ++ ids (M.pending s.inner ++ slotsOf s.next))

theorem vpSchedule_spec (C : M.Correct) (s : VpSt M) (a : SArg) : VpSchedOK C s a (vpSchedule M s a) := by
  -- the whole ring goes to the module below, on the submitting stream or on stream 0
  have pass : ∀ e, (e = a.es ∨ e = 0) → VpSchedOK C s a { s with inner := M.schedule s.inner { a with es := e } } :=
    fun e he => ⟨C.n_schedule _ _, rfl, fun hi hes _ hr => by
      have he' : e < M.nstreams s.inner := by omega
      refine ⟨C.inv_schedule _ _ hi he' hr, ?_⟩
      simpa only [ids_append, List.append_assoc] using (C.sched_perm _ { a with es := e } hi he' hr).append_right (ids (slotsOf s.next))⟩
  unfold vpSchedule
  split
  · exact pass 0 (.inr rfl)
  · split
    · exact pass a.es (.inl rfl)
    next hnone =>
      split
      next he => exact ⟨rfl, rfl, fun _ _ _ hr => absurd he hr⟩
      next t rest he =>
        -- the head is retained in the free slot; the module below takes the rest (`inner'`), if there is any
        have retain : ∀ inner', (ids (M.pending inner')).Perm (ids rest ++ ids (M.pending s.inner)) → a.es < s.next.length →
            (ids (M.pending inner' ++ slotsOf (s.next.set a.es (some t)))).Perm
              (ids a.ring ++ ids (M.pending s.inner ++ slotsOf s.next)) := fun inner' hin hlt => by
          have hslot := ids_perm (slots_set (v := some t) (out := []) (inn := [t]) hlt (by rw [hnone]; exact .refl _))
          rw [List.perm_iff_count] at hin hslot ⊢
          intro n
          have h1 := hin n; have h2 := hslot n
          simp only [he, ids_append, ids_cons, ids_nil, List.count_append, List.count_cons, List.count_nil] at h1 h2 ⊢
          omega
        split
        next hemp =>
          obtain rfl := List.isEmpty_iff.1 hemp
          exact ⟨rfl, List.length_set, fun hi _ hlt _ => ⟨hi, retain _ (.refl _) hlt⟩⟩
        next hne =>
          have hr' : rest ≠ [] := fun h => hne (h ▸ rfl)
          exact ⟨C.n_schedule _ _, List.length_set, fun hi hes hlt _ =>
            ⟨C.inv_schedule _ _ hi hes hr', retain _ (C.sched_perm s.inner { a with ring := rest } hi hes hr') hlt⟩⟩

theorem vpNext_cases (s : VpSt M) (es : Nat) :
    (∃ t, s.next.getD es none = some t ∧ vpNext M s es = ({ s with next := s.next.set es none }, some (t, 1))) ∨
    (s.next.getD es none = none ∧
      vpNext M s es = ({ s with inner := (M.select s.inner es).1 }, (M.select s.inner es).2)) := by
  unfold vpNext
  split
  next t h => exact .inl ⟨t, h, rfl⟩
  next h => exact .inr ⟨h, rfl⟩

theorem vpNext_ne_none {s : VpSt M} {es : Nat} :
    (vpNext M s es).2 ≠ none ↔ s.next.getD es none ≠ none ∨ (M.select s.inner es).2 ≠ none := by
  rcases vpNext_cases s es with ⟨t, hn, h⟩ | ⟨hn, h⟩ <;> rw [h, hn] <;> simp

def vpCorrect {M : Module} (C : M.Correct) : (vpModule M).Correct where
  Inv s := C.Inv s.inner ∧ s.next.length = M.nstreams s.inner
  n_schedule s a := by
    show M.nstreams (vpSchedule M s a).inner = M.nstreams s.inner
    exact (vpSchedule_spec C s a).n
  n_select s es := by
    show M.nstreams (vpNext M s es).1.inner = M.nstreams s.inner
    rcases vpNext_cases s es with ⟨t, _, h⟩ | ⟨_, h⟩ <;> rw [h]
    exact C.n_select _ _
  inv_schedule s a hi hes hr := by
    show C.Inv (vpSchedule M s a).inner ∧ (vpSchedule M s a).next.length = M.nstreams (vpSchedule M s a).inner
    have p := vpSchedule_spec C s a
    exact ⟨(p.bag hi.1 hes (hi.2 ▸ hes) hr).1, by rw [p.n, p.len]; exact hi.2⟩
  inv_select s es hi hes := by
    show C.Inv (vpNext M s es).1.inner ∧ (vpNext M s es).1.next.length = M.nstreams (vpNext M s es).1.inner
    rcases vpNext_cases s es with ⟨t, _, h⟩ | ⟨_, h⟩ <;> rw [h]
    · exact ⟨hi.1, List.length_set.trans hi.2⟩
    · exact ⟨C.inv_select _ _ hi.1 hes, hi.2.trans (C.n_select _ _).symm⟩
  sched_perm s a hi hes hr := by
    show (ids (M.pending (vpSchedule M s a).inner ++ slotsOf (vpSchedule M s a).next)).Perm
      (ids a.ring ++ ids (M.pending s.inner ++ slotsOf s.next))
    exact ((vpSchedule_spec C s a).bag hi.1 hes (hi.2 ▸ hes) hr).2
  sel_some s es t d hi hes hs := by
    show (ids (M.pending s.inner ++ slotsOf s.next)).Perm (t.id :: ids (M.pending (vpNext M s es).1.inner ++ slotsOf (vpNext M s es).1.next))
    have hs' : (vpNext M s es).2 = some (t, d) := hs
    rcases vpNext_cases s es with ⟨t', hn, h⟩ | ⟨_, h⟩ <;> rw [h] at hs' ⊢
    · cases hs'
      simp only [ids_append]
      exact ((ids_perm (slots_take s.next es t hn)).append_left _).trans List.perm_middle
    · simp only [ids_append]
      exact (C.sel_some s.inner es t d hi.1 hes hs').append_right _
  sel_none s es hi hes hs := by
    show (ids (M.pending (vpNext M s es).1.inner ++ slotsOf (vpNext M s es).1.next)).Perm (ids (M.pending s.inner ++ slotsOf s.next))
    have hs' : (vpNext M s es).2 = none := hs
    rcases vpNext_cases s es with ⟨t', _, h⟩ | ⟨_, h⟩ <;> rw [h] at hs' ⊢
    · cases hs'
    · simp only [ids_append]
      exact (C.sel_none s.inner es hi.1 hes hs').append_right _
  live s hi hne := by
    by_cases hnx : slotsOf s.next = []
    · obtain ⟨es, hes, hsel⟩ := C.live s.inner hi.1 fun h => hne (by show _ ++ slotsOf _ = []; rw [h, hnx]; rfl)
      exact ⟨es, hes, vpNext_ne_none.2 (.inr hsel)⟩
    · obtain ⟨es, hlt, h⟩ := exists_getD_ne_nil none (slotsOf_eq s.next ▸ hnx)
      exact ⟨es, hi.2 ▸ hlt, vpNext_ne_none.2 (.inl fun hn => h (by rw [hn]; rfl))⟩

end ParsecVerif.Sched
