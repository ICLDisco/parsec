import ParsecVerif.Model.Sched.LlpConc
import ParsecVerif.Proofs.Sched.Lifo
/-! Conservation of llp's `lifo_chain_sorted` protocol under every interleaving of its atomic steps
    with concurrent pops, given the single-writer usage hypothesis (`allowed`).  That the hypothesis is needed is shown by a witness in `Props/C08.lean`. -/
namespace ParsecVerif.Sched.LlpConc

/-- LIFO ⊎ in-hand ⊎ returned = handed in; thread 0 is the owner of a single-writer LIFO -/
def Inv (sw : Bool) (s : St) : Prop :=
  (s.lifo ++ hands s ++ s.ret).Perm s.sched ∧
  (sw = true → (∀ t, t ≠ 0 → s.pcs.getD t .idle = .idle) ∧
               (∀ l d, s.pcs.getD 0 .idle = .merged l d → s.lifo = []))

theorem getD_replicate_idle (n t : Nat) : (List.replicate n Pc.idle).getD t .idle = .idle := by
  rw [List.getD_eq_getElem?_getD, List.getElem?_replicate]; split <;> rfl

theorem Inv.init (sw : Bool) (n : Nat) : Inv sw (init n) := by
  refine ⟨?_, fun _ => ⟨fun t _ => getD_replicate_idle n t, fun l d h => ?_⟩⟩
  · have : hands (LlpConc.init n) = [] := by
      simp [hands, LlpConc.init, List.map_replicate, hand]
    show ([] ++ hands (LlpConc.init n) ++ []).Perm []
    rw [this]; exact .refl _
  · rw [LlpConc.init, getD_replicate_idle] at h; cases h

theorem Inv.move {sw : Bool} {s : St} (hi : Inv sw s) {t : Nat} {p : Pc} (hp : s.pcs.getD t .idle = p) (p' : Pc)
    (L' new : List Task) (hlt : t < s.pcs.length) (hbal : (hand p' ++ L').Perm (new ++ (hand p ++ s.lifo)))
    (hsw : sw = true → t = 0 ∧ ∀ l d, p' = .merged l d → L' = []) :
    Inv sw ⟨L', s.pcs.set t p', s.ret, new ++ s.sched⟩ := by
  refine ⟨?_, fun h => ?_⟩
  · have hs := flatMap_set_perm hand .idle (x := p') (out := hand p) (inn := hand p') hlt (hp ▸ .refl _)
    rw [List.perm_iff_count] at hs hbal ⊢
    intro a
    have h1 := hs a; have h2 := hbal a; have h3 := hi.1.count_eq a
    simp only [hands, ← List.flatMap_def, List.count_append] at h1 h2 h3 ⊢
    omega
  · obtain ⟨rfl, hm⟩ := hsw h
    refine ⟨fun u hu => ?_, fun l d hl => hm l d ?_⟩
    · show (s.pcs.set 0 p').getD u .idle = .idle
      rw [List.getD_eq_getElem?_getD, List.getElem?_set_ne (Ne.symm hu), ← List.getD_eq_getElem?_getD]
      exact (hi.2 h).1 u hu
    · have : (s.pcs.set 0 p').getD 0 .idle = .merged l d := hl
      rwa [List.getD_eq_getElem?_getD, List.getElem?_set_self hlt] at this

theorem isIdle_iff {p : Pc} : isIdle p = true ↔ p = .idle := by cases p <;> simp [isIdle]

theorem Inv.owner {sw : Bool} {s : St} (hi : Inv sw s) {t : Nat} (hpc : s.pcs.getD t .idle ≠ .idle) (h : sw = true) :
    t = 0 :=
  Decidable.by_contra fun ht => hpc ((hi.2 h).1 t ht)

theorem Inv.step (sw : Bool) (s : St) (m : Move) (ha : allowed sw m = true) (hi : Inv sw s) : Inv sw (apply sw s m) := by
  cases m with
  | call t ring d =>
    simp only [apply]
    split
    next hc =>
      simp only [Bool.and_eq_true, decide_eq_true_eq, isIdle_iff] at hc
      exact hi.move hc.1.1 _ _ ring hc.2 (.refl _) fun h => ⟨by simpa [allowed, h] using ha, nofun⟩
    · exact hi
  | pop t =>
    simp only [apply]
    split
    · cases hl : s.lifo with
      | nil => exact hi
      | cons x xs =>
        refine ⟨?_, fun h => ⟨(hi.2 h).1, fun l d hm => ?_⟩⟩
        · have h := hi.1
          rw [hl] at h
          exact List.perm_middle.trans h
        · cases hl ▸ (hi.2 h).2 l d hm
    · exact hi
  | step t =>
    simp only [apply]
    cases hpc : s.pcs.getD t .idle with
    | idle => exact hi
    | start ring d =>
      have hne : s.pcs.getD t .idle ≠ .idle := by rw [hpc]; nofun
      have hlt := lt_of_getD_ne hne
      simp only
      cases hl : ring.getLast? with
      | none =>
        obtain rfl := List.getLast?_eq_none_iff.1 hl
        exact hi.move hpc _ _ [] hlt (.refl _) fun h => ⟨hi.owner hne h, nofun⟩
      | some last =>
        simp only
        split
        · exact hi.move hpc _ _ [] hlt (.refl _) fun h => ⟨hi.owner hne h, nofun⟩
        · exact hi.move hpc _ _ [] hlt (List.append_nil _ ▸ mergeLoop_perm d last ring ⟨[], [], s.lifo, 0⟩ ⟨nofun, fun _ => rfl⟩)
            fun h => ⟨hi.owner hne h, fun _ _ _ => rfl⟩
    | merged list d =>
      have hne : s.pcs.getD t .idle ≠ .idle := by rw [hpc]; nofun
      have hlt := lt_of_getD_ne hne
      simp only
      split
      next hsw =>
        -- single writer: plain store; the invariant says the LIFO is empty here
        obtain rfl := hi.owner hne hsw
        exact hi.move hpc _ _ [] hlt (by rw [(hi.2 hsw).2 list d hpc]; exact .of_eq (List.append_nil _).symm) fun h => ⟨rfl, nofun⟩
      next hsw =>
        split
        next hl => exact hi.move hpc _ _ [] hlt (by rw [hl]; exact .of_eq (List.append_nil _).symm) fun h => absurd h hsw
        next x xs hl => exact hi.move hpc _ _ [] hlt (hl ▸ List.perm_append_comm) fun h => absurd h hsw

theorem Inv.run (sw : Bool) (ms : List Move) (s : St) (h : Inv sw s) : Inv sw (run sw s ms) :=
  List.foldlRecOn (motive := Inv sw) ms _ h fun s hs m _ => by
    split
    next ha => exact Inv.step sw s m ha hs
    · exact hs

end ParsecVerif.Sched.LlpConc
