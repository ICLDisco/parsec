import ParsecVerif.Model.Sched.Ltq
import ParsecVerif.Proofs.Sched.Hbb
/-! Conservation and liveness of ltq: max-heap operations (`heap_insert`, `heap_remove`,
    `heap_split_and_steal`) keep every task; `Module.Correct ltqModule`. -/
namespace ParsecVerif.Sched

def hp (l : List Heap) : List Task := l.flatMap (·.top.flat)

theorem hp_cons (h : Heap) (l : List Heap) : hp (h :: l) = h.top.flat ++ hp l := List.flatMap_cons
theorem hp_append (a b : List Heap) : hp (a ++ b) = hp a ++ hp b := List.flatMap_append
theorem hp_nil : hp [] = [] := rfl
theorem hp_single (h : Heap) : hp [h] = h.top.flat := List.flatMap_singleton ..
theorem hp_perm {a b : List Heap} (h : a.Perm b) : (hp a).Perm (hp b) := List.Perm.flatMap_right _ h

theorem Tree.count_flat_node (a v : Task) (l r : Tree) :
    (Tree.node v l r).flat.count a = [v].count a + (l.flat.count a + r.flat.count a) := by
  rw [Tree.flat, List.count_cons, List.count_append, List.count_cons, List.count_nil]; omega

theorem Tree.count_flat_nil (a : Task) : Tree.nil.flat.count a = 0 := rfl

theorem graft_count (a : Task) : ∀ (l r : Tree), (graft l r).flat.count a = l.flat.count a + r.flat.count a
  | .nil, r => (Nat.zero_add _).symm
  | .node v l r', r => by rw [graft, Tree.count_flat_node, Tree.count_flat_node, graft_count a l r]; omega

theorem treeInsert_count (x a : Task) (path : List Bool) (t : Tree) :
    (treeInsert x path t).1.flat.count a = [x].count a + t.flat.count a := by
  fun_induction treeInsert x path t <;> simp_all only [Tree.count_flat_node, Tree.count_flat_nil] <;> omega

theorem treeInsert_notNil (x : Task) (path : List Bool) (t : Tree) : (treeInsert x path t).1.isNil = false := by
  fun_induction treeInsert x path t <;> rfl

theorem heapInsert_count (h : Heap) (x a : Task) : (heapInsert h x).top.flat.count a = [x].count a + h.top.flat.count a := by
  unfold heapInsert
  split <;> exact treeInsert_count ..

theorem heapInsert_notNil (h : Heap) (x : Task) : (heapInsert h x).top.isNil = false := by
  unfold heapInsert
  split <;> exact treeInsert_notNil ..

theorem treeTakeLast_count (a : Task) (path : List Bool) (t : Tree) (w : Task) (h : (treeTakeLast path t).2 = some w) :
    t.flat.count a = [w].count a + (treeTakeLast path t).1.flat.count a := by
  fun_induction treeTakeLast path t <;> simp_all only [Tree.count_flat_node, Tree.count_flat_nil, Option.some.injEq, reduceCtorEq] <;> omega

theorem treeTakeLast_root {path : List Bool} {v u : Task} {l r l' r' : Tree} {o : Option Task}
    (h : treeTakeLast path (.node v l r) = (.node u l' r', o)) : u = v := by
  unfold treeTakeLast at h
  split at h <;> (try split at h) <;> simp_all

theorem siftDown_count (a : Task) (t : Tree) : (siftDown t).flat.count a = t.flat.count a := by
  fun_induction siftDown t <;> simp_all only [Tree.count_flat_node, Tree.count_flat_nil] <;> omega

theorem siftDown_notNil (t : Tree) : (siftDown t).isNil = t.isNil := by
  fun_induction siftDown t <;> rfl

def NE (l : List Heap) : Prop := ∀ h ∈ l, h.top.isNil = false

theorem NE.of_perm {a b : List Heap} (h : NE b) (p : a.Perm b) : NE a := fun x hx => h x (p.mem_iff.1 hx)

theorem NE.single {h : Heap} (hn : h.top.isNil = false) : NE [h] := List.forall_mem_singleton.2 hn

theorem NE.append {a b : List Heap} (ha : NE a) (hb : NE b) : NE (a ++ b) :=
  fun x hx => (List.mem_append.1 hx).elim (ha x) (hb x)

/-- a heap operation on `h` gives task `t` and leaves the heaps `pieces` -/
def Splits (h : Heap) (t : Option Task) (pieces : List Heap) : Prop :=
  h.top.flat.Perm (t.toList ++ hp pieces) ∧ (h.top.isNil = false → t ≠ none ∧ NE pieces)

theorem Splits.root {h : Heap} {v : Task} {l r : Tree} {pieces : List Heap} (ht : h.top = .node v l r)
    (hperm : (hp pieces).Perm (l.flat ++ r.flat)) (hne : NE pieces) : Splits h (some v) pieces :=
  ⟨ht ▸ hperm.symm.cons v, fun _ => ⟨nofun, hne⟩⟩

/-- `heap_remove`, by the shape of the tree: leaf, one child (which becomes the heap), two children (last node to
    the root and sifted down, or the fallback graft) -/
theorem heapRemove_spec : (h : Heap) → Splits h (heapRemove h).1 (optList (heapRemove h).2)
  | ⟨.nil, _, _⟩ => ⟨.refl _, nofun⟩
  | ⟨.node _ .nil .nil, _, _⟩ => .root rfl (.refl _) nofun
  | ⟨.node _ .nil (.node ..), _, _⟩ => .root rfl (.of_eq (hp_single _)) (.single rfl)
  | ⟨.node _ (.node ..) .nil, _, _⟩ => .root rfl (.of_eq ((hp_single _).trans (List.append_nil _).symm)) (.single rfl)
  | ⟨.node v (.node p pl pr) (.node q ql qr), size, _⟩ => by
    dsimp only [heapRemove]
    split
    next u l' r' w heq =>
      obtain rfl := treeTakeLast_root heq
      refine .root rfl (List.perm_iff_count.2 fun a => ?_) (.single (siftDown_notNil _))
      have := treeTakeLast_count a _ _ w (congrArg Prod.snd heq)
      rw [heq] at this
      simp only [optList, hp_single, siftDown_count, Tree.count_flat_node, List.count_append] at this ⊢
      omega
    · exact .root rfl (List.perm_iff_count.2 fun a => by simp only [optList, hp_single, graft_count, List.count_append])
        (.single rfl)

/-- below two children `heap_split_and_steal` does what `heap_remove` does -/
theorem heapSplit_spec : (h : Heap) →
    Splits h (heapSplit h).1 (optList (heapSplit h).2.1 ++ optList (heapSplit h).2.2) ∧
    ((heapSplit h).2.1 = none → (heapSplit h).2.2 = none)
  | ⟨.nil, _, _⟩ => ⟨heapRemove_spec _, nofun⟩
  | ⟨.node _ .nil .nil, _, _⟩ => ⟨heapRemove_spec _, fun _ => rfl⟩
  | ⟨.node _ .nil (.node ..), _, _⟩ => ⟨heapRemove_spec _, nofun⟩
  | ⟨.node _ (.node ..) .nil, _, _⟩ => ⟨heapRemove_spec _, nofun⟩
  | ⟨.node v (.node p pl pr) (.node q ql qr), size, _⟩ => by
    dsimp only [heapSplit]
    split <;> exact ⟨.root rfl (by simp only [optList, hp_append, hp_single]; exact List.perm_append_comm)
      ((NE.single rfl).append (.single rfl)), nofun⟩

theorem ltqHeaps_count (a : Task) (ring : List Task) (h : Heap) :
    (hp (ltqHeaps ring h)).count a = ring.count a + h.top.flat.count a := by
  fun_induction ltqHeaps ring h
  · simp [hp]
  · simp [hp, heapInsert_count]
  next ih =>
    rw [ih, heapInsert_count]
    simp only [List.count_cons, List.count_nil]; omega
  next ih =>
    rw [hp_cons, List.count_append, ih, heapInsert_count]
    simp only [List.count_cons, List.count_nil, Tree.count_flat_nil]; omega

theorem ltqHeaps_NE (ring : List Task) (h : Heap) (hr : ring ≠ []) : NE (ltqHeaps ring h) := by
  fun_induction ltqHeaps ring h
  · exact absurd rfl hr
  · exact List.forall_mem_singleton.2 (heapInsert_notNil _ _)
  next ih => exact ih nofun
  next ih => exact List.forall_mem_cons.2 ⟨heapInsert_notNil _ _, ih nofun⟩

theorem ltqPush_grows (s : LtqSt) (b : Nat) (ring : List Heap) (d : Int) : Grows s ring (ltqPush s b ring d) :=
  hbbPushAll_grows ..

structure SelOK (s : LtqSt) (r : LtqSt × Option (Task × Int)) : Prop where
  cfg : r.1.cfg = s.cfg
  len : r.1.bufs.length = s.bufs.length
  perm : (hp (hbbPending s)).Perm ((r.2.map (·.1)).toList ++ hp (hbbPending r.1))
  ne : NE (hbbPending s) → NE (hbbPending r.1)

theorem SelOK.refl (s : LtqSt) : SelOK s (s, none) := ⟨rfl, rfl, .refl _, id⟩

theorem SelOK.trans {s s' : LtqSt} {r : LtqSt × Option (Task × Int)} (h : SelOK s (s', none)) (h' : SelOK s' r) :
    SelOK s r :=
  ⟨h'.cfg.trans h.cfg, h'.len.trans h.len, h.perm.trans h'.perm, fun hn => h'.ne (h.ne hn)⟩

/-- `h` is taken out of the containers (`s₁` is what is left), split, and the pieces are put back (`s₂`) -/
theorem SelOK.of_split {s s₁ s₂ : LtqSt} {h : Heap} {t : Option Task} {pieces : List Heap} (d : Int)
    (hpop : Grows s₁ [h] s) (hsplit : Splits h t pieces) (hpush : Grows s₁ pieces s₂) :
    SelOK s (s₂, t.map (·, d)) := by
  refine ⟨hpush.cfg.trans hpop.cfg.symm, hpush.len.trans hpop.len.symm, List.perm_iff_count.2 fun a => ?_, fun hn => ?_⟩
  · have h1 := (hp_perm hpop.perm).count_eq a
    have h2 := (hp_perm hpush.perm).count_eq a
    have h3 := hsplit.1.count_eq a
    cases t <;> simp only [hp_cons, hp_append, hp_nil, List.count_append, List.count_nil, Option.map, Option.toList] at h1 h2 h3 ⊢ <;> omega
  · exact ((hsplit.2 (hn h (hpop.perm.mem_iff.2 (List.mem_cons_self ..)))).2.append
      fun x hx => hn x (hpop.perm.mem_iff.2 (List.mem_cons_of_mem _ hx))).of_perm hpush.perm

theorem ltqPutBack_spec (s : LtqSt) (b own : Nat) (o1 o2 : Option Heap) (h12 : o1 = none → o2 = none) :
    Grows s (optList o1 ++ optList o2) (ltqPutBack s b own o1 o2) := by
  cases o1 with
  | none => rw [h12 rfl]; exact .refl s
  | some h1 =>
    cases o2 with
    | none => exact ltqPush_grows s own [h1] 0
    | some h2 => exact (ltqPush_grows s b [h2] 0).trans (ltqPush_grows _ own [h1] 0)

theorem ltqSteal_ok (own : Nat) : ∀ (bs : List Nat) (s : LtqSt) (k : Nat), SelOK s (ltqSteal own s bs k)
  | [], s, _ => .refl s
  | b :: bs, s, k => by
    unfold ltqSteal
    split
    · exact ltqSteal_ok own bs s (k + 1)
    next h hpop =>
      have hs := heapSplit_spec h
      have hok := SelOK.of_split k (hbbPopBest_some hpop) hs.1 (ltqPutBack_spec _ b own _ _ hs.2)
      split
      next t ht => rw [ht] at hok; exact hok
      next ht => rw [ht] at hok; exact hok.trans (ltqSteal_ok own bs _ (k + 1))

theorem ltqSelect_ok (s : LtqSt) (es : Nat) : SelOK s (ltqSelect s es) := by
  unfold ltqSelect
  split
  next h hpop =>
    split
    next t ht =>
      have hok := SelOK.of_split 1 (hbbPopBest_some hpop) (heapRemove_spec h)
        (ltqPush_grows _ (taskQueue s.cfg es) _ 0)
      rw [ht] at hok; exact hok
    · exact .refl s
  · have hst := ltqSteal_ok (taskQueue s.cfg es) (hqOf s.cfg es).tail s 1
    split
    next s' r heq => exact heq ▸ hst
    next s' heq =>
      rw [heq] at hst
      split
      · exact hst
      next h hs hq =>
        -- the system queue: pop_front, split, both pieces to the own queue
        exact hst.trans (SelOK.of_split _ (.sysq_pop hq) (heapSplit_spec h).1 (ltqPush_grows _ (taskQueue s'.cfg es) _ 0))

theorem ltqSteal_empty (own : Nat) (s : LtqSt) (hemp : ∀ b, slotsOf (s.bufs.getD b []) = []) :
    ∀ (bs : List Nat) (k : Nat), ltqSteal own s bs k = (s, none)
  | [], _ => rfl
  | b :: bs, k => by
    rw [ltqSteal, (hbbPopBest_none _ s b).2 (hemp b)]
    exact ltqSteal_empty own s hemp bs (k + 1)

/-- `HbbInv` with a stronger second clause (`cfgOwned`): every buffer is the OWN task queue of some stream, not only
    one of its `hierarch_queues`.  `ltq_live` then takes the owner of a non-empty buffer, whose `select` succeeds in
    its first branch, and never has to follow the steal loop, which moves heaps between buffers as it scans.
    The third clause (no container holds an empty heap) makes the heap that is popped yield a task. -/
def LtqInv (s : LtqSt) : Prop :=
  0 < s.cfg.hq.length ∧ (∀ b, b < s.bufs.length → ∃ es, es < s.cfg.hq.length ∧ taskQueue s.cfg es = b) ∧
  NE (hbbPending s)

theorem ltqSchedule_spec (s : LtqSt) (a : SArg) :
    (ltqSchedule s a).cfg = s.cfg ∧ (ltqSchedule s a).bufs.length = s.bufs.length ∧
    (hp (hbbPending (ltqSchedule s a))).Perm (a.ring ++ hp (hbbPending s)) ∧
    (a.ring ≠ [] → NE (hbbPending s) → NE (hbbPending (ltqSchedule s a))) := by
  have p := ltqPush_grows s (taskQueue s.cfg a.es) (ltqHeaps a.ring ⟨.nil, 0, 0⟩) a.d
  refine ⟨p.cfg, p.len, (hp_perm p.perm).trans ?_, fun hr hn => ((ltqHeaps_NE _ _ hr).append hn).of_perm p.perm⟩
  rw [hp_append]
  exact (List.perm_iff_count.2 fun x => by rw [ltqHeaps_count]; rfl).append_right _

theorem ltq_live (s : LtqSt) (hi : LtqInv s) (hne : ltqPending s ≠ []) :
    ∃ es, es < s.cfg.hq.length ∧ (ltqSelect s es).2 ≠ none := by
  by_cases hbuf : s.bufs.flatMap slotsOf = []
  · -- everything sits in the system queue
    have hemp : ∀ b, slotsOf (s.bufs.getD b []) = [] := fun b => by
      rw [List.getD_eq_getElem?_getD]
      cases hb : s.bufs[b]? with
      | none => rfl
      | some x => exact List.flatMap_eq_nil_iff.1 hbuf x (List.mem_of_getElem? hb)
    refine ⟨0, hi.1, ?_⟩
    rw [ltqSelect, (hbbPopBest_none _ s _).2 (hemp _), ltqSteal_empty _ s hemp]
    simp only
    cases hq : s.sysq with
    | nil => exact absurd (by rw [ltqPending, hbbPending_eq, hbuf, hq]; rfl) hne
    | cons h hs =>
      have := ((heapSplit_spec h).1.2 (hi.2.2 h (by rw [hbbPending_eq, hq]; simp))).1
      simpa using this
  · obtain ⟨b, hb, hc⟩ := exists_getD_ne_nil [] hbuf
    obtain ⟨es, hes, rfl⟩ := hi.2.1 b hb
    refine ⟨es, hes, ?_⟩
    rw [ltqSelect]
    split
    next h hpop =>
      have hh := hi.2.2 h ((hbbPopBest_some hpop).perm.mem_iff.2 (List.mem_cons_self ..))
      have := ((heapRemove_spec h).2 hh).1
      split
      · nofun
      next ht => exact absurd ht this
    next hpop => exact absurd ((hbbPopBest_none _ s _).1 hpop) hc

def ltqCorrect : ltqModule.Correct where
  Inv := LtqInv
  n_schedule s a := congrArg (fun c => c.hq.length) (ltqSchedule_spec s a).1
  n_select s es := congrArg (fun c => c.hq.length) (ltqSelect_ok s es).cfg
  inv_schedule s a hi _ hr := by
    have p := ltqSchedule_spec s a
    show LtqInv (ltqSchedule s a)
    unfold LtqInv
    rw [p.1, p.2.1]
    exact ⟨hi.1, hi.2.1, p.2.2.2 hr hi.2.2⟩
  inv_select s es hi _ := by
    have p := ltqSelect_ok s es
    show LtqInv (ltqSelect s es).1
    unfold LtqInv
    rw [p.cfg, p.len]
    exact ⟨hi.1, hi.2.1, p.ne hi.2.2⟩
  sched_perm s a _ _ _ := by
    have := ids_perm (ltqSchedule_spec s a).2.2.1
    rw [ids_append] at this
    exact this
  sel_some s es t d _ _ hs := by
    show (ids (hp (hbbPending s))).Perm (t.id :: ids (hp (hbbPending (ltqSelect s es).1)))
    exact ids_perm (perm_cons_of_some (ltqSelect_ok s es).perm hs)
  sel_none s es _ _ hs := by
    show (ids (hp (hbbPending (ltqSelect s es).1))).Perm (ids (hp (hbbPending s)))
    exact ids_perm (perm_of_none (ltqSelect_ok s es).perm hs).symm
  live s hi hne := ltq_live s hi hne

end ParsecVerif.Sched
