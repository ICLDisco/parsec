import ParsecVerif.Model.Sched.Module
/-!
  Conservation and drain, proved once for any scheduler module that refines a bag:
  `Module.Correct M` packages the per-module facts.
  Task identity is `Task.id` (rnd rewrites priorities).
  Re-arrangements of `++` under `List.Perm` are settled by counting (`List.perm_iff_count`, `omega`).
-/
namespace ParsecVerif.Sched

section
variable {α β : Type}

theorem getD_of_le {l : List β} {i : Nat} {d : β} (h : l.length ≤ i) : l.getD i d = d := by
  rw [List.getD_eq_getElem?_getD, List.getElem?_eq_none h, Option.getD_none]

theorem lt_of_getD_ne {l : List β} {i : Nat} {d : β} (h : l.getD i d ≠ d) : i < l.length :=
  Nat.lt_of_not_le fun hle => h (getD_of_le hle)

/-- Exchange in one of a list of containers (LIFOs, buffers, slots, program counters): `out` is what leaves
    container `i`, `inn` what enters. -/
theorem flatMap_set_perm (f : β → List α) (d : β) {x : β} {out inn : List α} :
    ∀ {l : List β} {i : Nat}, i < l.length → (f x ++ out).Perm (inn ++ f (l.getD i d)) →
      ((l.set i x).flatMap f ++ out).Perm (inn ++ l.flatMap f)
  | y :: ys, 0, _, h => by
    classical
    simp only [List.perm_iff_count, List.set_cons_zero, List.flatMap_cons, List.getD_cons_zero, List.count_append] at h ⊢
    intro a; have := h a; omega
  | y :: ys, i + 1, hi, h => by
    classical
    have ih := flatMap_set_perm f d (l := ys) (i := i) (by simpa using hi) h
    simp only [List.perm_iff_count, List.set_cons_succ, List.flatMap_cons, List.count_append] at ih ⊢
    intro a; have := ih a; omega

theorem exists_getD_ne_nil {f : β → List α} (d : β) {l : List β} (h : l.flatMap f ≠ []) :
    ∃ i, i < l.length ∧ f (l.getD i d) ≠ [] := by
  simp only [ne_eq, List.flatMap_eq_nil_iff, Classical.not_forall] at h
  obtain ⟨x, hx, hne⟩ := h
  obtain ⟨i, hi, rfl⟩ := List.getElem_of_mem hx
  exact ⟨i, hi, by simpa [List.getD_eq_getElem?_getD, hi] using hne⟩

theorem perm_cons_of_some {a b : List α} {o : Option (α × Int)} {x : α} {d : Int}
    (h : a.Perm ((o.map (·.1)).toList ++ b)) (ho : o = some (x, d)) : a.Perm (x :: b) := by
  subst ho; exact h

theorem perm_of_none {a b : List α} {o : Option (α × Int)} (h : a.Perm ((o.map (·.1)).toList ++ b)) (ho : o = none) :
    a.Perm b := by
  subst ho; exact h

def slotsOf (sl : List (Option α)) : List α := sl.filterMap id

theorem slotsOf_eq : ∀ sl : List (Option α), slotsOf sl = sl.flatMap Option.toList
  | [] => rfl
  | none :: sl => slotsOf_eq sl
  | some x :: sl => congrArg (x :: ·) (slotsOf_eq sl)

theorem slots_set {sl : List (Option α)} {i : Nat} {v : Option α} {out inn : List α} (hi : i < sl.length)
    (h : (v.toList ++ out).Perm (inn ++ (sl.getD i none).toList)) :
    (slotsOf (sl.set i v) ++ out).Perm (inn ++ slotsOf sl) := by
  simpa only [slotsOf_eq] using flatMap_set_perm Option.toList none hi h

theorem slots_take (sl : List (Option α)) (i : Nat) (x : α) (h : sl.getD i none = some x) :
    (slotsOf sl).Perm (x :: slotsOf (sl.set i none)) :=
  (slots_set (out := [x]) (inn := []) (lt_of_getD_ne (d := none) (by rw [h]; nofun)) (h ▸ .refl _)).symm.trans List.perm_append_comm

end

/-- The side conditions `a.es < nstreams`, `a.ring ≠ []` and `es < nstreams` are `MOp.valid`: `runFrom` skips the
    calls that do not meet them.  The `n_*` fields say that no call changes the stream count, so that validity
    can be judged with the stream count of the initial state, as `scheduledOf` does. -/
structure Module.Correct (M : Module) where
  Inv : M.St → Prop
  n_schedule : ∀ s a, M.nstreams (M.schedule s a) = M.nstreams s
  n_select : ∀ s es, M.nstreams (M.select s es).1 = M.nstreams s
  inv_schedule : ∀ s a, Inv s → a.es < M.nstreams s → a.ring ≠ [] → Inv (M.schedule s a)
  inv_select : ∀ s es, Inv s → es < M.nstreams s → Inv (M.select s es).1
  sched_perm : ∀ s a, Inv s → a.es < M.nstreams s → a.ring ≠ [] →
    (ids (M.pending (M.schedule s a))).Perm (ids a.ring ++ ids (M.pending s))
  sel_some : ∀ s es t d, Inv s → es < M.nstreams s → (M.select s es).2 = some (t, d) →
    (ids (M.pending s)).Perm (t.id :: ids (M.pending (M.select s es).1))
  sel_none : ∀ s es, Inv s → es < M.nstreams s → (M.select s es).2 = none →
    (ids (M.pending (M.select s es).1)).Perm (ids (M.pending s))
  live : ∀ s, Inv s → M.pending s ≠ [] → ∃ es, es < M.nstreams s ∧ (M.select s es).2 ≠ none

theorem ids_append (a b : List Task) : ids (a ++ b) = ids a ++ ids b := List.map_append
theorem ids_nil : ids [] = [] := rfl
theorem ids_cons (t : Task) (l : List Task) : ids (t :: l) = t.id :: ids l := rfl
theorem ids_perm {a b : List Task} (h : a.Perm b) : (ids a).Perm (ids b) := h.map _

theorem valid_sched {n : Nat} {a : SArg} : (MOp.sched a).valid n = true ↔ a.es < n ∧ a.ring ≠ [] := by
  simp [MOp.valid]

theorem valid_sel {n es : Nat} : (MOp.sel es).valid n = true ↔ es < n := by simp [MOp.valid]

def MOp.ring : MOp → List Task
  | .sched a => a.ring
  | .sel _ => []

def Module.after (M : Module) (s : M.St) : MOp → M.St
  | .sched a => M.schedule s a
  | .sel es => (M.select s es).1

def Module.got (M : Module) (s : M.St) : MOp → List Task
  | .sched _ => []
  | .sel es => ((M.select s es).2.map (·.1)).toList

variable {M : Module} {s : M.St} {ret : List Task} {op : MOp} {ops : List MOp}

theorem Module.runFrom_cons : M.runFrom s ret (op :: ops) =
    if op.valid (M.nstreams s) then M.runFrom (M.after s op) (M.got s op ++ ret) ops else M.runFrom s ret ops := by
  cases op with
  | sched a => rfl
  | sel es => rw [Module.runFrom, Module.got, Module.after]; cases (M.select s es).2 <;> rfl

theorem scheduledOf_cons {n : Nat} :
    scheduledOf n (op :: ops) = (if op.valid n then op.ring else []) ++ scheduledOf n ops := by
  cases op with
  | sched a => rw [scheduledOf]; split <;> rfl
  | sel es => rw [scheduledOf, MOp.ring, ite_self]; rfl

theorem Module.Correct.after_n (C : M.Correct) : M.nstreams (M.after s op) = M.nstreams s := by
  cases op with
  | sched a => exact C.n_schedule s a
  | sel es => exact C.n_select s es

/-- the two invariant fields and the three bag fields of the certificate in one statement -/
theorem Module.Correct.step (C : M.Correct) (hi : C.Inv s) (hv : op.valid (M.nstreams s) = true) :
    C.Inv (M.after s op) ∧
    (ids (M.pending (M.after s op)) ++ ids (M.got s op)).Perm (ids op.ring ++ ids (M.pending s)) := by
  cases op with
  | sched a =>
    obtain ⟨hes, hr⟩ := valid_sched.1 hv
    exact ⟨C.inv_schedule s a hi hes hr, (List.append_nil _).symm ▸ C.sched_perm s a hi hes hr⟩
  | sel es =>
    have hes := valid_sel.1 hv
    refine ⟨C.inv_select s es hi hes, ?_⟩
    rw [Module.got]
    cases hsel : (M.select s es).2 with
    | none => exact (List.append_nil _).symm ▸ C.sel_none s es hi hes hsel
    | some p => exact List.perm_append_comm.trans (C.sel_some s es p.1 p.2 hi hes hsel).symm

theorem Module.Correct.runFrom_n {M : Module} (C : M.Correct) : ∀ (ops : List MOp) (s : M.St) (ret : List Task),
    M.nstreams (M.runFrom s ret ops).1 = M.nstreams s
  | [], _, _ => rfl
  | op :: ops, s, ret => by
    rw [Module.runFrom_cons]
    split
    · rw [runFrom_n C ops, C.after_n]
    · exact runFrom_n C ops s ret

theorem Module.Correct.conservation_from (C : M.Correct) : ∀ (ops : List MOp) (s : M.St) (ret : List Task), C.Inv s →
    C.Inv (M.runFrom s ret ops).1 ∧
    (ids (M.pending (M.runFrom s ret ops).1) ++ ids (M.runFrom s ret ops).2).Perm
      (ids (scheduledOf (M.nstreams s) ops) ++ (ids (M.pending s) ++ ids ret))
  | [], s, ret, hi => ⟨hi, .refl _⟩
  | op :: ops, s, ret, hi => by
    rw [Module.runFrom_cons, scheduledOf_cons]
    split
    next hv =>
      have ih := conservation_from C ops _ (M.got s op ++ ret) (C.step hi hv).1
      rw [C.after_n] at ih
      refine ⟨ih.1, ih.2.trans (List.perm_iff_count.2 fun n => ?_)⟩
      have := (C.step hi hv).2.count_eq n
      simp only [ids_append, List.count_append] at this ⊢
      omega
    · exact conservation_from C ops s ret hi

theorem Module.Correct.conservation (C : M.Correct) (ops : List MOp) (s : M.St) (hi : C.Inv s) (h0 : M.pending s = []) :
    (ids (M.pending (M.runFrom s [] ops).1) ++ ids (M.runFrom s [] ops).2).Perm (ids (scheduledOf (M.nstreams s) ops)) := by
  simpa [h0, ids] using (C.conservation_from ops s [] hi).2

theorem Module.Correct.drain_from (C : M.Correct) : ∀ (k : Nat) (s : M.St) (ret : List Task), C.Inv s →
    (M.pending s).length = k →
    ∃ ess : List Nat, ess.length = k ∧ (∀ es ∈ ess, es < M.nstreams s) ∧
      M.pending (M.runFrom s ret (ess.map MOp.sel)).1 = [] ∧
      (M.runFrom s ret (ess.map MOp.sel)).2.length = k + ret.length
  | 0, s, ret, _, hk => ⟨[], rfl, nofun, List.eq_nil_of_length_eq_zero hk, (Nat.zero_add _).symm⟩
  | k + 1, s, ret, hi, hk => by
    obtain ⟨es, hes, hsome⟩ := C.live s hi (List.ne_nil_of_length_eq_add_one hk)
    obtain ⟨⟨t, d⟩, hsel⟩ := Option.ne_none_iff_exists'.1 hsome
    have hlen : (M.pending (M.select s es).1).length = k := by
      have := (C.sel_some s es t d hi hes hsel).length_eq
      simp only [ids, List.length_map, List.length_cons] at this
      omega
    obtain ⟨ess, h1, h2, h3, h4⟩ := drain_from C k _ (t :: ret) (C.inv_select s es hi hes) hlen
    refine ⟨es :: ess, by rw [List.length_cons, h1], ?_, ?_⟩
    · intro e he
      rcases List.mem_cons.1 he with rfl | he
      · exact hes
      · exact C.n_select s es ▸ h2 e he
    · rw [List.map_cons, Module.runFrom_cons, if_pos (valid_sel.2 hes), Module.got, hsel]
      exact ⟨h3, h4.trans (by rw [List.length_cons]; omega)⟩

theorem Module.Correct.drain (C : M.Correct) (k : Nat) (s : M.St) (hi : C.Inv s) (hk : (M.pending s).length = k) :
    ∃ ess : List Nat, ess.length = k ∧ (∀ es ∈ ess, es < M.nstreams s) ∧
      M.pending (M.runFrom s [] (ess.map MOp.sel)).1 = [] ∧
      (M.runFrom s [] (ess.map MOp.sel)).2.length = k :=
  C.drain_from k s [] hi hk

end ParsecVerif.Sched
