import ParsecVerif.Model.Sched.Simple
import ParsecVerif.Proofs.Sched.Bag
import ParsecVerif.Proofs.Sched.Prio
/-! `Module.Correct` for the modules whose streams share one object: ap, ip, spq, gd, rnd. -/
namespace ParsecVerif.Sched

/-- `sel_none` asks more than `Module.Correct.sel_none` (nothing is pending, before and after): that is what
    gives `live` in `sharedCorrect`. -/
structure SharedCorrect {σ : Type} (sched : σ → SArg → σ) (sel : σ → σ × Option (Task × Int))
    (pend : σ → List Task) where
  sched_perm : ∀ s a, (ids (pend (sched s a))).Perm (ids a.ring ++ ids (pend s))
  sel_some : ∀ s t d, (sel s).2 = some (t, d) → (ids (pend s)).Perm (t.id :: ids (pend (sel s).1))
  sel_none : ∀ s, (sel s).2 = none → pend s = [] ∧ pend (sel s).1 = []

def sharedCorrect {σ : Type} {sched : σ → SArg → σ} {sel : σ → σ × Option (Task × Int)}
    {pend : σ → List Task} (h : SharedCorrect sched sel pend) : (sharedModule sched sel pend).Correct where
  Inv s := 0 < s.n
  n_schedule _ _ := rfl
  n_select _ _ := rfl
  inv_schedule _ _ hi _ _ := hi
  inv_select _ _ hi _ := hi
  sched_perm s a _ _ _ := h.sched_perm s.st a
  sel_some s _ t d _ _ hs := h.sel_some s.st t d hs
  sel_none s _ _ _ hs := by
    have := h.sel_none s.st hs
    show (ids (pend (sel s.st).1)).Perm (ids (pend s.st))
    rw [this.1, this.2]
  live s hi hne := by
    refine ⟨0, hi, ?_⟩
    intro hn
    exact hne (h.sel_none s.st hn).1

theorem ids_stamp : ∀ (ring : List Task) (n : Nat), ids (stamp n ring) = ids ring := map_stamp fun _ _ => rfl

theorem ids_of_stamp {l l' ring : List Task} {n : Nat} (h : l'.Perm (stamp n ring ++ l)) :
    (ids l').Perm (ids ring ++ ids l) := by
  simpa only [ids_append, ids_stamp] using ids_perm h

def apCorrect : apModule.Correct := sharedCorrect
  { sched_perm := fun s a => ids_of_stamp (chainSorted_perm ..)
    sel_some := fun s t d hs => by rw [(apSelect_some hs).2]; exact .refl _
    sel_none := fun s hs => by
      have := apSelect_eq_none.1 hs
      unfold apSelect; simp [this] }

def ipCorrect : ipModule.Correct := sharedCorrect
  { sched_perm := fun s a => ids_of_stamp (ipSchedule_perm s a.ring a.d)
    sel_some := fun s t d hs => by
      rw [(ipSelect_some hs).2, ids_append]; exact List.perm_append_comm
    sel_none := fun s hs => by
      have := ipSelect_eq_none.1 hs
      unfold ipSelect; simp [this] }

theorem pendD_fst (pls : List PList) : (pendD pls).map Prod.fst = pls.flatMap (·.2) := by
  induction pls with
  | nil => rfl
  | cons p ps ih => simp [pendD_cons, ih, Function.comp_def]

def spqCorrect : spqModule.Correct := sharedCorrect
  { sched_perm := fun s a => by
      show (ids ((spqInsert a.d (stamp s.next a.ring) s.pls).flatMap (·.2))).Perm _
      have h := ids_perm ((pendD_spqInsert a.d (stamp s.next a.ring) s.pls).map Prod.fst)
      simpa [pendD_fst, ids_append, ids_stamp, Function.comp_def] using h
    sel_some := fun s t d hs => by
      show (ids (s.pls.flatMap (·.2))).Perm (t.id :: ids ((spqPopRest s.pls).flatMap (·.2)))
      rw [← pendD_fst, pendD_spqPop hs, ← pendD_fst]; exact .refl _
    sel_none := fun s hs => by
      have h : pendD s.pls = [] := List.head?_eq_none_iff.1 (spqPopRes_eq s.pls ▸ hs)
      show s.pls.flatMap (·.2) = [] ∧ (spqPopRest s.pls).flatMap (·.2) = []
      rw [← pendD_fst, ← pendD_fst, pendD_spqPopRest, h]; exact ⟨rfl, rfl⟩ }

theorem gdSelect_some {s : List Task} {t : Task} {d : Int} (h : (gdSelect s).2 = some (t, d)) :
    s = t :: (gdSelect s).1 := by
  cases s with
  | nil => cases h
  | cons x xs =>
    obtain ⟨rfl, _⟩ : x = t ∧ 0 = d := by simpa [gdSelect] using h
    rfl

theorem gdSelect_none {s : List Task} (h : (gdSelect s).2 = none) : s = [] ∧ (gdSelect s).1 = [] := by
  cases s with
  | nil => exact ⟨rfl, rfl⟩
  | cons x xs => cases h

def gdCorrect : gdModule.Correct := sharedCorrect
  { sched_perm := fun s a => by
      show (ids (gdSchedule s a)).Perm _
      unfold gdSchedule
      split
      · rw [ids_append]; exact .refl _
      · rw [ids_append]; exact List.perm_append_comm
    sel_some := fun s t d hs => ids_perm (List.Perm.of_eq (gdSelect_some hs))
    sel_none := fun s hs => gdSelect_none hs }

theorem ids_rndAssign (d : Int) : ∀ (ring : List Task) (r : List Int), ids (rndAssign d ring r) = ids ring
  | [], _ => rfl
  | t :: ts, [] => congrArg (t.id :: ·) (ids_rndAssign d ts [])
  | t :: ts, _ :: rs => congrArg (t.id :: ·) (ids_rndAssign d ts rs)

theorem insAsc_perm (t : Task) : ∀ l, (insAsc t l).Perm (t :: l)
  | [] => .refl _
  | x :: xs => by
    unfold insAsc
    split
    · exact .refl _
    · exact ((insAsc_perm t xs).cons x).trans (.swap t x xs)

theorem sortAsc_perm : ∀ l, (sortAsc l).Perm l
  | [] => .refl _
  | t :: ts => (insAsc_perm t _).trans ((sortAsc_perm ts).cons t)

def rndCorrect : rndModule.Correct := sharedCorrect
  { sched_perm := fun s a => by
      have h1 := ids_perm (chainSorted_perm s (sortAsc (rndAssign a.d a.ring a.rand)))
      have h2 := ids_perm (sortAsc_perm (rndAssign a.d a.ring a.rand))
      rw [ids_rndAssign] at h2
      rw [ids_append] at h1
      exact h1.trans (h2.append_right _)
    sel_some := fun s t d hs => ids_perm (List.Perm.of_eq (gdSelect_some hs))
    sel_none := fun s hs => gdSelect_none hs }

end ParsecVerif.Sched
