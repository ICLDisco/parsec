import ParsecVerif.Model.Sched.Hbb
import ParsecVerif.Proofs.Sched.Bag
/-! Conservation and liveness of the hierarchical bounded buffers; `Module.Correct` for the
    lfq / lhq machine (`hbbModule`) and pbq (`pbqModule`).  What an operation does to a buffer state is
    said with one relation, `Grows s r s'` (same topology, same buffers, exactly `r` more pending):
    pushes grow the state by the ring, pops and selects are grown back by what they took. -/
namespace ParsecVerif.Sched

variable {α : Type}

theorem hbbPending_eq (s : HbbSt α) : hbbPending s = s.bufs.flatMap slotsOf ++ s.sysq := by
  rw [hbbPending, List.filterMap_flatten, List.flatMap_def]; rfl

theorem hbbFill_perm : ∀ (sl : List (Option α)) (ring : List α),
    (slotsOf (hbbFill sl ring).1 ++ (hbbFill sl ring).2).Perm (ring ++ slotsOf sl)
  | [], ring => by simp [hbbFill, slotsOf]
  | o :: sl, [] => by simp [hbbFill]
  | none :: sl, x :: xs => (hbbFill_perm sl xs).cons x
  | some y :: sl, x :: xs => ((hbbFill_perm sl (x :: xs)).cons y).trans List.perm_middle.symm

theorem hbbFill_length : ∀ (sl : List (Option α)) (ring : List α), (hbbFill sl ring).1.length = sl.length
  | [], _ => by simp [hbbFill]
  | o :: sl, [] => by simp [hbbFill]
  | none :: sl, x :: xs => by simp [hbbFill, hbbFill_length sl xs]
  | some y :: sl, x :: xs => by simp [hbbFill, hbbFill_length sl (x :: xs)]

structure Grows (s : HbbSt α) (r : List α) (s' : HbbSt α) : Prop where
  cfg : s'.cfg = s.cfg
  len : s'.bufs.length = s.bufs.length
  perm : (hbbPending s').Perm (r ++ hbbPending s)

theorem Grows.refl (s : HbbSt α) : Grows s [] s := ⟨rfl, rfl, .refl _⟩

theorem Grows.trans {s s' s'' : HbbSt α} {r r' : List α} (h : Grows s r s') (h' : Grows s' r' s'') :
    Grows s (r' ++ r) s'' :=
  ⟨h'.cfg.trans h.cfg, h'.len.trans h.len, h'.perm.trans ((h.perm.append_left r').trans (.of_eq (List.append_assoc ..).symm))⟩

theorem Grows.sysq (s : HbbSt α) (r : List α) : Grows s r { s with sysq := s.sysq ++ r } := by
  refine ⟨rfl, rfl, ?_⟩
  rw [hbbPending_eq, hbbPending_eq, ← List.append_assoc]
  exact List.perm_append_comm

theorem Grows.sysq_pop {s : HbbSt α} {x : α} {xs : List α} (h : s.sysq = x :: xs) : Grows { s with sysq := xs } [x] s := by
  refine ⟨rfl, rfl, ?_⟩
  rw [hbbPending_eq, hbbPending_eq, h]
  exact List.perm_middle

/-- `b` may be no buffer at all: then nothing is written and `x` must hold nothing (`hout`) -/
theorem hbbPending_set (s : HbbSt α) (b : Nat) (x : List (Option α)) (r extra : List α)
    (hx : (slotsOf x ++ extra).Perm (r ++ slotsOf (s.bufs.getD b [])))
    (hout : s.bufs.length ≤ b → slotsOf x = []) :
    (extra ++ hbbPending { s with bufs := s.bufs.set b x }).Perm (r ++ hbbPending s) := by
  have : (extra ++ (s.bufs.set b x).flatMap slotsOf).Perm (r ++ s.bufs.flatMap slotsOf) := by
    by_cases hb : b < s.bufs.length
    · exact List.perm_append_comm.trans (flatMap_set_perm slotsOf [] hb hx)
    · have hle := Nat.le_of_not_lt hb
      rw [getD_of_le hle, hout hle] at hx
      rw [List.set_eq_of_length_le hle]
      exact .append_right _ (by simpa [slotsOf] using hx)
  simpa only [hbbPending_eq, List.append_assoc] using this.append_right s.sysq

theorem hbbPushAll_grows : ∀ (f : Nat) (s : HbbSt α) (b : Nat) (ring : List α) (d : Int),
    Grows s ring (hbbPushAll f s b ring d)
  | 0, s, _, ring, _ => .sysq s ring
  | f + 1, s, b, ring, d => by
    -- buffer `b` takes what fits; the rest of the ring is still to be placed
    have hset := hbbPending_set s b _ ring _ (hbbFill_perm (s.bufs.getD b []) ring)
      fun h => by rw [getD_of_le h]; cases ring <;> rfl
    unfold hbbPushAll
    split
    · split
      · exact hbbPushAll_grows f s _ ring _
      · exact .sysq s ring
    · split
      next hemp => exact ⟨rfl, List.length_set, by rwa [List.isEmpty_iff.1 hemp] at hset⟩
      · split
        · have ih := hbbPushAll_grows f { s with bufs := s.bufs.set b (hbbFill (s.bufs.getD b []) ring).1 }
          exact ⟨(ih ..).cfg, (ih ..).len.trans List.length_set, (ih ..).perm.trans hset⟩
        · exact ⟨rfl, List.length_set, (Grows.sysq _ _).perm.trans hset⟩

theorem hbbPushAll_perm (f : Nat) (s : HbbSt α) (b : Nat) (ring : List α) (d : Int) :
    (hbbPending (hbbPushAll f s b ring d)).Perm (ring ++ hbbPending s) :=
  (hbbPushAll_grows f s b ring d).perm

/-- Only that the slot found is occupied (and that none is found only among empty slots): conservation and
    liveness do not need that it holds a maximum, and that is not proved of this model. -/
theorem bestIdx_spec (pr : α → Int) : ∀ (sl : List (Option α)),
    match bestIdx pr sl with
    | none => slotsOf sl = []
    | some q => ∃ x, sl.getD q.1 none = some x
  | [] => rfl
  | none :: sl => by
    have ih := bestIdx_spec pr sl
    rw [bestIdx]
    generalize bestIdx pr sl = o at ih ⊢
    cases o <;> exact ih
  | some x :: sl => by
    have ih := bestIdx_spec pr sl
    rw [bestIdx]
    generalize bestIdx pr sl = o at ih ⊢
    rcases o with _ | ⟨j, p⟩
    · exact ⟨x, rfl⟩
    · by_cases hp : p > pr x
      · simp only [if_pos hp]; exact ih
      · simp only [if_neg hp]; exact ⟨x, rfl⟩

theorem hbbPopBest_spec (pr : α → Int) (s : HbbSt α) (b : Nat) :
    (hbbPopBest pr s b = (s, none) ∧ slotsOf (s.bufs.getD b []) = []) ∨
    ∃ i x, (s.bufs.getD b []).getD i none = some x ∧
      hbbPopBest pr s b = ({ s with bufs := s.bufs.set b ((s.bufs.getD b []).set i none) }, some x) := by
  have hs := bestIdx_spec pr (s.bufs.getD b [])
  unfold hbbPopBest
  generalize bestIdx pr (s.bufs.getD b []) = o at hs ⊢
  cases o with
  | none => exact .inl ⟨rfl, hs⟩
  | some q =>
    obtain ⟨x, hx⟩ := hs
    exact .inr ⟨q.1, x, hx, by simp only [hx]⟩

theorem hbbPopBest_some {pr : α → Int} {s : HbbSt α} {b : Nat} {x : α} (h : (hbbPopBest pr s b).2 = some x) :
    Grows (hbbPopBest pr s b).1 [x] s := by
  rcases hbbPopBest_spec pr s b with ⟨h', _⟩ | ⟨i, y, hy, h'⟩ <;> rw [h'] at h ⊢
  · cases h
  · cases h
    exact ⟨rfl, List.length_set.symm, (hbbPending_set s b _ [] [x]
      (List.perm_append_comm.trans (slots_take _ i x hy).symm) fun hle => by rw [getD_of_le hle]; rfl).symm⟩

theorem hbbPopBest_none (pr : α → Int) (s : HbbSt α) (b : Nat) :
    (hbbPopBest pr s b).2 = none ↔ slotsOf (s.bufs.getD b []) = [] := by
  rcases hbbPopBest_spec pr s b with ⟨h, he⟩ | ⟨i, x, hx, h⟩ <;> rw [h]
  · exact iff_of_true rfl he
  · exact iff_of_false nofun fun he => nomatch (he ▸ slots_take _ i x hx).nil_eq

theorem hbbScan_some (pr : α → Int) (s : HbbSt α) : ∀ (bs : List Nat) (k : Nat) (s' : HbbSt α) (x : α) (k' : Nat),
    hbbScan pr s bs k = some (s', x, k') → Grows s' [x] s
  | b :: bs, k, s', x, k', h => by
    unfold hbbScan at h
    split at h
    next y hp => cases h; exact hbbPopBest_some hp
    · exact hbbScan_some pr s bs (k + 1) s' x k' h

theorem hbbScan_none (pr : α → Int) (s : HbbSt α) : ∀ (bs : List Nat) (k : Nat), hbbScan pr s bs k = none →
    ∀ b ∈ bs, slotsOf (s.bufs.getD b []) = []
  | [], _, _ => nofun
  | c :: bs, k, h => by
    unfold hbbScan at h
    split at h
    · cases h
    next hp => exact List.forall_mem_cons.2 ⟨(hbbPopBest_none pr s c).1 hp, hbbScan_none pr s bs (k + 1) h⟩

def HbbInv (s : HbbSt α) : Prop :=
  0 < s.cfg.hq.length ∧ ∀ b, b < s.bufs.length → ∃ es, es < s.cfg.hq.length ∧ b ∈ hqOf s.cfg es

theorem HbbInv.of_eq {s s' : HbbSt α} (hi : HbbInv s) (hc : s'.cfg = s.cfg) (hl : s'.bufs.length = s.bufs.length) :
    HbbInv s' := by
  unfold HbbInv at *
  rw [hc, hl]; exact hi

theorem hbbSelect_spec (s : HbbSt Task) (es : Nat) :
    Grows (hbbSelect s es).1 ((hbbSelect s es).2.map (·.1)).toList s ∧
    ((hbbSelect s es).2 = none → s.sysq = [] ∧ ∀ b ∈ hqOf s.cfg es, slotsOf (s.bufs.getD b []) = []) := by
  unfold hbbSelect
  split
  next t h1 => exact ⟨hbbPopBest_some h1, nofun⟩
  · split
    next s' t k h2 => exact ⟨hbbScan_some (·.prio) s _ _ s' t k h2, nofun⟩
    next h2 =>
      split
      next t ts h3 => exact ⟨.sysq_pop h3, nofun⟩
      next h3 => exact ⟨.refl s, fun _ => ⟨h3, hbbScan_none _ s _ _ h2⟩⟩

theorem hbb_live (s : HbbSt Task) (hi : HbbInv s) (hne : hbbPending s ≠ []) :
    ∃ es, es < s.cfg.hq.length ∧ (hbbSelect s es).2 ≠ none := by
  rw [hbbPending_eq] at hne
  by_cases hq : s.sysq = []
  · rw [hq, List.append_nil] at hne
    obtain ⟨b, hb, hc⟩ := exists_getD_ne_nil [] hne
    obtain ⟨es, hes, hmem⟩ := hi.2 b hb
    exact ⟨es, hes, fun hn => hc (((hbbSelect_spec s es).2 hn).2 b hmem)⟩
  · exact ⟨0, hi.1, fun hn => hq ((hbbSelect_spec s 0).2 hn).1⟩

def hbbCorrect : hbbModule.Correct where
  Inv := HbbInv
  n_schedule s a := congrArg (fun c => c.hq.length) (hbbPushAll_grows _ s _ a.ring a.d).cfg
  n_select s es := congrArg (fun c => c.hq.length) (hbbSelect_spec s es).1.cfg.symm
  inv_schedule s a hi _ _ := HbbInv.of_eq hi (hbbPushAll_grows _ s _ a.ring a.d).cfg (hbbPushAll_grows _ s _ a.ring a.d).len
  inv_select s es hi _ := HbbInv.of_eq hi (hbbSelect_spec s es).1.cfg.symm (hbbSelect_spec s es).1.len.symm
  sched_perm s a _ _ _ := by
    have := ids_perm (hbbPushAll_perm (s.cfg.sizes.length + 1) s (taskQueue s.cfg a.es) a.ring a.d)
    rw [ids_append] at this
    exact this
  sel_some s es t d _ _ hs := ids_perm (perm_cons_of_some (hbbSelect_spec s es).1.perm hs)
  sel_none s es _ _ hs := by
    show (ids (hbbPending (hbbSelect s es).1)).Perm (ids (hbbPending s))
    exact (ids_perm (perm_of_none (hbbSelect_spec s es).1.perm hs)).symm
  live s hi hne := hbb_live s hi hne

theorem pbqSpot_mem (x : Task) : ∀ (sl : List (Option Task)) (k : Nat) (best : Option (Nat × Task)) (i : Nat)
    (o : Option Task), pbqSpot x sl k best = some (i, o) →
    (∃ y, o = some y ∧ best = some (i, y)) ∨ ∃ j, j < sl.length ∧ i = k + j ∧ sl.getD j none = o
  | [], k, some (j, y), i, o, h => by cases h; exact .inl ⟨y, rfl, rfl⟩
  | none :: sl, k, best, i, o, h => by
    have : pbqSpot x (none :: sl) k best = some (k, none) := by cases best <;> rfl
    cases this ▸ h
    exact .inr ⟨0, Nat.zero_lt_succ _, rfl, rfl⟩
  | some c :: sl, k, best, i, o, h => by
    -- a filled slot replaces the candidate when it is lower than it (than `x`, while there is none)
    have he : pbqSpot x (some c :: sl) k best =
        pbqSpot x sl (k + 1) (if lower c (best.elim x (·.2)) then some (k, c) else best) := by
      rw [apply_ite (pbqSpot x sl (k + 1))]
      cases best <;> rfl
    rcases pbqSpot_mem x sl (k + 1) _ i o (he ▸ h) with ⟨y, rfl, hy⟩ | ⟨j, hj, rfl, hget⟩
    · split at hy
      · cases hy; exact .inr ⟨0, Nat.zero_lt_succ _, rfl, rfl⟩
      · exact .inl ⟨y, rfl, hy⟩
    · exact .inr ⟨j + 1, Nat.succ_lt_succ hj, by omega, hget⟩

theorem pbqLoop_perm : ∀ (ring : List Task) (sl : List (Option Task)) (ej : List Task),
    (slotsOf (pbqLoop ring sl ej).1 ++ (pbqLoop ring sl ej).2).Perm (ring ++ (slotsOf sl ++ ej))
  | [], sl, ej => .refl _
  | x :: xs, sl, ej => by
    -- writing `x` to the designated slot exchanges it for what the slot held
    have hset : ∀ i o, pbqSpot x sl 0 none = some (i, o) →
        (slotsOf (sl.set i (some x)) ++ o.toList).Perm ([x] ++ slotsOf sl) := fun i o h => by
      obtain ⟨j, hj, rfl, rfl⟩ := (pbqSpot_mem x sl 0 none i o h).resolve_left (by rintro ⟨y, _, h⟩; cases h)
      exact slots_set (v := some x) (by omega) (by rw [Nat.zero_add]; exact .refl _)
    rw [pbqLoop, List.perm_iff_count]
    intro a
    split
    next i hp =>
      have hs := (hset i _ hp).count_eq a
      have := (pbqLoop_perm xs (sl.set i (some x)) ej).count_eq a
      simp only [Option.toList, List.count_append, List.count_cons, List.count_nil] at hs this ⊢; omega
    next i y hp =>
      have hs := (hset i _ hp).count_eq a
      have := (pbqLoop_perm xs (sl.set i (some x)) (y :: ej)).count_eq a
      simp only [Option.toList, List.count_append, List.count_cons, List.count_nil] at hs this ⊢; omega
    · simp only [List.count_append, List.count_cons]; omega

theorem pbqSchedule_grows (s : HbbSt Task) (a : SArg) : Grows s a.ring (pbqSchedule s a) := by
  unfold pbqSchedule
  split
  · exact .sysq s a.ring
  · exact ⟨rfl, List.length_set, (Grows.sysq _ _).perm.trans <| hbbPending_set s _ _ a.ring _
      (by simpa only [List.append_nil] using pbqLoop_perm a.ring _ [])
      fun hle => by rw [getD_of_le hle]; cases a.ring <;> rfl⟩

def pbqCorrect : pbqModule.Correct where
  Inv := HbbInv
  n_schedule s a := congrArg (fun c => c.hq.length) (pbqSchedule_grows s a).cfg
  n_select s es := congrArg (fun c => c.hq.length) (hbbSelect_spec s es).1.cfg.symm
  inv_schedule s a hi _ _ := HbbInv.of_eq hi (pbqSchedule_grows s a).cfg (pbqSchedule_grows s a).len
  inv_select s es hi _ := HbbInv.of_eq hi (hbbSelect_spec s es).1.cfg.symm (hbbSelect_spec s es).1.len.symm
  sched_perm s a _ _ _ := by
    have := ids_perm (pbqSchedule_grows s a).perm
    rw [ids_append] at this
    exact this
  sel_some s es t d _ _ hs := ids_perm (perm_cons_of_some (hbbSelect_spec s es).1.perm hs)
  sel_none s es _ _ hs := by
    show (ids (hbbPending (hbbSelect s es).1)).Perm (ids (hbbPending s))
    exact (ids_perm (perm_of_none (hbbSelect_spec s es).1.perm hs)).symm
  live s hi hne := hbb_live s hi hne

end ParsecVerif.Sched
