import ParsecVerif.Model.Sched.Simple
import ParsecVerif.Proofs.Sched.Bag
/-! `Module.Correct` for ll and llp (per-stream LIFOs), incl. conservation of `lifo_merge_ring`. -/
namespace ParsecVerif.Sched

theorem llTarget_lt (n es : Nat) (d : Int) (hes : es < n) : llTarget n es d < n := by
  unfold llTarget
  have hn : (0 : Int) < n := by omega
  split
  · split
    · exact Nat.mod_lt _ (by omega)
    · have h1 := Int.emod_nonneg ((es : Int) + d) (by omega : (n : Int) ≠ 0)
      have h2 := Int.emod_lt_of_pos ((es : Int) + d) hn
      omega
  · exact hes

def LlInv (s : LlSt) : Prop := 0 < s.n ∧ s.lifos.length = s.n

theorem flatten_set_of_perm (l : List (List Task)) (i : Nat) (r x : List Task) (h : i < l.length)
    (hx : x.Perm (r ++ l.getD i [])) : ((l.set i x).flatten).Perm (r ++ l.flatten) := by
  simpa using flatMap_set_perm id [] (out := []) h (by simpa using hx)

theorem llSelect_spec (s : LlSt) (es : Nat) :
    llSelect s es = (s, none) ∨
    ∃ i t k, (s.lifos.getD i []).head? = some t ∧ llSelect s es = (⟨s.n, lifoPop s.lifos i⟩, some (t, k)) := by
  unfold llSelect
  split
  next t h => exact .inr ⟨es, t, 0, h, rfl⟩
  · split
    · exact .inl rfl
    next i k _ =>
      split
      next t h => exact .inr ⟨i, t, k, h, rfl⟩
      · exact .inl rfl

theorem llSelect_n (s : LlSt) (es : Nat) : (llSelect s es).1.n = s.n := by
  rcases llSelect_spec s es with h | ⟨i, t, k, _, h⟩ <;> rw [h]

theorem llSelect_perm (s : LlSt) (es : Nat) :
    s.lifos.flatten.Perm (((llSelect s es).2.map (·.1)).toList ++ (llSelect s es).1.lifos.flatten) := by
  rcases llSelect_spec s es with h | ⟨i, t, k, hh, h⟩ <;> rw [h]
  · exact .refl _
  · obtain ⟨ys, hys⟩ := List.head?_eq_some_iff.1 hh
    have := flatMap_set_perm id [] (x := ys) (out := [t]) (inn := []) (lt_of_getD_ne (d := []) (by rw [hys]; nofun))
      (by rw [hys]; exact List.perm_append_comm)
    rw [lifoPop, hys]
    simpa using (List.perm_append_comm.trans this).symm

theorem llSelect_live (s : LlSt) (hi : LlInv s) (hne : s.lifos.flatten ≠ []) :
    ∃ es, es < s.n ∧ (llSelect s es).2 ≠ none := by
  obtain ⟨i, hil, hc⟩ := exists_getD_ne_nil (f := id) [] (List.flatMap_id ▸ hne)
  refine ⟨i, hi.2 ▸ hil, ?_⟩
  unfold llSelect
  cases hcc : s.lifos.getD i [] with
  | nil => exact absurd hcc hc
  | cons y ys => simp

theorem llSelect_inv (s : LlSt) (es : Nat) (hi : LlInv s) : LlInv (llSelect s es).1 := by
  rcases llSelect_spec s es with h | ⟨i, t, k, _, h⟩ <;> rw [h]
  · exact hi
  · exact ⟨hi.1, List.length_set.trans hi.2⟩

theorem ll_sched_perm (s : LlSt) (a : SArg) (hi : LlInv s) (hes : a.es < s.n) :
    (ids (llSchedule s a).lifos.flatten).Perm (ids a.ring ++ ids s.lifos.flatten) :=
  ids_append .. ▸ ids_perm (flatten_set_of_perm s.lifos _ a.ring _ (hi.2.symm ▸ llTarget_lt s.n _ _ hes) (.refl _))

def llCorrect : llModule.Correct where
  Inv := LlInv
  n_schedule _ _ := rfl
  n_select s es := llSelect_n s es
  inv_schedule s a hi _ _ :=
    (⟨hi.1, by simp [llSchedule, lifoChain, hi.2]⟩ : LlInv (llSchedule s a))
  inv_select s es hi _ := llSelect_inv s es hi
  sched_perm s a hi hes _ := ll_sched_perm s a hi hes
  sel_some s es t d _ _ hs := ids_perm (perm_cons_of_some (llSelect_perm s es) hs)
  sel_none s es _ _ hs := by
    show (ids (llSelect s es).1.lifos.flatten).Perm (ids s.lifos.flatten)
    exact (ids_perm (perm_of_none (llSelect_perm s es) hs)).symm
  live s hi hne := llSelect_live s hi hne

/-- what the cursor holds: the chain `list` points to -/
def MZ.all (z : MZ) : List Task := z.front ++ z.mid ++ z.rest

/-- `mid` (elements linked between `prev` and `next`) is non-empty only while `next` still beats the
    ring's last element, and only if there is a `prev` -/
def MZ.ok (last : Task) (z : MZ) : Prop :=
  (z.mid ≠ [] → spliceOK z.rest last = false) ∧ (z.front = [] → z.mid = [])

/-- `ok` is kept because after a step `mid` is empty and there is a `prev` -/
theorem mergeAdvance_ok (dist : Int) (hd last : Task) : ∀ (rest front mid : List Task) (d : Nat),
    MZ.ok last ⟨front, mid, rest, d⟩ →
    (mergeAdvance dist hd front mid d rest).ok last ∧ (mergeAdvance dist hd front mid d rest).all = front ++ mid ++ rest
  | [], _, _, _, h => ⟨h, rfl⟩
  | nx :: rs, front, mid, d, h => by
    unfold mergeAdvance
    split
    · exact ⟨h, rfl⟩
    · have ih := mergeAdvance_ok dist hd last rs (front ++ mid ++ [nx]) [] (d + 1) ⟨nofun, fun _ => rfl⟩
      exact ⟨ih.1, ih.2.trans (by simp)⟩

theorem mergeLoop_perm (dist : Int) (last : Task) : ∀ (ring : List Task) (z : MZ), z.ok last →
    (mergeLoop dist last ring z).Perm (ring ++ z.all)
  | [], z, _ => .refl _
  | hd :: tl, z, hok => by
    obtain ⟨hok', hall⟩ := mergeAdvance_ok dist hd last z.rest z.front z.mid z.d hok
    unfold mergeLoop
    generalize mergeAdvance dist hd z.front z.mid z.d z.rest = z' at hok' hall ⊢
    rw [show z.all = z'.all from hall.symm, List.perm_iff_count]
    intro a
    split
    next hs =>
      -- splice: nothing is linked between `prev` and `next`
      have hmid : z'.mid = [] := Decidable.by_contra fun hm => by rw [hok'.1 hm] at hs; cases hs
      simp only [MZ.all, hmid, List.count_append, List.count_nil]; omega
    next hs =>
      split
      next hf =>
        have hfe := List.isEmpty_iff.1 hf
        have ih := (mergeLoop_perm dist last tl ⟨[], [], hd :: z'.rest, z'.d⟩ ⟨nofun, fun _ => rfl⟩).count_eq a
        simp only [MZ.all, hfe, hok'.2 hfe, List.count_append, List.count_cons, List.count_nil] at ih ⊢; omega
      next hf =>
        have ih := (mergeLoop_perm dist last tl ⟨z'.front, hd :: z'.mid, z'.rest, z'.d⟩
          ⟨fun _ => by simpa using hs, fun h => absurd (h ▸ rfl) hf⟩).count_eq a
        simp only [MZ.all, List.count_append, List.count_cons] at ih ⊢; omega

theorem llpChain_perm (lifo ring : List Task) (d : Int) : (llpChain lifo ring d).Perm (ring ++ lifo) := by
  unfold llpChain
  split
  next hl => rw [List.getLast?_eq_none_iff.1 hl]; exact .refl _
  next last _ =>
    split
    · exact .refl _
    · exact mergeLoop_perm d last ring ⟨[], [], lifo, 0⟩ ⟨nofun, fun _ => rfl⟩

theorem llp_sched_perm (s : LlSt) (a : SArg) (hi : LlInv s) (hes : a.es < s.n) :
    (ids (llpSchedule s a).lifos.flatten).Perm (ids a.ring ++ ids s.lifos.flatten) :=
  ids_append .. ▸ ids_perm (flatten_set_of_perm s.lifos a.es a.ring _ (hi.2.symm ▸ hes) (llpChain_perm _ a.ring a.d))

def llpCorrect : llpModule.Correct where
  Inv := LlInv
  n_schedule _ _ := rfl
  n_select s es := llSelect_n s es
  inv_schedule s a hi _ _ :=
    (⟨hi.1, by simp [llpSchedule, hi.2]⟩ : LlInv (llpSchedule s a))
  inv_select s es hi _ := llSelect_inv s es hi
  sched_perm s a hi hes _ := llp_sched_perm s a hi hes
  sel_some s es t d _ _ hs := ids_perm (perm_cons_of_some (llSelect_perm s es) hs)
  sel_none s es _ _ hs := by
    show (ids (llSelect s es).1.lifos.flatten).Perm (ids s.lifos.flatten)
    exact (ids_perm (perm_of_none (llSelect_perm s es) hs)).symm
  live s hi hne := llSelect_live s hi hne

end ParsecVerif.Sched
