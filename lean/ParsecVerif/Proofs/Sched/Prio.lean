import ParsecVerif.Model.Sched.Prio
/-! Sorted chaining (`chain_sorted`) and the ap / ip / spq machines, for C09 and C08.
    On a list sorted for `Before` the `pos` shortcut of `chain_sorted` finds the index a scan from the head finds
    (`skipLen_drop`, `chainStep_sorted`), so each step is a sorted insertion.  The invariant of a list is `PL`:
    sorted, and every stamp below the counter, so that a freshly stamped task arrives after its equals.
    For spq the pending tasks, flattened in key order (`pendD`), are sorted for `DBefore`, and `select`
    takes the head of that sequence. -/
namespace ParsecVerif.Sched

/-- `a` must leave before `b` under "highest priority first, earliest scheduled among equals" -/
def Before (a b : Task) : Prop := a.prio > b.prio ∨ (a.prio = b.prio ∧ a.seq < b.seq)

def Sorted (l : List Task) : Prop := l.Pairwise Before

theorem higher_iff (a b : Task) : higher a b = true ↔ a.prio > b.prio := by simp [higher]

theorem insertAt_perm (l : List Task) (k : Nat) (t : Task) : (insertAt l k t).Perm (t :: l) := by
  have h := List.perm_middle (a := t) (l₁ := l.take k) (l₂ := l.drop k)
  rwa [List.take_append_drop] at h

theorem mem_insertAt {t z : Task} {l : List Task} {k : Nat} : z ∈ insertAt l k t ↔ z = t ∨ z ∈ l :=
  (insertAt_perm l k t).mem_iff.trans List.mem_cons

theorem sorted_insertAt_skipLen {t : Task} : ∀ {l}, Sorted l → (∀ x ∈ l, x.seq < t.seq) →
    Sorted (insertAt l (skipLen t l) t)
  | [], _, _ => List.pairwise_singleton ..
  | x :: xs, hs, hq => by
    obtain ⟨hx, hs'⟩ := List.pairwise_cons.1 hs
    obtain ⟨hqx, hq'⟩ := List.forall_mem_cons.1 hq
    unfold skipLen
    split
    next h =>
      rw [higher_iff] at h
      show Sorted (t :: x :: xs)
      refine List.pairwise_cons.2 ⟨List.forall_mem_cons.2 ⟨.inl h, fun y hy => ?_⟩, hs⟩
      have := hx y hy; unfold Before at this ⊢; omega
    next h =>
      rw [higher_iff] at h
      show Sorted (x :: insertAt xs (skipLen t xs) t)
      refine List.pairwise_cons.2 ⟨fun y hy => ?_, sorted_insertAt_skipLen hs' hq'⟩
      rcases mem_insertAt.1 hy with rfl | hy
      · unfold Before; omega
      · exact hx y hy

theorem skipLen_drop {t x : Task} (h : ¬ t.prio > x.prio) : ∀ {l : List Task} {k : Nat}, Sorted l → l[k]? = some x →
    k + skipLen t (l.drop k) = skipLen t l
  | _ :: _, 0, _, _ => Nat.zero_add _
  | y :: ys, k + 1, hs, hx => by
    obtain ⟨hy, hs'⟩ := List.pairwise_cons.1 hs
    have := hy x (List.mem_of_getElem? hx)
    rw [skipLen, if_neg (mt (higher_iff t y).1 (by unfold Before at this; omega)), ← skipLen_drop h hs' hx]
    exact Nat.add_right_comm ..

/-- the scan restarts at `pos` only when the priority there is not below the new element's, and priorities do
    not increase along the list -/
theorem chainStep_sorted {c : Cur} {t : Task} (hs : Sorted c.l) :
    chainStep c t = ⟨insertAt c.l (skipLen t c.l) t, skipLen t c.l⟩ := by
  suffices chainIdx c t = skipLen t c.l by rw [chainStep, this]
  unfold chainIdx chainStart
  split
  next x hx =>
    split
    · exact Nat.zero_add _
    next h => exact skipLen_drop (mt (higher_iff t x).2 h) hs hx
  · exact Nat.zero_add _

theorem stamp_eq : ∀ (ring : List Task) (n : Nat), stamp n ring = (ring.zipIdx n).map fun p => { p.1 with seq := p.2 }
  | [], _ => rfl
  | _ :: ts, n => congrArg (_ :: ·) (stamp_eq ts (n + 1))

theorem length_stamp : ∀ (ring : List Task) (n : Nat), (stamp n ring).length = ring.length := fun ring n => by
  rw [stamp_eq, List.length_map, List.length_zipIdx]

theorem map_stamp {β : Type} {f : Task → β} (hf : ∀ t k, f { t with seq := k } = f t) (ring : List Task) (n : Nat) :
    (stamp n ring).map f = ring.map f := by
  rw [stamp_eq, List.map_map]
  exact (List.map_congr_left fun p _ => hf p.1 p.2).trans (List.map_map.symm.trans (congrArg _ (List.zipIdx_map_fst ..)))

theorem stamp_ids : ∀ (ring : List Task) (n : Nat), (stamp n ring).map (fun t => (t.id, t.prio)) = ring.map (fun t => (t.id, t.prio)) :=
  map_stamp fun _ _ => rfl

/-- an empty list makes no exception: the first step then yields the singleton with `pos` at its element -/
theorem chainSorted_eq (l ring : List Task) : chainSorted l ring = (ring.foldl chainStep ⟨l, l.length - 1⟩).l := by
  cases ring <;> cases l <;> rfl

theorem foldl_chainStep_perm : ∀ (ring : List Task) (c : Cur), ((ring.foldl chainStep c).l).Perm (ring ++ c.l)
  | [], _ => .refl _
  | t :: ts, c =>
    (foldl_chainStep_perm ts (chainStep c t)).trans (((insertAt_perm ..).append_left ts).trans List.perm_middle)

theorem chainSorted_perm (l ring : List Task) : (chainSorted l ring).Perm (ring ++ l) :=
  chainSorted_eq l ring ▸ foldl_chainStep_perm ring _

/-- The key `q.1` is not looked at: the predicate is stated on `PList` so that it applies to the entries of spq
    as they are, and the single list of ap / ip is given the key 0 (`LInv`). -/
def PL (n : Nat) (q : PList) : Prop := Sorted q.2 ∧ ∀ x ∈ q.2, x.seq < n

theorem PL.nil (n : Nat) (p : Int) : PL n (p, []) := by simp [PL, Sorted]

theorem PL.mono {n m : Nat} {q : PList} (h : PL n q) (hnm : n ≤ m) : PL m q :=
  ⟨h.1, fun x hx => Nat.lt_of_lt_of_le (h.2 x hx) hnm⟩

theorem foldl_chainStep_PL (p d : Int) : ∀ (ring : List Task) (n : Nat) (c : Cur), PL n (p, c.l) →
    PL (n + ring.length) (d, ((stamp n ring).foldl chainStep c).l)
  | [], _, _, h => h
  | t :: ts, n, c, h => by
    rw [stamp, List.foldl_cons, chainStep_sorted h.1, List.length_cons, ← Nat.add_assoc, Nat.add_right_comm]
    refine foldl_chainStep_PL p d ts (n + 1) _ ⟨sorted_insertAt_skipLen h.1 h.2, fun x hx => ?_⟩
    rcases mem_insertAt.1 hx with rfl | hx
    · exact Nat.lt_succ_self n
    · exact Nat.lt_succ_of_lt (h.2 x hx)

theorem PL.chain {n : Nat} {p : Int} {ts : List Task} (h : PL n (p, ts)) (ring : List Task) (d : Int) :
    PL (n + ring.length) (d, chainSorted ts (stamp n ring)) :=
  chainSorted_eq ts _ ▸ foldl_chainStep_PL p d ring n ⟨ts, ts.length - 1⟩ h

theorem chainSorted_sorted {l : List Task} {n : Nat} (ring : List Task) (hs : Sorted l)
    (hq : ∀ x ∈ l, x.seq < n) : Sorted (chainSorted l (stamp n ring)) :=
  (PL.chain (p := 0) ⟨hs, hq⟩ ring 0).1

theorem PL.sublist {n : Nat} {q : PList} (h : PL n q) {l : List Task} (hl : l.Sublist q.2) (p : Int) : PL n (p, l) :=
  ⟨h.1.sublist hl, fun x hx => h.2 x (hl.subset hx)⟩

/-- One call on ap, ip or spq: `schedule(ring, distance)` or `select`.  The C09 theorems quantify over `List Op`. -/
inductive Op
  | sched (ring : List Task) (d : Int)
  | sel
deriving Repr

def apStep (s : LSt) : Op → LSt
  | .sched r d => apSchedule s r d
  | .sel => (apSelect s).1

def ipStep (s : LSt) : Op → LSt
  | .sched r d => ipSchedule s r d
  | .sel => (ipSelect s).1

def spqStep (s : SpqSt) : Op → SpqSt
  | .sched r d => spqSchedule s r d
  | .sel => (spqSelect s).1

def apRun (ops : List Op) : LSt := ops.foldl apStep LSt.init
def ipRun (ops : List Op) : LSt := ops.foldl ipStep LSt.init
def spqRun (ops : List Op) : SpqSt := ops.foldl spqStep SpqSt.init

theorem apSelect_some {s : LSt} {t : Task} {d : Int} (h : (apSelect s).2 = some (t, d)) :
    d = 0 ∧ s.list = t :: (apSelect s).1.list := by
  unfold apSelect at h ⊢
  split at h
  · cases h
  next t' ts hl =>
    obtain ⟨rfl, rfl⟩ : t' = t ∧ 0 = d := by simpa using h
    exact ⟨rfl, hl⟩

theorem apSelect_eq_none {s : LSt} : (apSelect s).2 = none ↔ s.list = [] := by
  unfold apSelect; cases s.list <;> simp

theorem ipSelect_some {s : LSt} {t : Task} {d : Int} (h : (ipSelect s).2 = some (t, d)) :
    d = 0 ∧ s.list = (ipSelect s).1.list ++ [t] := by
  unfold ipSelect at h ⊢
  split at h
  · cases h
  next t' hl =>
    obtain ⟨rfl, rfl⟩ : t' = t ∧ 0 = d := by simpa using h
    obtain ⟨ys, hys⟩ := List.getLast?_eq_some_iff.1 hl
    exact ⟨rfl, by rw [hys, List.dropLast_concat]⟩

theorem ipSelect_eq_none {s : LSt} : (ipSelect s).2 = none ↔ s.list = [] := by
  unfold ipSelect
  cases h : s.list.getLast? with
  | none => simpa using List.getLast?_eq_none_iff.1 h
  | some x => simpa using fun hn => by simp [hn] at h

theorem ipSchedule_perm (s : LSt) (ring : List Task) (d : Int) :
    (ipSchedule s ring d).list.Perm (stamp s.next ring ++ s.list) := by
  unfold ipSchedule
  split
  · exact chainSorted_perm _ _
  · exact List.perm_append_comm

def AllD0 (ops : List Op) : Prop := ∀ op ∈ ops, match op with | .sched _ d => d = 0 | .sel => True

/-- invariant of the shared list of ap (always) and of ip (while only distance 0 is used) -/
def LInv (s : LSt) : Prop := PL s.next (0, s.list)

theorem LInv.init : LInv LSt.init := PL.nil 0 0

theorem LInv.apSelect {s : LSt} (h : LInv s) : LInv (apSelect s).1 := by
  unfold Sched.apSelect
  split
  · exact h
  next t ts hl => exact h.sublist (hl ▸ List.sublist_cons_self t ts) 0

theorem LInv.ipSelect {s : LSt} (h : LInv s) : LInv (ipSelect s).1 := by
  unfold Sched.ipSelect
  split
  · exact h
  · exact h.sublist (List.dropLast_sublist _) 0

theorem apRun_inv (ops : List Op) : LInv (apRun ops) :=
  List.foldlRecOn (motive := LInv) ops apStep LInv.init fun _ h op _ => match op with
    | .sched r _ => PL.chain h r 0
    | .sel => h.apSelect

theorem ipRun_inv (ops : List Op) (h0 : AllD0 ops) : LInv (ipRun ops) :=
  List.foldlRecOn (motive := LInv) ops ipStep LInv.init fun s h op hop => match op with
    | .sched r d => by
      obtain rfl : d = 0 := h0 _ hop
      show LInv (ipSchedule s r 0)
      rw [ipSchedule, if_pos rfl]
      exact PL.chain h r 0
    | .sel => h.ipSelect

def pendD (pls : List PList) : List (Task × Int) := pls.flatMap (fun p => p.2.map (fun t => (t, p.1)))

def SpqInv (s : SpqSt) : Prop :=
  s.pls.Pairwise (fun a b => a.1 < b.1) ∧ ∀ q ∈ s.pls, PL s.next q

/-- `P` carries a bound on the distances through the recursion (those met so far are below everything that
    follows) -/
theorem spqInsert_inv {n : Nat} (d : Int) (ring : List Task) : ∀ (P : Int → Prop) (pls : List PList), P d →
    pls.Pairwise (fun a b => a.1 < b.1) → (∀ q ∈ pls, P q.1 ∧ PL n q) →
    (spqInsert d (stamp n ring) pls).Pairwise (fun a b => a.1 < b.1) ∧
      ∀ q ∈ spqInsert d (stamp n ring) pls, P q.1 ∧ PL (n + ring.length) q
  | P, [], hd, _, _ =>
    ⟨List.pairwise_singleton _ _, fun q hq => List.mem_singleton.1 hq ▸ ⟨hd, (PL.nil n 0).chain ring d⟩⟩
  | P, (p, ts) :: rest, hd, hp, h => by
    obtain ⟨hx, hr⟩ := List.pairwise_cons.1 hp
    have h' : ∀ q ∈ (p, ts) :: rest, P q.1 ∧ PL (n + ring.length) q := fun q hq =>
      ⟨(h q hq).1, (h q hq).2.mono (Nat.le_add_right ..)⟩
    unfold spqInsert
    split
    next h1 =>
      subst h1
      exact ⟨List.pairwise_cons.2 ⟨hx, hr⟩,
        List.forall_mem_cons.2 ⟨⟨hd, (h _ (List.mem_cons_self ..)).2.chain ring p⟩, (List.forall_mem_cons.1 h').2⟩⟩
    · split
      next h2 =>
        exact ⟨List.pairwise_cons.2 ⟨List.forall_mem_cons.2 ⟨h2, fun y hy => Int.lt_trans h2 (hx y hy)⟩, hp⟩,
          List.forall_mem_cons.2 ⟨⟨hd, (PL.nil n 0).chain ring d⟩, h'⟩⟩
      next h1 h2 =>
        have ih := spqInsert_inv d ring (fun k => p < k ∧ P k) rest ⟨by omega, hd⟩ hr
          (fun q hq => ⟨⟨hx q hq, (h q (List.mem_cons_of_mem _ hq)).1⟩, (h q (List.mem_cons_of_mem _ hq)).2⟩)
        exact ⟨List.pairwise_cons.2 ⟨fun y hy => (ih.2 y hy).1.1, ih.1⟩,
          List.forall_mem_cons.2 ⟨h' _ (List.mem_cons_self ..), fun q hq => ⟨(ih.2 q hq).1.2, (ih.2 q hq).2⟩⟩⟩

theorem SpqInv.init : SpqInv SpqSt.init := by simp [SpqInv, SpqSt.init]

theorem SpqInv.schedule {s : SpqSt} (h : SpqInv s) (ring : List Task) (d : Int) : SpqInv (spqSchedule s ring d) :=
  have := spqInsert_inv d ring (fun _ => True) s.pls trivial h.1 fun q hq => ⟨trivial, h.2 q hq⟩
  ⟨this.1, fun q hq => (this.2 q hq).2⟩

theorem spqPopRest_fst : ∀ (pls : List PList), (spqPopRest pls).map Prod.fst = pls.map Prod.fst
  | [] => rfl
  | (p, []) :: rest => by simp [spqPopRest, spqPopRest_fst rest]
  | (p, _ :: ts) :: rest => by simp [spqPopRest]

theorem PL_spqPopRest {n : Nat} : ∀ (pls : List PList), (∀ q ∈ pls, PL n q) → ∀ q ∈ spqPopRest pls, PL n q
  | [], _ => nofun
  | (p, []) :: rest, h => List.forall_mem_cons.2 ⟨PL.nil n p, PL_spqPopRest rest (List.forall_mem_cons.1 h).2⟩
  | (_, _ :: _) :: _, h =>
    have ⟨h1, h2⟩ := List.forall_mem_cons.1 h
    List.forall_mem_cons.2 ⟨h1.sublist (List.sublist_cons_self ..) _, h2⟩

theorem SpqInv.select {s : SpqSt} (h : SpqInv s) : SpqInv (spqSelect s).1 :=
  ⟨(List.pairwise_map (f := Prod.fst) (R := (· < ·))).1
      (spqPopRest_fst s.pls ▸ (List.pairwise_map (f := Prod.fst) (R := (· < ·))).2 h.1),
    PL_spqPopRest _ h.2⟩

theorem spqRun_inv (ops : List Op) : SpqInv (spqRun ops) :=
  List.foldlRecOn (motive := SpqInv) ops spqStep SpqInv.init fun _ h op _ => match op with
    | .sched r d => h.schedule r d
    | .sel => h.select

theorem pendD_cons (q : PList) (pls : List PList) : pendD (q :: pls) = q.2.map (fun t => (t, q.1)) ++ pendD pls :=
  List.flatMap_cons

theorem spqPopRes_eq : ∀ (pls : List PList), spqPopRes pls = (pendD pls).head?
  | [] => rfl
  | (_, []) :: rest => spqPopRes_eq rest
  | (_, _ :: _) :: _ => rfl

theorem pendD_spqPopRest : ∀ (pls : List PList), pendD (spqPopRest pls) = (pendD pls).tail
  | [] => rfl
  | (_, []) :: rest => pendD_spqPopRest rest
  | (_, _ :: _) :: _ => rfl

theorem pendD_spqPop {pls : List PList} {t : Task} {d : Int} (h : spqPopRes pls = some (t, d)) :
    pendD pls = (t, d) :: pendD (spqPopRest pls) := by
  obtain ⟨ys, hys⟩ := List.head?_eq_some_iff.1 (spqPopRes_eq pls ▸ h)
  rw [pendD_spqPopRest, hys]; rfl

def DBefore (a b : Task × Int) : Prop := a.2 < b.2 ∨ (a.2 = b.2 ∧ Before a.1 b.1)

theorem pendD_sorted {pls : List PList} (hk : pls.Pairwise (fun a b => a.1 < b.1)) (hs : ∀ q ∈ pls, Sorted q.2) :
    (pendD pls).Pairwise DBefore := by
  refine List.pairwise_flatMap.2 ⟨fun q hq => List.pairwise_map.2 ((hs q hq).imp fun h => .inr ⟨rfl, h⟩),
    hk.imp fun h x hx y hy => ?_⟩
  obtain ⟨_, _, rfl⟩ := List.mem_map.1 hx
  obtain ⟨_, _, rfl⟩ := List.mem_map.1 hy
  exact .inl h

theorem SpqInv.sorted {s : SpqSt} (h : SpqInv s) : (pendD s.pls).Pairwise DBefore :=
  pendD_sorted h.1 fun q hq => (h.2 q hq).1

theorem pendD_spqInsert (d : Int) (ring : List Task) : ∀ (pls : List PList),
    (pendD (spqInsert d ring pls)).Perm (ring.map (fun t => (t, d)) ++ pendD pls)
  | [] => by simpa [spqInsert, pendD] using (chainSorted_perm [] ring).map (fun t => (t, d))
  | (p, ts) :: rest => by
    have ih := pendD_spqInsert d ring rest
    unfold spqInsert
    split
    next h1 =>
      simpa [h1, pendD_cons] using ((chainSorted_perm ts ring).map (fun t => (t, d))).append_right (pendD rest)
    · split
      · simpa [pendD_cons] using ((chainSorted_perm [] ring).map (fun t => (t, d))).append_right (pendD ((p, ts) :: rest))
      · simp only [pendD_cons]
        exact (ih.append_left _).trans (List.perm_append_comm_assoc ..)

end ParsecVerif.Sched
