import ParsecVerif.Base.Interleave
import ParsecVerif.Proofs.RemoteDepEdges
/-! C13, the message machine under any delivery order: the messages sent so far form a sub-forest of `edges` that is
    closed under "my sender is the root or has received" (`Inv`), so no rank is sent to twice and with nothing in
    flight the forest is the whole tree; `deliveryOK` is then a statement about the payloads on the edges. -/
namespace ParsecVerif.RemoteDep

def dsts (l : List Msg) : List Nat := l.map Msg.dst

@[simp] theorem dsts_append (a b : List Msg) : dsts (a ++ b) = dsts a ++ dsts b := by simp [dsts]
@[simp] theorem dsts_cons (m : Msg) (l : List Msg) : dsts (m :: l) = m.dst :: dsts l := rfl
@[simp] theorem dsts_nil : dsts [] = [] := rfl

theorem dsts_msgs (c : Cfg) (p : Nat) : dsts (c.msgs p) = c.sends p := by
  unfold dsts Cfg.msgs
  rw [List.map_map]
  exact List.map_id' _

theorem mem_msgs {c : Cfg} {p : Nat} {m : Msg} :
    m ∈ c.msgs p ↔ ∃ d ∈ c.sends p, m = ⟨p, d, c.payload p d⟩ := by
  unfold Cfg.msgs
  rw [List.mem_map]
  exact exists_congr fun d => and_congr_right fun _ => eq_comm

theorem msgs_edge {c : Cfg} (h : c.WF) {p : Nat} {m : Msg} (hm : m ∈ c.msgs p) :
    (m.src, m.dst) ∈ c.edges ∧ m.keys = c.payload m.src m.dst := by
  obtain ⟨d, hd, rfl⟩ := mem_msgs.1 hm
  exact ⟨(c.mem_sends_iff h _ _).1 hd, rfl⟩

theorem mem_dsts {l : List Msg} {x : Nat} : x ∈ dsts l ↔ ∃ m ∈ l, m.dst = x := by
  simp [dsts]

structure Inv (c : Cfg) (s : St) : Prop where
  edge : ∀ m ∈ s.inflight ++ s.log, (m.src, m.dst) ∈ c.edges ∧ m.keys = c.payload m.src m.dst
  nodup : (dsts (s.inflight ++ s.log)).Nodup
  closed : ∀ p x, (p, x) ∈ c.edges → (x ∈ dsts (s.inflight ++ s.log) ↔ (p = c.root ∨ p ∈ dsts s.log))

theorem inv_init {c : Cfg} (h : c.WF) (ht : TreeChild c.child (2 ^ 32)) : Inv c c.init := by
  refine ⟨?_, ?_, ?_⟩
  · intro m hm
    simp only [Cfg.init, List.append_nil] at hm
    exact msgs_edge h hm
  · simp only [Cfg.init, List.append_nil, dsts_msgs]
    exact c.sends_nodup h _
  · intro p x he
    simp only [Cfg.init, List.append_nil, dsts_msgs, dsts_nil, List.not_mem_nil, or_false]
    rw [c.mem_sends_iff h, c.edge_iff h ht he]

theorem inv_deliver {c : Cfg} (h : c.WF) (ht : TreeChild c.child (2 ^ 32)) (s : St) (m : Msg)
    (hi : Inv c s) : Inv c (c.deliver s m) := by
  unfold Cfg.deliver
  split
  case isFalse => exact hi
  case isTrue hm =>
    have hedge_m := hi.edge m (List.mem_append_left _ hm)
    have hperm : ((s.inflight.erase m ++ c.msgs m.dst) ++ (m :: s.log)).Perm
        ((s.inflight ++ s.log) ++ c.msgs m.dst) := by
      refine List.perm_middle.trans (.trans ?_ (((List.perm_cons_erase hm).append_right _).append_right _).symm)
      rw [List.cons_append, List.cons_append, List.append_assoc, List.append_assoc]
      exact (List.Perm.append_left _ List.perm_append_comm).cons _
    have hpd : (dsts ((s.inflight.erase m ++ c.msgs m.dst) ++ (m :: s.log))).Perm
        (dsts (s.inflight ++ s.log) ++ c.sends m.dst) := by
      rw [← dsts_msgs, ← dsts_append]; exact hperm.map Msg.dst
    have hdroot : m.dst ≠ c.root := fun e => c.root_not_member h (e ▸ c.edge_dst hedge_m.1)
    have hdlog : m.dst ∉ dsts s.log := fun hl =>
      (List.nodup_append.1 (dsts_append _ _ ▸ hi.nodup)).2.2 _ (mem_dsts.2 ⟨m, hm, rfl⟩) _ hl rfl
    refine ⟨fun m' hm' => ?_, hpd.nodup_iff.2 (List.nodup_append.2 ⟨hi.nodup, c.sends_nodup h _, ?_⟩), ?_⟩
    · exact (List.mem_append.1 (hperm.mem_iff.1 hm')).elim (hi.edge m') (msgs_edge h)
    · -- the receiver forwards to ranks that have not been sent to: their sender had not received
      rintro y hyA _ hy rfl
      exact ((hi.closed _ _ ((c.mem_sends_iff h _ _).1 hy)).1 hyA).elim hdroot hdlog
    · intro p x he
      rw [hpd.mem_iff, List.mem_append, hi.closed p x he, dsts_cons, List.mem_cons, c.mem_sends_iff h,
        c.edge_iff h ht he, or_right_comm, or_assoc]

theorem inv_run {c : Cfg} (h : c.WF) (ht : TreeChild c.child (2 ^ 32)) (ms : List Msg) : Inv c (c.run ms) :=
  Interleave.foldl_inv (inv_deliver h ht) ms (inv_init h ht)

theorem Inv.dsts_members {c : Cfg} {s : St} (hi : Inv c s) : ∀ x ∈ dsts (s.inflight ++ s.log), x ∈ c.members := by
  intro x hx
  obtain ⟨m, hm, rfl⟩ := mem_dsts.1 hx
  exact c.edge_dst (hi.edge m hm).1

theorem Inv.all_delivered {c : Cfg} {s : St} (h : c.WF) (ht : TreeChild c.child (2 ^ 32)) (hi : Inv c s)
    (hq : s.inflight = []) : ∀ x ∈ c.members, x ∈ dsts s.log :=
  c.edge_induction h ht fun p y he hp => by
    have := (hi.closed p y he).2 hp
    rwa [hq, List.nil_append] at this

theorem Inv.log_nodup {c : Cfg} {s : St} (hi : Inv c s) : (dsts s.log).Nodup :=
  (List.nodup_append.1 (dsts_append _ _ ▸ hi.nodup)).2.1

theorem mem_deliveriesOf {log : List Msg} {r k : Nat} :
    (r, k) ∈ deliveriesOf log ↔ ∃ m ∈ log, m.dst = r ∧ k ∈ m.keys := by
  simp only [deliveriesOf, List.mem_flatMap, List.mem_map, Prod.mk.injEq]
  constructor
  · rintro ⟨m, hm, _, hk, rfl, rfl⟩; exact ⟨m, hm, rfl, hk⟩
  · rintro ⟨m, hm, rfl, hk⟩; exact ⟨m, hm, k, hk, rfl, rfl⟩

theorem keys_nodup {c : Cfg} (h : c.WF) : (c.outs.map Prod.fst).Nodup :=
  List.Pairwise.imp (fun hlt => Nat.ne_of_lt hlt) h.keys

theorem payload_nodup {c : Cfg} (h : c.WF) (p r : Nat) : (c.payload p r).Nodup :=
  List.Nodup.sublist (List.filter_sublist.map Prod.fst) (keys_nodup h)

theorem mem_payload {c : Cfg} (p r k : Nat) :
    k ∈ c.payload p r ↔ ∃ o ∈ c.outs, o.1 = k ∧ r ∈ o.2 ∧ (p = c.root ∨ p ∈ o.2) := by
  unfold Cfg.payload Cfg.omask
  simp only [List.mem_map, List.mem_filter, Bool.and_eq_true, Bool.or_eq_true, beq_iff_eq,
    List.contains_iff_mem]
  constructor
  · rintro ⟨o, ⟨ho, h1, h2⟩, rfl⟩; exact ⟨o, ho, rfl, h2, h1⟩
  · rintro ⟨o, ho, rfl, h2, h1⟩; exact ⟨o, ⟨ho, h1, h2⟩, rfl⟩

/-- a message carries each output once, and no rank receives two messages -/
theorem Inv.deliveries_nodup {c : Cfg} {s : St} (h : c.WF) (hi : Inv c s) : (deliveriesOf s.log).Nodup := by
  refine List.pairwise_flatMap.2 ⟨fun m hm => ?_, (List.pairwise_map.1 hi.log_nodup).imp ?_⟩
  · rw [(hi.edge m (List.mem_append_right _ hm)).2]
    exact List.pairwise_map.2 ((payload_nodup h _ _).imp fun hne e => hne (Prod.mk.inj e).2)
  · intro m m' hne x hx y hy e
    obtain ⟨_, _, rfl⟩ := List.mem_map.1 hx
    obtain ⟨_, _, rfl⟩ := List.mem_map.1 hy
    exact hne (Prod.mk.inj e).1

theorem Inv.mem_deliveries {c : Cfg} {s : St} (hi : Inv c s) (r k : Nat) :
    (r, k) ∈ deliveriesOf s.log ↔ ∃ m ∈ s.log, m.dst = r ∧ k ∈ c.payload m.src r := by
  rw [mem_deliveriesOf]
  refine exists_congr fun m => and_congr_right fun hm => and_congr_right fun hd => ?_
  rw [(hi.edge m (List.mem_append_right _ hm)).2, hd]

theorem mem_wanted {c : Cfg} (r k : Nat) :
    c.wanted r k = true ↔ (r ≠ c.root ∧ ∃ o ∈ c.outs, o.1 = k ∧ r ∈ o.2) := by
  unfold Cfg.wanted
  simp only [Bool.and_eq_true, bne_iff_ne, ne_eq, List.any_eq_true, beq_iff_eq, List.contains_iff_mem]

theorem Inv.wanted_of_mem {c : Cfg} {s : St} (h : c.WF) (hi : Inv c s) {r k : Nat}
    (hd : (r, k) ∈ deliveriesOf s.log) : c.wanted r k = true := by
  obtain ⟨m, hm, hd, hk⟩ := (hi.mem_deliveries r k).1 hd
  obtain ⟨o, ho, hk, hr, _⟩ := (mem_payload _ _ _).1 hk
  refine (mem_wanted _ _).2 ⟨fun e => ?_, o, ho, hk, hr⟩
  exact c.root_not_member h (e ▸ hd ▸ c.edge_dst (hi.edge m (List.mem_append_right _ hm)).1)

theorem exactlyOnce_iff {c : Cfg} {D : List (Nat × Nat)} (hD : D.Nodup) :
    ExactlyOnce c D ↔ ∀ r k, (r, k) ∈ D ↔ c.wanted r k = true := by
  refine forall_congr' fun r => forall_congr' fun k => ?_
  rw [hD.count]
  by_cases h1 : (r, k) ∈ D <;> by_cases h2 : c.wanted r k = true <;> simp [h1, h2]

/-- `f` marks the outputs exempted from the relay condition: `deliveryOK` exempts none, `DistRt.dataOK` (C05) the
    control outputs. -/
theorem relayOK_iff (c : Cfg) (f : Nat → Bool) :
    (c.edges.all fun px => px.1 == c.root ||
        c.outs.all fun o => f o.1 || !o.2.contains px.2 || o.2.contains px.1) = true ↔
      ∀ p x, (p, x) ∈ c.edges → p = c.root ∨ ∀ o ∈ c.outs, f o.1 = false → x ∈ o.2 → p ∈ o.2 := by
  have key : ∀ p x : Nat,
      (p == c.root || c.outs.all fun o => f o.1 || !o.2.contains x || o.2.contains p) = true ↔
        (p = c.root ∨ ∀ o ∈ c.outs, f o.1 = false → x ∈ o.2 → p ∈ o.2) := by
    intro p x
    rw [Bool.or_eq_true, beq_iff_eq, List.all_eq_true]
    refine or_congr_right (forall_congr' fun o => imp_congr_right fun _ => ?_)
    cases f o.1 <;> by_cases hx : x ∈ o.2 <;> simp [hx]
  rw [List.all_eq_true]
  simp only [Prod.forall, key]

theorem deliveryOK_iff (c : Cfg) :
    c.deliveryOK = true ↔ ∀ p x, (p, x) ∈ c.edges → p = c.root ∨ ∀ o ∈ c.outs, x ∈ o.2 → p ∈ o.2 := by
  unfold Cfg.deliveryOK
  simpa only [Bool.false_or, eq_self, true_implies] using relayOK_iff c fun _ => false

theorem deliveryOK_iff_wanted {c : Cfg} (h : c.WF) (ht : TreeChild c.child (2 ^ 32)) :
    c.deliveryOK = true ↔ ∀ r k, (∃ p, (p, r) ∈ c.edges ∧ k ∈ c.payload p r) ↔ c.wanted r k = true := by
  rw [deliveryOK_iff]
  have hnr : ∀ {p x}, (p, x) ∈ c.edges → x ≠ c.root := fun he e => c.root_not_member h (e ▸ c.edge_dst he)
  constructor
  · intro hok r k
    constructor
    · rintro ⟨p, he, hk⟩
      obtain ⟨o, ho, hk, hr, _⟩ := (mem_payload _ _ _).1 hk
      exact (mem_wanted _ _).2 ⟨hnr he, o, ho, hk, hr⟩
    · intro hw
      obtain ⟨hr, o, ho, hk, hro⟩ := (mem_wanted _ _).1 hw
      obtain ⟨p, he⟩ := c.exists_edge h ht ((c.mem_members h r).2 ⟨hr, o, ho, hro⟩)
      exact ⟨p, he, (mem_payload _ _ _).2 ⟨o, ho, hk, hro, (hok p r he).imp_right fun e => e o ho hro⟩⟩
  · -- `x` wants every output it consumes; what it gets comes from `p`, which must hold it
    intro hx p x he
    refine (Classical.em (p = c.root)).imp_right fun hp o ho hxo => ?_
    obtain ⟨p', he', hk⟩ := (hx x o.1).2 ((mem_wanted _ _).2 ⟨hnr he, o, ho, rfl, hxo⟩)
    cases (c.edge_iff h ht he).1 he'
    obtain ⟨o', ho', hk', _, hsrc⟩ := (mem_payload _ _ _).1 hk
    cases eq_of_nodup_map (keys_nodup h) ho' ho hk'
    exact hsrc.resolve_left hp

/-- the targets of the messages sent so far and the root are distinct ranks -/
theorem Inv.length_lt {c : Cfg} {s : St} (h : c.WF) (hi : Inv c s) : s.inflight.length + s.log.length < c.n := by
  have := UserTrigger.length_le_of_nodup_lt c.n (c.root :: dsts (s.inflight ++ s.log))
    (List.nodup_cons.2 ⟨fun hm => c.root_not_member h (hi.dsts_members _ hm), hi.nodup⟩)
    (List.forall_mem_cons.2 ⟨h.root_lt, fun x hx => c.member_lt h (hi.dsts_members x hx)⟩)
  simp [dsts] at this
  omega

theorem Cfg.deliver_of_mem (c : Cfg) {s : St} {m : Msg} (hm : m ∈ s.inflight) :
    c.deliver s m = ⟨s.inflight.erase m ++ c.msgs m.dst, m :: s.log⟩ := if_pos hm

theorem runFifo_eq_foldl (c : Cfg) : ∀ (fuel : Nat) (s : St), ∃ ms : List Msg, c.runFifo fuel s = ms.foldl c.deliver s ∧
    ((c.runFifo fuel s).inflight = [] ∨ (c.runFifo fuel s).log.length = s.log.length + fuel)
  | 0, s => ⟨[], rfl, .inr rfl⟩
  | fuel+1, s => by
    unfold Cfg.runFifo
    split
    · rename_i hq; exact ⟨[], rfl, .inl hq⟩
    · rename_i m t hq
      obtain ⟨ms, e, h1⟩ := runFifo_eq_foldl c fuel (c.deliver s m)
      refine ⟨m :: ms, e, h1.imp_right fun h1 => ?_⟩
      rw [h1, c.deliver_of_mem (hq ▸ List.mem_cons_self), List.length_cons]
      omega

/-- fuel `n` suffices: at most `n - 1` messages exist (`Inv.length_lt`) -/
theorem runFifo_quiescent {c : Cfg} (h : c.WF) (ht : TreeChild c.child (2 ^ 32)) :
    Inv c (c.runFifo c.n c.init) ∧ (c.runFifo c.n c.init).inflight = [] := by
  obtain ⟨ms, e, h1⟩ := runFifo_eq_foldl c c.n c.init
  have hi : Inv c (c.runFifo c.n c.init) := e ▸ inv_run h ht ms
  exact ⟨hi, h1.resolve_right fun h1 => by have := hi.length_lt h; omega⟩

end ParsecVerif.RemoteDep
