import ParsecVerif.Proofs.Ptg
/-!
  Task keys (C23): the (min, range) pairs that `internal_init` collects bound the digits of every enumerated instance
  (`DigitsOK`), `make_key` is a mixed-radix number in Horner form (`keyH`), so the key determines the instance digit by
  digit (`keyH_inj`) and `key_print` recovers the range parameters (`keyPrintVals_keyH`).
-/
namespace ParsecVerif.Ptg

theorem rangeVals_bounds {lo hi st v : Int} (h : v ∈ rangeVals lo hi st) : min lo hi ≤ v ∧ v ≤ max lo hi := by
  rcases mem_rangeVals.1 h with ⟨_, h1, h2, _⟩ | ⟨_, h1, h2, _⟩ <;> omega

theorem mem_enumSem_append (ds : List LocalSem) : ∀ (done : List LocalSem) (q pre : List Int), pre ∈ enumSem done q →
    ∀ t, t ∈ enumSem ds (q ++ pre) → pre ++ t ∈ enumSem (done ++ ds) q := by
  refine enumSem_induction (fun q t ht => by simpa using ht) (fun d done q w u hw _ ih t ht => ?_)
  simp only [List.cons_append, enumSem_cons, List.mem_flatMap, List.mem_map]
  exact ⟨w, hw, u ++ t, ih t (by simpa using ht), rfl⟩

/-- the stored minimum lies below (the stored maximum above) both bounds at every visit of the loop header -/
theorem minFold_le {lo hi : List Int → Int} {visits : List (List Int)} {pre : List Int} (h : pre ∈ visits) :
    minFold lo hi visits ≤ min (lo pre) (hi pre) :=
  (List.le_min?_iff (xs := int32Max :: visits.map fun pre => min (lo pre) (hi pre))
    (by rw [List.min?_cons', List.foldl_map]; rfl)).1 (Int.le_refl _) _ (List.mem_cons_of_mem _ (List.mem_map_of_mem h))

theorem le_maxFold {lo hi : List Int → Int} {visits : List (List Int)} {pre : List Int} (h : pre ∈ visits) :
    max (lo pre) (hi pre) ≤ maxFold lo hi visits :=
  (List.max?_le_iff (xs := 0 :: visits.map fun pre => max (lo pre) (hi pre))
    (by rw [List.max?_cons', List.foldl_map]; rfl)).1 (Int.le_refl _) _ (List.mem_cons_of_mem _ (List.mem_map_of_mem h))

theorem paramsOf_cons (ps : List Bool) (v : Int) (vs : List Int) :
    paramsOf ps (v :: vs) = if ps.headD false then v :: paramsOf ps.tail vs else paramsOf ps.tail vs := by
  cases ps with
  | nil => cases vs <;> rfl
  | cons b ps => cases b <;> rfl

/-- what the key functions need from the stored (min, range), for the header flags `ps` and the values `pre` of the
    enclosing locals: a range local is a parameter and its digit `v − min` lies in `[0, range)`; a derived local has
    `(min, range) = (0, 1)`, the flag of the header, and the value of its expression. -/
inductive DigitsOK : List Bool → List KInfo → List LocalSem → List Int → List Int → Prop
  | nil {ps pre} : DigitsOK ps [] [] pre []
  | range {ps pre} {mn rg : Int} {lo hi st ks ds v vs} : ps.headD false = true → 0 ≤ v - mn → v - mn < rg →
      DigitsOK ps.tail ks ds (pre ++ [v]) vs → DigitsOK ps (⟨true, mn, rg⟩ :: ks) (.range lo hi st :: ds) pre (v :: vs)
  | expr {ps pre} {p : Bool} {f ks ds vs} : ps.headD false = p → DigitsOK ps.tail ks ds (pre ++ [f pre]) vs →
      DigitsOK ps (⟨p, 0, 1⟩ :: ks) (.expr f :: ds) pre (f pre :: vs)

/-- the header of the loop that follows the locals `done` is visited with exactly the assignments `enumSem done []`,
    and a loop variable stays between its start and end -/
theorem digitsOK_aux : ∀ (ds : List LocalSem) (pre s : List Int), s ∈ enumSem ds pre → ∀ (done : List LocalSem)
    (ps : List Bool), pre ∈ enumSem done [] → RangesAreParams ds ps →
    DigitsOK ps (keyInfoFrom (done ++ ds) ps done.length ds) ds pre s := by
  refine enumSem_induction (fun _ _ _ _ _ => .nil) (fun d ds pre v t hv _ ih done ps hpre hrap => ?_)
  have hrec := ih (done ++ [d]) ps.tail
    (mem_enumSem_append _ done [] pre hpre [v] (by simpa [enumSem_cons, enumSem] using hv))
  simp only [List.append_assoc, List.singleton_append, List.length_append, List.length_singleton] at hrec
  cases d with
  | range lo hi st =>
    have hb := rangeVals_bounds hv
    have hmin := minFold_le (lo := lo) (hi := hi) hpre
    have hmax := le_maxFold (lo := lo) (hi := hi) hpre
    simp only [keyInfoFrom, hrap.1, if_true, List.take_left]
    exact .range hrap.1 (by omega) (by omega) (hrec hrap.2)
  | expr f => cases List.mem_singleton.1 hv; exact .expr rfl (hrec hrap)

theorem digitsOK_of_mem (ds : List LocalSem) (ps : List Bool) (hrap : RangesAreParams ds ps) :
    ∀ a ∈ enumSem ds [], DigitsOK ps (keyInfo ds ps) ds [] a := fun a ha => by
  simpa [keyInfo] using digitsOK_aux ds [] a ha [] ps (by simp [enumSem]) hrap

/-- Horner form of the key: `d₀ + R₀·(d₁ + R₁·(…))` -/
def keyH : List KInfo → List Int → Int
  | ⟨true, mn, rg⟩ :: is, v :: vs => (v - mn) + rg * keyH is vs
  | ⟨false, _, _⟩ :: is, _ :: vs => keyH is vs
  | _, _ => 0

theorem keyZFrom_eq (is : List KInfo) (vs : List Int) (mult acc : Int) :
    keyZFrom is vs mult acc = acc + mult * keyH is vs := by
  fun_induction keyZFrom is vs mult acc with
  | case1 mn rg is v vs mult acc ih =>
    rw [ih, keyH, Int.mul_add, Int.mul_assoc, Int.add_assoc, Int.mul_comm (v - mn) mult]
  | case2 _ _ is _ vs mult acc ih => rw [ih, keyH]
  | case3 is vs mult acc h1 h2 => rw [keyH.eq_3 _ _ h1 h2, Int.mul_zero, Int.add_zero]

theorem keyZ_eq_keyH (is : List KInfo) (a : List Int) : keyZ is a = keyH is a := by
  simp [keyZ, keyZFrom_eq]

theorem digit_divmod {d r : Int} (x : Int) (h0 : 0 ≤ d) (h : d < r) : (d + r * x) / r = x ∧ (d + r * x) % r = d :=
  (Int.ediv_emod_unique (by omega)).2 ⟨rfl, h0, h⟩

theorem digit_unique {d e r x y : Int} (hd0 : 0 ≤ d) (hd : d < r) (he0 : 0 ≤ e) (he : e < r)
    (h : d + r * x = e + r * y) : d = e ∧ x = y := by
  have hx := digit_divmod x hd0 hd
  rw [h] at hx
  have hy := digit_divmod y he0 he
  exact ⟨hx.2.symm.trans hy.2, hx.1.symm.trans hy.1⟩

/-- successive-digit decoding of the (unbounded) key; a derived local's value is a function of the earlier locals,
    which have been decoded already -/
theorem keyH_inj {ps : List Bool} {is : List KInfo} {ds : List LocalSem} {pre s t : List Int}
    (hs : DigitsOK ps is ds pre s) (ht : DigitsOK ps is ds pre t) (hk : keyH is s = keyH is t) : s = t := by
  induction hs generalizing t with
  | nil => cases ht; rfl
  | @range _ _ _ _ _ _ _ _ _ v _ _ h1 h2 _ ih =>
    cases ht with | @range _ _ _ _ _ _ _ _ _ w _ _ h3 h4 ht' =>
    obtain ⟨hvw, hK⟩ := digit_unique h1 h2 h3 h4 hk
    obtain rfl : v = w := by omega
    rw [ih ht' hK]
  | @expr _ _ p _ ks _ _ _ _ ih =>
    cases ht with | expr _ ht' =>
    rw [ih ht' (by cases p <;> simp only [keyH] at hk <;> omega)]

theorem toI32_roundtrip (d mn : Int) (h0 : 0 ≤ d) (h1 : -2147483648 ≤ mn) (h2 : d + mn < 2147483648) :
    toI32 (toU64 (d + toU64 mn)) = d + mn := by
  unfold toI32 toU64 two64 two32
  split <;> omega

theorem toU64_small (r : Int) (h0 : 0 ≤ r) (h1 : r < 18446744073709551616) : toU64 r = r := by
  unfold toU64 two64; omega

theorem keyPrintVals_keyH {ps : List Bool} {is : List KInfo} {ds : List LocalSem} {pre s : List Int}
    (h : DigitsOK ps is ds pre s) : PrintHyp is ds → 0 ≤ keyH is s ∧ keyPrintVals is (keyH is s) = paramsOf ps s := by
  induction h with
  | @nil ps => intro _; exact ⟨Int.le_refl 0, by cases ps with | nil => rfl | cons b _ => cases b <;> rfl⟩
  | @range ps _ mn rg _ _ _ ks _ v vs hh h1 h2 _ ih =>
    intro hp
    obtain ⟨hb1, hb2, hp'⟩ : -2147483648 ≤ mn ∧ mn + rg ≤ 2147483648 ∧ PrintHyp ks _ := hp
    obtain ⟨h0, ih⟩ := ih hp'
    have := Int.mul_nonneg (by omega : 0 ≤ rg) h0
    simp only [keyH, keyPrintVals, paramsOf_cons, hh, if_true, toU64_small rg (by omega) (by omega),
      digit_divmod _ h1 h2, ih]
    rw [toI32_roundtrip (v - mn) mn h1 hb1 (by omega)]
    exact ⟨by omega, by congr 1; omega⟩
  | expr hh _ ih =>
    intro hp
    obtain ⟨rfl, hp'⟩ := hp
    simpa only [hh, keyH, keyPrintVals, paramsOf_cons, Bool.false_eq_true, if_false] using ih hp'

end ParsecVerif.Ptg
