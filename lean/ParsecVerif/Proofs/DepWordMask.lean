import ParsecVerif.Proofs.DepWord
/-!
# Mask-mode dependency word: inductive invariant of `mstep` over all interleavings

`bits[t]` = flow index released by thread `t`, `im` = bits contributed by
`parsec_check_IN_dependencies_with_mask`, `g` = goal mask, `IN_DONE = 2^30`
(`PARSEC_DEPENDENCIES_IN_DONE`, parsec_internal.h): `30` below is always the index of this bit.

Every thread runs `parsec_update_deps_with_mask` once: a plain read of the word (deciding whether
the IN bits still have to be added), then one atomic fetch-or.  The invariant describes the word
bit by bit in terms of the set of threads that have performed their fetch-or.

The end of the file is a second subject: the masks the generator
computes from a list of flows (`inMask`, `goalMask`, `releaseBits` of `Model/DepWord.lean`) satisfy
`MaskOK`, the hypothesis under which the invariant is proved.
-/
namespace ParsecVerif.DepWordMask
open ParsecVerif.DepWord ParsecVerif.Interleave

/-- What the code generator guarantees about a task class that uses masks (see `maskOK_of_flows`). -/
structure MaskOK (im g : Nat) (bits : List Nat) : Prop where
  /-- every input flow is released by exactly one predecessor -/
  nodup : bits.Nodup
  /-- somebody releases something (otherwise the task is a startup task and never gets here) -/
  ne : bits ≠ []
  /-- flow indices stay below the two reserved bits -/
  lt : ∀ b ∈ bits, b < 30
  goal : ∀ b ∈ bits, g.testBit b = true
  notIn : ∀ b ∈ bits, im.testBit b = false
  cover : ∀ i, g.testBit i = true → im.testBit i = true ∨ i ∈ bits
  g30 : g.testBit 30 = false

theorem testBit_lt_log2 (g i : Nat) (h : g.testBit i = true) : i < g.log2 + 1 :=
  (Nat.pow_lt_pow_iff_right (by omega : 1 < 2)).1 (Nat.lt_of_le_of_lt (Nat.ge_two_pow_of_testBit h) Nat.lt_log2_self)

/-- The unbounded `cover` clause only needs to look below `log2 g + 1`, so `MaskOK` is decidable. -/
theorem maskOK_iff (im g : Nat) (bits : List Nat) : MaskOK im g bits ↔
    bits.Nodup ∧ bits ≠ [] ∧ (∀ b ∈ bits, b < 30 ∧ g.testBit b = true ∧ im.testBit b = false) ∧
    (∀ i, i < g.log2 + 1 → g.testBit i = true → im.testBit i = true ∨ i ∈ bits) ∧ g.testBit 30 = false :=
  ⟨fun h => ⟨h.nodup, h.ne, fun b hb => ⟨h.lt b hb, h.goal b hb, h.notIn b hb⟩, fun i _ => h.cover i, h.g30⟩,
    fun ⟨h1, h2, h3, h4, h5⟩ => ⟨h1, h2, fun b hb => (h3 b hb).1, fun b hb => (h3 b hb).2.1,
      fun b hb => (h3 b hb).2.2, fun i hg => h4 i (testBit_lt_log2 g i hg) hg, h5⟩⟩

instance (im g : Nat) (bits : List Nat) : Decidable (MaskOK im g bits) :=
  decidable_of_iff _ (maskOK_iff im g bits).symm

theorem and_eq_iff (w g : Nat) : w &&& g = g ↔ ∀ i, g.testBit i = true → w.testBit i = true := by
  simp only [Nat.eq_iff_testBit_eq, Nat.testBit_and]
  refine forall_congr' fun i => ?_
  cases g.testBit i <;> simp

theorem testBit_of_and_IN_DONE {w : Nat} (h : w &&& IN_DONE ≠ 0) : w.testBit 30 = true := by
  obtain ⟨i, hi⟩ := Nat.exists_testBit_of_ne_zero h
  rw [IN_DONE, Nat.testBit_and, Nat.testBit_two_pow, Bool.and_eq_true, decide_eq_true_eq] at hi
  exact hi.2 ▸ hi.1

theorem testBit_orr (b i : Nat) : (IN_DONE ||| 2 ^ b).testBit i = true ↔ i = 30 ∨ b = i := by
  simp only [IN_DONE, Nat.testBit_or, Nat.testBit_two_pow, Bool.or_eq_true, decide_eq_true_eq, eq_comm (a := i) (b := 30)]

theorem mstep_start {im g : Nat} {bits : List Nat} {s : MState} {t b : Nat}
    (h1 : s.pcs[t]? = some .start) (h2 : bits[t]? = some b) :
    mstep im g bits s t =
      { s with pcs := s.pcs.set t (.orr (if s.w &&& IN_DONE = 0 then IN_DONE ||| 2 ^ b ||| im else IN_DONE ||| 2 ^ b)) } := by
  unfold mstep
  rw [h1, h2]

theorem mstep_orr {im g : Nat} {bits : List Nat} {s : MState} {t v : Nat} (h1 : s.pcs[t]? = some (.orr v)) :
    mstep im g bits s t = { w := s.w ||| v, pcs := s.pcs.set t (.done (decide ((s.w ||| v) &&& g = g))) } := by
  unfold mstep
  rw [h1]

/-- thread `u` has performed its fetch-or -/
def Dn (pcs : List MPc) (u : Nat) : Prop := ∃ r, pcs[u]? = some (.done r)

theorem dn_set_orr (pcs : List MPc) (t u v : Nat) (hi : t < pcs.length) (hnd : ¬ Dn pcs t) :
    Dn (pcs.set t (.orr v)) u ↔ Dn pcs u := by
  by_cases htu : t = u
  · subst htu
    exact iff_of_false (fun ⟨r, hr⟩ => by rw [List.getElem?_set_self hi] at hr; cases hr) hnd
  · unfold Dn
    rw [List.getElem?_set_ne htu]

theorem dn_set_done (pcs : List MPc) (t u : Nat) (r : Bool) (hi : t < pcs.length) :
    Dn (pcs.set t (.done r)) u ↔ Dn pcs u ∨ u = t := by
  by_cases htu : t = u
  · subst htu
    exact iff_of_true ⟨r, List.getElem?_set_self hi⟩ (Or.inr rfl)
  · unfold Dn
    rw [List.getElem?_set_ne htu, or_iff_left (Ne.symm htu)]

theorem all_dn_iff (pcs : List MPc) : (∀ u, u < pcs.length → Dn pcs u) ↔ ∀ pc ∈ pcs, ∃ b, pc = .done b := by
  simp only [List.forall_mem_iff_forall_getElem, Dn]
  exact forall_congr' fun u => forall_congr' fun hu => by simp only [List.getElem?_eq_getElem hu, Option.some.injEq]

/-- bit `i` is accounted for by the fetch-or of call `u` -/
def Acct (im : Nat) (bits : List Nat) (u i : Nat) : Prop := i = 30 ∨ im.testBit i = true ∨ bits[u]? = some i

section covers
variable {im g : Nat} {bits : List Nat} (ok : MaskOK im g bits) {w : Nat} {pcs : List MPc}
  (hlen : pcs.length = bits.length) (hword : ∀ i, w.testBit i = true ↔ ∃ u, Dn pcs u ∧ Acct im bits u i)
include hword

theorem word_sub (i : Nat) (hi : w.testBit i = true) : i = 30 ∨ im.testBit i = true ∨ i ∈ bits :=
  let ⟨u, _, h1⟩ := (hword i).1 hi
  h1.imp_right (Or.imp_right fun h2 => List.mem_iff_getElem?.2 ⟨u, h2⟩)

include ok hlen

theorem word_of_all_dn (hall : ∀ u, u < pcs.length → Dn pcs u) (i : Nat) :
    w.testBit i = true ↔ i = 30 ∨ im.testBit i = true ∨ i ∈ bits := by
  refine ⟨word_sub hword i, fun h1 => (hword i).2 ?_⟩
  by_cases hm : i ∈ bits
  · obtain ⟨u, hu⟩ := List.mem_iff_getElem?.1 hm
    exact ⟨u, hall u (hlen ▸ (List.getElem?_eq_some_iff.1 hu).1), Or.inr (Or.inr hu)⟩
  · exact ⟨0, hall 0 (hlen ▸ List.length_pos_iff.2 ok.ne), h1.imp_right fun h2 => Or.inl (h2.resolve_right hm)⟩

/-- The test of the last caller: each released flow is a goal bit that only its own caller sets, and every goal bit
    is an IN bit or a released flow. -/
theorem covers_iff : w &&& g = g ↔ ∀ u, u < pcs.length → Dn pcs u := by
  rw [and_eq_iff]
  constructor
  · intro hall u hu
    rw [hlen] at hu
    have hmem := List.getElem_mem hu
    -- the flow of `u` is a goal bit, so it is in the word; IN_DONE and the IN bits do not account for it
    obtain ⟨u', hu', h1 | h1 | h1⟩ := (hword bits[u]).1 (hall _ (ok.goal _ hmem))
    · have := ok.lt _ hmem; omega
    · rw [ok.notIn _ hmem] at h1; cases h1
    · obtain rfl : u = u' :=
        (List.getElem?_inj hu ok.nodup).1 ((List.getElem?_eq_getElem hu).trans h1.symm)
      exact hu'
  · exact fun hall i hg => (word_of_all_dn ok hlen hword hall i).2 (Or.inr (ok.cover i hg))

end covers

structure MInv (im g : Nat) (bits : List Nat) (s : MState) : Prop where
  len : s.pcs.length = bits.length
  word : ∀ i, s.w.testBit i = true ↔ ∃ u, Dn s.pcs u ∧ Acct im bits u i
  /-- a pending value carries IN_DONE, its own bit and the IN bits — or omits the IN bits, but then the word has
      them already -/
  pend : ∀ t v, s.pcs[t]? = some (.orr v) →
      ∀ i, (s.w ||| v).testBit i = true ↔ s.w.testBit i = true ∨ Acct im bits t i
  once : Once MPc.done s.pcs

theorem not_dn_replicate (n u : Nat) : ¬ Dn (List.replicate n MPc.start) u := by
  rintro ⟨r, hr⟩
  rw [List.getElem?_replicate] at hr
  split at hr <;> cases hr

theorem minv_init (im g : Nat) (bits : List Nat) (hne : bits ≠ []) : MInv im g bits (minit bits.length) := by
  refine ⟨List.length_replicate, fun i => ?_, fun t v h => ?_,
    Once.replicate (dn := MPc.done) (x := .start) nofun (List.length_pos_iff.2 hne)⟩
  · simp [minit, not_dn_replicate]
  · cases (List.mem_replicate.1 (List.mem_of_getElem? h)).2

theorem MInv.start {im g : Nat} {bits : List Nat} {s : MState} {t : Nat}
    (h : MInv im g bits s) (hpc : s.pcs[t]? = some .start) (v : Nat)
    (hv : ∀ i, (s.w ||| v).testBit i = true ↔ s.w.testBit i = true ∨ Acct im bits t i) :
    MInv im g bits { s with pcs := s.pcs.set t (.orr v) } := by
  have hi := lt_of_getElem? hpc
  have hnd : ¬ Dn s.pcs t := fun ⟨r, hr⟩ => by rw [hpc] at hr; cases hr
  refine ⟨by simp [h.len], fun i => ?_, fun t' v' h' => ?_, h.once.set_move hpc nofun _ nofun⟩
  · simp only [dn_set_orr s.pcs t _ v hi hnd]; exact h.word i
  · obtain ⟨rfl, e⟩ | ⟨_, h'⟩ := getElem?_set_cases h'
    · cases e; exact hv
    · exact h.pend t' v' h'

theorem MInv.orr {im g : Nat} {bits : List Nat} (ok : MaskOK im g bits) {s : MState} {t v : Nat}
    (h : MInv im g bits s) (hpc : s.pcs[t]? = some (.orr v)) (r : Bool) (hr : r = true ↔ (s.w ||| v) &&& g = g) :
    MInv im g bits { w := s.w ||| v, pcs := s.pcs.set t (.done r) } := by
  have hi := lt_of_getElem? hpc
  have hword : ∀ i, (s.w ||| v).testBit i = true ↔ ∃ u, Dn (s.pcs.set t (.done r)) u ∧ Acct im bits u i := fun i => by
    simp only [dn_set_done s.pcs t _ r hi, or_and_right, exists_or, exists_eq_left, ← h.word i, h.pend t v hpc i]
  refine ⟨by simp [h.len], hword, fun t' v' h' i => ?_, h.once.set hpc nofun _ ?_⟩
  · obtain ⟨_, e⟩ | ⟨_, h'⟩ := getElem?_set_cases h'
    · cases e
    · -- the word has grown by `v`; `v'` still adds to it what its call accounts for
      have := h.pend t' v' h' i
      simp only [Nat.testBit_or, Bool.or_eq_true] at this ⊢
      rw [or_right_comm, this, or_right_comm]
  · rw [MPc.done.injEq, hr, covers_iff ok (by simp [h.len]) hword, all_dn_iff]

theorem minv_step {im g : Nat} {bits : List Nat} (ok : MaskOK im g bits) (s : MState) (t : Nat)
    (h : MInv im g bits s) : MInv im g bits (mstep im g bits s t) := by
  unfold mstep
  split
  · next b h1 h2 =>
    refine h.start h1 _ fun i => ?_
    simp only [Nat.testBit_or (x := s.w), Bool.or_eq_true, Acct, h2, Option.some.injEq]
    split
    · rw [Nat.testBit_or, Bool.or_eq_true, testBit_orr, or_right_comm, or_assoc]
    · next hw =>
      -- the IN bits are left out only if IN_DONE was seen: some fetch-or has happened, and the word has them
      obtain ⟨u, hu, _⟩ := (h.word 30).1 (testBit_of_and_IN_DONE hw)
      have him : im.testBit i = true → s.w.testBit i = true := fun hi => (h.word i).2 ⟨u, hu, .inr (.inl hi)⟩
      rw [testBit_orr, or_left_comm (a := i = 30), ← or_assoc (b := im.testBit i = true), or_iff_left_of_imp him]
  · next v h1 => exact h.orr ok h1 _ decide_eq_true_iff
  · exact h

theorem minv_run {im g : Nat} {bits : List Nat} (ok : MaskOK im g bits) (sched : List Nat) :
    MInv im g bits (mrun im g bits sched) :=
  foldl_inv (minv_step ok) sched (minv_init im g bits ok.ne)

theorem mem_indexed {α} (l : List α) (p : Nat × α) : p ∈ indexed l ↔ l[p.1]? = some p.2 := by
  simp only [indexed, List.mem_iff_getElem?, List.getElem?_zip_eq_some, List.getElem?_eq_some_iff (l := List.range _),
    List.getElem_range, List.length_range]
  exact ⟨fun ⟨_, ⟨_, e⟩, h⟩ => e ▸ h, fun h => ⟨_, ⟨(List.getElem?_eq_some_iff.1 h).1, rfl⟩, h⟩⟩

theorem rel_in_disjoint (k : FlowKind) (h : isRel k = true) : isIn k = false := by
  cases k with
  | dataDeps d => rw [isRel, beq_iff_eq] at h; simp [isIn, h]
  | ctlDeps d => rw [isRel] at h; simp [isIn, h]
  | _ => simp_all [isRel, isIn]

theorem mem_releaseBits (flows : List FlowKind) (i : Nat) :
    i ∈ releaseBits flows ↔ ∃ k, flows[i]? = some k ∧ isRel k = true := by
  simp only [releaseBits, List.mem_filterMap, mem_indexed, Option.ite_none_right_eq_some, Option.some.injEq]
  exact ⟨fun ⟨p, h, hr, e⟩ => ⟨p.2, e ▸ h, hr⟩, fun ⟨k, h, hr⟩ => ⟨(i, k), h, hr, rfl⟩⟩

theorem testBit_foldl_or {α} (f : α → Nat) (L : List α) (a i : Nat) :
    ((L.map f).foldl (· ||| ·) a).testBit i = true ↔ a.testBit i = true ∨ ∃ x ∈ L, (f x).testBit i = true := by
  induction L generalizing a with
  | nil => simp
  | cons x xs ih => simp [ih, or_assoc]

theorem testBit_inBitOf (j : Nat) (k : FlowKind) (i : Nat) :
    (inBitOf j k).testBit i = true ↔ j = i ∧ isIn k = true := by
  cases h : isIn k <;> simp [inBitOf, h, Nat.testBit_two_pow]

theorem testBit_inMask (flows : List FlowKind) (i : Nat) :
    (inMask flows).testBit i = true ↔ ∃ k, flows[i]? = some k ∧ isIn k = true := by
  simp only [inMask, testBit_foldl_or, Nat.zero_testBit, Bool.false_eq_true, false_or, mem_indexed, testBit_inBitOf]
  exact ⟨fun ⟨p, h, e, hr⟩ => ⟨p.2, e ▸ h, hr⟩, fun ⟨k, h, hr⟩ => ⟨(i, k), h, rfl, hr⟩⟩

theorem nodup_releaseBits (flows : List FlowKind) : (releaseBits flows).Nodup := by
  -- the first components of `indexed flows` are `range`, and a kept entry contributes its first component
  have hp : ((indexed flows).map (·.1)).Nodup := by
    rw [indexed, List.map_fst_zip (by simp)]; exact List.nodup_range
  refine (List.pairwise_map.1 hp).filterMap _ fun p q hpq b hb b' hb' => ?_
  rw [Option.ite_none_right_eq_some, Option.some.injEq] at hb hb'
  exact hb.2 ▸ hb'.2 ▸ hpq

theorem testBit_goalMask (flows : List FlowKind) (i : Nat) : (goalMask flows).testBit i = decide (i < flows.length) :=
  Nat.testBit_two_pow_sub_one _ _

/-- The hypotheses do not exclude a control gather `.ctl k`, but a class that has one uses counters, not masks;
    only for the other classes is one thread per entry of `releaseBits` exactly the set of releases. -/
theorem maskOK_of_flows (flows : List FlowKind) (hlen : flows.length ≤ 30) (hne : releaseBits flows ≠ [])
    (hwf : ∀ k ∈ flows, flowWF k = true) :
    MaskOK (inMask flows) (goalMask flows) (releaseBits flows) := by
  have hlt : ∀ b ∈ releaseBits flows, b < flows.length := fun b hb =>
    let ⟨_, hk, _⟩ := (mem_releaseBits flows b).1 hb
    (List.getElem?_eq_some_iff.1 hk).1
  refine ⟨nodup_releaseBits flows, hne, fun b hb => Nat.lt_of_lt_of_le (hlt b hb) hlen,
    fun b hb => by rw [testBit_goalMask, decide_eq_true (hlt b hb)], fun b hb => ?_, fun i hg => ?_,
    by rw [testBit_goalMask, decide_eq_false (by omega)]⟩
  · obtain ⟨k, hk, hr⟩ := (mem_releaseBits flows b).1 hb
    refine Bool.eq_false_iff.2 fun hm => ?_
    obtain ⟨k', hk', hin⟩ := (testBit_inMask flows b).1 hm
    obtain rfl : k = k' := Option.some.inj (hk.symm.trans hk')
    rw [rel_in_disjoint k hr] at hin
    cases hin
  · rw [testBit_goalMask, decide_eq_true_eq] at hg
    have hk := List.getElem?_eq_getElem hg
    exact (Bool.or_eq_true_iff.1 (hwf _ (List.getElem_mem hg))).symm.imp
      (fun h => (testBit_inMask flows i).2 ⟨_, hk, h⟩) (fun h => (mem_releaseBits flows i).2 ⟨_, hk, h⟩)

end ParsecVerif.DepWordMask
