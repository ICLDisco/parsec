import ParsecVerif.Model.Ptg
import ParsecVerif.Base.List
/-!
  The PTG language layer: the values of a range, the nested enumeration `enumSem` (membership = range constraints, no
  duplicates) and the startup enumeration.
-/
namespace ParsecVerif.Ptg

/-- the range constraint of a JDF range `lo .. hi .. step` on a value -/
def InRange (lo hi st v : Int) : Prop :=
  (0 < st ∧ lo ≤ v ∧ v ≤ hi ∧ (v - lo) % st = 0) ∨ (st < 0 ∧ hi ≤ v ∧ v ≤ lo ∧ (lo - v) % (-st) = 0)

/-- the values of a counting loop from `lo` by `st` whose distance to the end is `m`, for `d = |st|`:
    `m / d + 1` iterations, none if that is not positive -/
def loopVals (lo st m d : Int) : List Int := (List.range (m / d + 1).toNat).map fun i : Nat => lo + st * (i : Int)

theorem rangeVals_eq_loopVals (lo hi st : Int) :
    rangeVals lo hi st = if 0 < st then loopVals lo st (hi - lo) st else if st < 0 then loopVals lo st (lo - hi) (-st) else [] := by
  -- the model guards the loop by `0 ≤ m` and counts `(m / d).toNat + 1`
  have key : ∀ m d : Int, 0 < d →
      (if 0 ≤ m then (List.range ((m / d).toNat + 1)).map (fun i : Nat => lo + st * (i : Int)) else []) = loopVals lo st m d :=
    fun m d hd => by
    unfold loopVals
    split
    · rw [Int.toNat_add (Int.ediv_nonneg ‹_› (Int.le_of_lt hd)) (by decide)]; rfl
    · rw [Int.toNat_of_nonpos (Int.ediv_neg_of_neg_of_pos (by omega) hd)]; rfl
  unfold rangeVals
  split
  · rw [← key _ _ ‹_›]; simp only [Int.sub_nonneg]
  · split
    · rw [← key _ _ (by omega)]; simp only [Int.sub_nonneg]
    · rfl

/-- `x` is the distance travelled from `lo` to `v` (`v - lo` going up, `lo - v` going down) and `d = |st|`: `hx` says so without
    naming the direction, so that one proof serves both signs of the step -/
theorem mem_loopVals {lo st v d m : Int} (hd : 0 < d) (x : Int) (hx : ∀ i : Nat, v = lo + st * i ↔ x = d * i) :
    v ∈ loopVals lo st m d ↔ 0 ≤ x ∧ x ≤ m ∧ x % d = 0 := by
  simp only [loopVals, List.mem_map, List.mem_range, eq_comm (b := v), hx]
  constructor
  · rintro ⟨i, hi, rfl⟩
    have hi' : (i : Int) * d ≤ m := (Int.le_ediv_iff_mul_le hd).1 (by omega)
    exact ⟨Int.mul_nonneg (Int.le_of_lt hd) (Int.natCast_nonneg i), Int.mul_comm .. ▸ hi', Int.mul_emod_right d i⟩
  · rintro ⟨h0, h1, h2⟩
    have hq0 : 0 ≤ x / d := Int.ediv_nonneg h0 (Int.le_of_lt hd)
    have hle : x / d ≤ m / d := Int.ediv_le_ediv hd h1
    exact ⟨(x / d).toNat, by omega,
      by rw [Int.toNat_of_nonneg hq0, Int.mul_ediv_cancel' (Int.dvd_of_emod_eq_zero h2)]⟩

theorem mem_rangeVals {lo hi st v : Int} : v ∈ rangeVals lo hi st ↔ InRange lo hi st v := by
  rw [rangeVals_eq_loopVals]; unfold InRange
  split
  · rw [mem_loopVals ‹_› (v - lo) fun i => by omega]; omega
  · split
    · rw [mem_loopVals (d := -st) (by omega) (lo - v) fun i => by rw [Int.neg_mul]; omega]; omega
    · simp only [List.not_mem_nil, false_iff]; omega

theorem nodup_loopVals (lo st m d : Int) (hs : st ≠ 0) : (loopVals lo st m d).Nodup :=
  Base.nodup_map_of_inj (fun _ _ h => Int.ofNat.inj (Int.eq_of_mul_eq_mul_left hs (Int.add_left_cancel h))) List.nodup_range

theorem nodup_rangeVals (lo hi st : Int) : (rangeVals lo hi st).Nodup := by
  rw [rangeVals_eq_loopVals]
  split
  · exact nodup_loopVals _ _ _ _ (by omega)
  · split
    · exact nodup_loopVals _ _ _ _ (by omega)
    · exact List.nodup_nil

/-- the local assignments that satisfy the range constraints, bounds and step evaluated on the earlier locals -/
def Sat : List LocalSem → List Int → List Int → Prop
  | [], _, s => s = []
  | .range lo hi st :: ds, pre, s => ∃ v t, s = v :: t ∧ InRange (lo pre) (hi pre) (st pre) v ∧ Sat ds (pre ++ [v]) t
  | .expr f :: ds, pre, s => ∃ t, s = f pre :: t ∧ Sat ds (pre ++ [f pre]) t

theorem mem_enumSem_iff (ds : List LocalSem) (pre s : List Int) : s ∈ enumSem ds pre ↔ Sat ds pre s := by
  fun_induction enumSem ds pre generalizing s with
  | case1 => simp [Sat]
  | case2 lo hi st ds pre ih =>
    simp only [Sat, List.mem_flatMap, List.mem_map, mem_rangeVals, ih]
    exact ⟨fun ⟨v, hv, t, ht, e⟩ => ⟨v, t, e.symm, hv, ht⟩, fun ⟨v, t, e, hv, ht⟩ => ⟨v, hv, t, ht, e.symm⟩⟩
  | case3 f ds pre ih =>
    simp only [Sat, List.mem_map, ih]
    exact ⟨fun ⟨t, ht, e⟩ => ⟨t, e.symm, ht⟩, fun ⟨t, e, ht⟩ => ⟨t, ht, e.symm⟩⟩

def LocalSem.vals : LocalSem → List Int → List Int
  | .range lo hi st, pre => rangeVals (lo pre) (hi pre) (st pre)
  | .expr f, pre => [f pre]

theorem enumSem_cons (d : LocalSem) (ds : List LocalSem) (pre : List Int) :
    enumSem (d :: ds) pre = (d.vals pre).flatMap fun v => (enumSem ds (pre ++ [v])).map (v :: ·) := by
  cases d <;> simp [enumSem, LocalSem.vals]

/-- range and derived locals are one case through `LocalSem.vals` -/
theorem enumSem_induction {P : List LocalSem → List Int → List Int → Prop} (nil : ∀ pre, P [] pre [])
    (cons : ∀ d ds pre v t, v ∈ d.vals pre → t ∈ enumSem ds (pre ++ [v]) → P ds (pre ++ [v]) t → P (d :: ds) pre (v :: t))
    (ds pre s) (h : s ∈ enumSem ds pre) : P ds pre s := by
  induction ds generalizing pre s with
  | nil => rw [List.mem_singleton.1 h]; exact nil pre
  | cons d ds ih =>
    simp only [enumSem_cons, List.mem_flatMap, List.mem_map] at h
    obtain ⟨v, hv, t, ht, rfl⟩ := h
    exact cons d ds pre v t hv ht (ih _ t ht)

theorem length_of_mem_enumSem : ∀ (ds : List LocalSem) (pre s : List Int), s ∈ enumSem ds pre → s.length = ds.length :=
  enumSem_induction (fun _ => rfl) (fun _ _ _ _ _ _ _ ih => congrArg (· + 1) ih)

theorem nodup_enumSem (ds : List LocalSem) (pre : List Int) : (enumSem ds pre).Nodup := by
  fun_induction enumSem ds pre with
  | case1 => simp
  | case2 lo hi st ds pre ih =>
    exact Base.nodup_flatMap_map (nodup_rangeVals _ _ _) ih fun _ _ _ _ h => List.cons.inj h
  | case3 f ds pre ih => exact Base.nodup_map_of_inj (fun _ _ h => (List.cons.inj h).2) ih

theorem space_eq {p : Program} {c : Nat} {cl : TaskClass} (hc : p.classes[c]? = some cl) :
    space p c = enumSem (cl.sems p.globals) [] := by
  simp only [space, hc, spaceOf]

theorem optFlatMap_some {α β : Type} (l : List α) (f : α → Option (List β)) (g : α → List β)
    (h : ∀ x ∈ l, f x = some (g x)) : optFlatMap l f = some (l.flatMap g) := by
  induction l with
  | nil => rfl
  | cons x xs ih =>
    rw [List.forall_mem_cons] at h
    simp [optFlatMap, h.1, ih h.2]

theorem rangeVals_empty_of_lt {lo hi st : Int} (hs : 0 < st) (h : hi < lo) : rangeVals lo hi st = [] := by
  unfold rangeVals
  simp [hs]; omega

theorem startupVals_pos (lo hi st : Int) (hs : 0 < st) : startupVals lo hi st = some (rangeVals lo hi st) := by
  unfold startupVals
  by_cases hlt : hi < lo
  · simp [hlt, rangeVals_empty_of_lt hs hlt]
  · simp [hlt, hs]

/-- With positive steps the loops of the startup function (`k <= end; k += step`) visit exactly the assignments
    counted by `internal_init`, in the same order. -/
theorem startupSem_eq (ds : List LocalSem) (pre : List Int) (h : StepsPositive ds pre) : startupSem ds pre = some (enumSem ds pre) := by
  fun_induction enumSem ds pre with
  | case1 => rfl
  | case2 lo hi st ds pre ih =>
    simp only [startupSem, startupVals_pos _ _ _ h.1]
    exact optFlatMap_some _ _ _ fun v hv => by rw [ih v (h.2 v hv)]; rfl
  | case3 f ds pre ih =>
    rw [startupSem, ih h]
    rfl

end ParsecVerif.Ptg
