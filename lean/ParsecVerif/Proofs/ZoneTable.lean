import ParsecVerif.Model.Zone
/-! C28: lists of runs, and the segment table read as one (`Chain`); independent of the free-list map (Proofs/Zone.lean). -/
namespace ParsecVerif.Zone

/-- a run of the tiling: (status, units), the status as in `Seg`: 1 = SEGMENT_EMPTY, 2 = SEGMENT_FULL -/
abbrev Run := Nat × Nat

def usum : List Run → Nat
  | [] => 0
  | r :: l => r.2 + usum l

/-- the `nb_prev` that the segment after the runs `A` must carry; `p` is what the segment before `A` dictates -/
def lastU (p : Nat) : List Run → Nat
  | [] => p
  | r :: l => lastU r.2 l

/-- the table holds the runs of L one after the other from index t on; p = units of the run before
    (`init` writes `nb_prev = 1` into segment 0, hence `Chain segs 0 1 L` for a whole table) -/
def Chain (segs : List Seg) : Nat → Nat → List Run → Prop
  | _, _, [] => True
  | t, p, r :: l => segs[t]? = some ⟨r.1, r.2, p⟩ ∧ 0 < r.2 ∧ (r.1 = 1 ∨ r.1 = 2) ∧ Chain segs (t + r.2) r.2 l

/-- (first index, status, units) of every run -/
def starts : List Run → Nat → List (Nat × Nat × Nat)
  | [], _ => []
  | r :: l, t => (t, r.1, r.2) :: starts l (t + r.2)

/-- what the merging in `zone_free` maintains -/
def NoAdjE : List Run → Prop
  | [] => True
  | [_] => True
  | a :: b :: l => ¬(a.1 = 1 ∧ b.1 = 1) ∧ NoAdjE (b :: l)

def Pos (L : List Run) : Prop := ∀ r ∈ L, 0 < r.2

theorem usum_append (A B : List Run) : usum (A ++ B) = usum A + usum B := by
  induction A with
  | nil => simp [usum]
  | cons a A ih => simp [usum, ih]; omega

theorem lastU_append_cons (p : Nat) (A : List Run) (r : Run) (B : List Run) :
    lastU p (A ++ r :: B) = lastU r.2 B := by
  induction A generalizing p with
  | nil => rfl
  | cons a A ih => simp [lastU, ih]

theorem starts_append (A B : List Run) (t : Nat) :
    starts (A ++ B) t = starts A t ++ starts B (t + usum A) := by
  induction A generalizing t with
  | nil => simp [starts, usum]
  | cons a A ih => simp [starts, usum, ih, Nat.add_assoc]

theorem chain_append {segs : List Seg} {t p : Nat} {A B : List Run} :
    Chain segs t p (A ++ B) ↔ Chain segs t p A ∧ Chain segs (t + usum A) (lastU p A) B := by
  induction A generalizing t p with
  | nil => simp [Chain, usum, lastU]
  | cons a A ih =>
    simp only [List.cons_append, Chain, usum, lastU, ih, Nat.add_assoc, and_assoc]

theorem chain_at {segs : List Seg} {A B : List Run} {st k : Nat} (h : Chain segs 0 1 (A ++ (st, k) :: B)) :
    segs[usum A]? = some ⟨st, k, lastU 1 A⟩ := by
  have := ((chain_append).1 h).2.1
  rwa [Nat.zero_add] at this

theorem chain_mem {segs : List Seg} {t p : Nat} {L : List Run} (h : Chain segs t p L) :
    ∀ r ∈ L, 0 < r.2 ∧ (r.1 = 1 ∨ r.1 = 2) := by
  induction L generalizing t p with
  | nil => intro r hr; simp at hr
  | cons a L ih =>
    intro r hr
    rcases List.mem_cons.1 hr with rfl | hr
    · exact ⟨h.2.1, h.2.2.1⟩
    · exact ih h.2.2.2 r hr

theorem chain_pos {segs : List Seg} {t p : Nat} {L : List Run} (h : Chain segs t p L) : Pos L :=
  fun r hr => (chain_mem h r hr).1

theorem chain_congr {segs segs' : List Seg} {t p : Nat} {L : List Run}
    (h : ∀ i, t ≤ i → i < t + usum L → segs'[i]? = segs[i]?) (hc : Chain segs t p L) : Chain segs' t p L := by
  induction L generalizing t p with
  | nil => trivial
  | cons a L ih =>
    obtain ⟨h1, h2, h3, h4⟩ := hc
    simp only [usum] at h
    exact ⟨(h t (Nat.le_refl _) (by omega)).trans h1, h2, h3, ih (fun i hi hi' => h i (by omega) (by omega)) h4⟩

theorem mem_starts_split {L : List Run} {off t st u : Nat} (h : (t, st, u) ∈ starts L off) :
    ∃ A B, L = A ++ (st, u) :: B ∧ t = off + usum A := by
  induction L generalizing off with
  | nil => simp [starts] at h
  | cons a L ih =>
    simp only [starts, List.mem_cons, Prod.mk.injEq] at h
    rcases h with ⟨rfl, rfl, rfl⟩ | h
    · exact ⟨[], L, rfl, rfl⟩
    · obtain ⟨A, B, hL, ht⟩ := ih h
      exact ⟨a :: A, B, by simp [hL], by simp [usum]; omega⟩

theorem mem_starts_bounds {L : List Run} {off t st u : Nat} (h : (t, st, u) ∈ starts L off) :
    off ≤ t ∧ t + u ≤ off + usum L := by
  obtain ⟨A, B, hL, ht⟩ := mem_starts_split h
  subst hL; rw [usum_append]; simp only [usum]; omega

theorem mem_starts_pos {L : List Run} (hp : Pos L) {off t st u : Nat} (h : (t, st, u) ∈ starts L off) : 0 < u := by
  obtain ⟨A, B, hL, _⟩ := mem_starts_split h
  subst hL; exact hp (st, u) (by simp)

theorem starts_disjoint {L : List Run} {off : Nat} {x x' : Nat × Nat × Nat}
    (h : x ∈ starts L off) (h' : x' ∈ starts L off) (hne : x ≠ x') :
    x.1 + x.2.2 ≤ x'.1 ∨ x'.1 + x'.2.2 ≤ x.1 := by
  induction L generalizing off with
  | nil => simp [starts] at h
  | cons r l ih =>
    simp only [starts, List.mem_cons] at h h'
    rcases h with h | h <;> rcases h' with h' | h'
    · exact absurd (h.trans h'.symm) hne
    · exact .inl (h ▸ (mem_starts_bounds h').1)
    · exact .inr (h' ▸ (mem_starts_bounds h).1)
    · exact ih h h'

theorem mem_starts_mid (A B : List Run) (r : Run) (x : Nat × Nat × Nat) :
    x ∈ starts (A ++ r :: B) 0 ↔ x ∈ starts A 0 ∨ x = (usum A, r.1, r.2) ∨ x ∈ starts B (usum A + r.2) := by
  rw [starts_append]; simp [starts]

theorem mem_starts_flip (A B : List Run) (st st' k : Nat) (hne : st ≠ st') (t u : Nat) :
    (t, st, u) ∈ starts (A ++ (st, k) :: B) 0 ↔ (t = usum A ∧ u = k) ∨ (t, st, u) ∈ starts (A ++ (st', k) :: B) 0 := by
  simp only [mem_starts_mid, Prod.mk.injEq, hne, true_and, false_and, and_false, false_or]
  exact or_left_comm

theorem pos_of_units {L L' : List Run} (hp : Pos L) (h : L'.map (·.2) = L.map (·.2)) : Pos L' := fun r hr => by
  have hm : r.2 ∈ L'.map (·.2) := List.mem_map_of_mem hr
  rw [h] at hm
  obtain ⟨r', hr', e⟩ := List.mem_map.1 hm
  rw [← e]; exact hp r' hr'

theorem not_mem_starts_flip {A B : List Run} {st st' st0 k u : Nat} (hne : st ≠ st') (hp : Pos (A ++ (st0, k) :: B)) :
    (usum A, st, u) ∉ starts (A ++ (st', k) :: B) 0 := fun h => by
  rcases (mem_starts_mid A B (st', k) _).1 h with h | h | h
  · have := (mem_starts_bounds h).2
    have := mem_starts_pos (fun r hr => hp r (List.mem_append_left _ hr)) h
    omega
  · exact hne (Prod.mk.inj (Prod.mk.inj h).2).1
  · have := (mem_starts_bounds h).1
    have := hp (st0, k) (by simp)
    simp only at *
    omega

theorem mem_starts_regroup (A B : List Run) (st st' a b t u : Nat) (hne : st ≠ st') :
    (t, st, u) ∈ starts (A ++ (st', a) :: (st', b) :: B) 0 ↔ (t, st, u) ∈ starts (A ++ (st', a + b) :: B) 0 := by
  simp only [starts_append, starts, List.mem_append, List.mem_cons, Prod.mk.injEq, hne, false_and, and_false, false_or,
    Nat.add_assoc]

/-- status of the last run (`headSt`: of the first); 0, which is no status, for the empty list, so that a missing
    neighbour never counts as EMPTY in `noadj_iff` -/
def lastSt : List Run → Nat
  | [] => 0
  | [r] => r.1
  | _ :: r :: l => lastSt (r :: l)

def headSt : List Run → Nat
  | [] => 0
  | r :: _ => r.1

theorem lastSt_concat (A : List Run) (r : Run) : lastSt (A ++ [r]) = r.1 := by
  induction A with
  | nil => rfl
  | cons a A ih =>
    cases A with
    | nil => rfl
    | cons a' A' => simpa [lastSt] using ih

theorem noadj_iff (A B : List Run) (r : Run) :
    NoAdjE (A ++ r :: B) ↔ NoAdjE A ∧ NoAdjE B ∧ ¬(lastSt A = 1 ∧ r.1 = 1) ∧ ¬(r.1 = 1 ∧ headSt B = 1) := by
  induction A with
  | nil =>
    cases B with
    | nil => simp [NoAdjE, lastSt, headSt]
    | cons b B => simp [NoAdjE, lastSt, headSt]; exact And.comm
  | cons a A ih =>
    cases A with
    | nil =>
      simp only [List.nil_append, List.cons_append, NoAdjE, lastSt] at ih ⊢
      rw [ih]; simp
      exact and_left_comm
    | cons a' A' =>
      simp only [List.cons_append, NoAdjE, lastSt] at ih ⊢
      rw [ih]
      exact and_assoc.symm

theorem noadj_append_cons (A : List Run) (r : Run) (B : List Run) :
    NoAdjE (A ++ r :: B) → NoAdjE A ∧ NoAdjE (r :: B) := fun h =>
  have ⟨hA, hB, _, h2⟩ := (noadj_iff A B r).1 h
  ⟨hA, (noadj_iff [] B r).2 ⟨trivial, hB, fun h => absurd h.1 (by decide), h2⟩⟩

/-- the table may change only on the indices of `M` and in the back-pointer of the run that follows (`hb`) -/
theorem chain_patch (segs segs' : List Seg) (A M M' B : List Run) (hu : usum M' = usum M)
    (h : Chain segs 0 1 (A ++ (M ++ B)))
    (hout : ∀ i, i < usum A ∨ usum A + usum M < i → segs'[i]? = segs[i]?)
    (hM : Chain segs' (usum A) (lastU 1 A) M')
    (hb : ∀ st u, segs[usum A + usum M]? = some ⟨st, u, lastU (lastU 1 A) M⟩ →
      segs'[usum A + usum M]? = some ⟨st, u, lastU (lastU 1 A) M'⟩) :
    Chain segs' 0 1 (A ++ (M' ++ B)) := by
  simp only [chain_append, Nat.zero_add] at h ⊢
  obtain ⟨hA, _, hB⟩ := h
  refine ⟨chain_congr (fun i _ hi => hout i (.inl (by omega))) hA, hM, ?_⟩
  rw [hu]
  cases B with
  | nil => trivial
  | cons b B =>
    obtain ⟨h1, h2, h3, h4⟩ := hB
    exact ⟨hb _ _ h1, h2, h3, chain_congr (fun i hi _ => hout i (.inr (by omega))) h4⟩

/-- `fixNextPrev`, `addPrev`, `addUnits` and `setPrev` all rewrite one entry of the table, if it exists -/
def upd (S : List Seg) (i : Nat) (F : Seg → Seg) : List Seg :=
  match S[i]? with
  | some x => S.set i (F x)
  | none => S

theorem getElem?_upd (S : List Seg) (i : Nat) (F : Seg → Seg) (j : Nat) :
    (upd S i F)[j]? = if j = i then S[i]?.map F else S[j]? := by
  unfold upd
  cases h : S[i]? with
  | none => by_cases hj : j = i <;> simp [hj, h]
  | some x =>
    have := (List.getElem?_eq_some_iff.1 h).1
    by_cases hj : j = i
    · subst hj; simp [this]
    · simp [hj, List.getElem?_set_ne (Ne.symm hj)]

theorem length_upd (S : List Seg) (i : Nat) (F : Seg → Seg) : (upd S i F).length = S.length := by
  unfold upd; split <;> simp

theorem length_addPrev (s : List Seg) (i d : Nat) : (addPrev s i d).length = s.length := length_upd s i _
theorem length_addUnits (s : List Seg) (i d : Nat) : (addUnits s i d).length = s.length := length_upd s i _
theorem length_setPrev (s : List Seg) (i d : Nat) : (setPrev s i d).length = s.length := length_upd s i _

theorem length_splitSegs (segs : List Seg) (t nb cu p : Nat) : (splitSegs segs t nb cu p).length = segs.length := by
  show (((upd (segs.set _ _) _ _).set _ _).set _ _).length = _
  simp only [List.length_set, length_upd]

/-- re-marking a run (FULL at an exact fit of `zone_malloc`, EMPTY at the start of `zone_free`) on the table -/
theorem chain_restatus (segs : List Seg) (A B : List Run) (st st' u : Nat) (hst : st' = 1 ∨ st' = 2)
    (h : Chain segs 0 1 (A ++ (st, u) :: B)) :
    Chain (segs.set (usum A) ⟨st', u, lastU 1 A⟩) 0 1 (A ++ (st', u) :: B) := by
  obtain ⟨h1, h2, _⟩ := ((chain_append).1 h).2
  rw [Nat.zero_add] at h1
  have hlt := (List.getElem?_eq_some_iff.1 h1).1
  refine chain_patch segs _ A [(st, u)] [(st', u)] B rfl h (fun i hi => List.getElem?_set_ne (by omega))
    ⟨List.getElem?_set_self hlt, h2, hst, trivial⟩ (fun _ _ hs => ?_)
  rw [List.getElem?_set_ne (by simp only [usum]; omega)]; exact hs

theorem chain_split (segs : List Seg) (A B : List Run) (k nb : Nat) (h0 : 0 < nb) (hk : nb < k)
    (h : Chain segs 0 1 (A ++ (1, k) :: B)) (htot : usum (A ++ (1, k) :: B) = segs.length) :
    Chain (splitSegs segs (usum A) nb k (lastU 1 A)) 0 1 (A ++ (2, nb) :: (1, k - nb) :: B) := by
  simp only [usum_append, usum] at htot
  refine chain_patch segs _ A [(1, k)] [(2, nb), (1, k - nb)] B (by simp only [usum]; omega) h (fun i hi => ?_)
    ⟨?_, h0, .inr rfl, ?_, by omega, .inl rfl, trivial⟩ (fun st u hs => ?_) <;>
    simp only [usum, Nat.add_zero] at * <;>
    show (((upd (segs.set _ _) _ _).set _ _).set _ _)[_]? = _
  · rw [List.getElem?_set_ne (by omega), List.getElem?_set_ne (by omega), getElem?_upd, if_neg (by omega),
      List.getElem?_set_ne (by omega)]
  · rw [List.getElem?_set_self (by simp only [List.length_set, length_upd]; omega)]
  · rw [List.getElem?_set_ne (by omega), List.getElem?_set_self (by simp only [length_upd, List.length_set]; omega)]
  · rw [List.getElem?_set_ne (by omega), List.getElem?_set_ne (by omega), getElem?_upd, if_pos (by omega),
      List.getElem?_set_ne (by omega), hs]
    rfl

/-- what a table has to hold for two adjacent EMPTY runs to become one, whichever writes produce it -/
theorem chain_merge (segs segs' : List Seg) (A B : List Run) (a b : Nat)
    (h : Chain segs 0 1 (A ++ (1, a) :: (1, b) :: B))
    (hout : ∀ i, i < usum A ∨ usum A + a + b < i → segs'[i]? = segs[i]?)
    (hhd : segs'[usum A]? = some ⟨1, a + b, lastU 1 A⟩)
    (hnx : ∀ st u, segs[usum A + a + b]? = some ⟨st, u, b⟩ → segs'[usum A + a + b]? = some ⟨st, u, a + b⟩) :
    Chain segs' 0 1 (A ++ (1, a + b) :: B) := by
  obtain ⟨_, h2, _, _, h3, _⟩ := ((chain_append).1 h).2
  refine chain_patch segs _ A [(1, a), (1, b)] [(1, a + b)] B (by simp only [usum]; omega) h (fun i hi => hout i ?_)
    ⟨hhd, by omega, .inl rfl, trivial⟩ (fun st u hs => ?_) <;>
    simp only [usum, Nat.add_zero, ← Nat.add_assoc] at *
  · exact hi
  · exact hnx st u hs

/-- the prev block of zone_free on the table -/
theorem chain_merge_prev (segs : List Seg) (A B : List Run) (pu c : Nat)
    (h : Chain segs 0 1 (A ++ (1, pu) :: (1, c) :: B)) :
    Chain (addUnits (addPrev segs (usum A + pu + c) pu) (usum A) c) 0 1 (A ++ (1, pu + c) :: B) := by
  have h1 := chain_at h
  have hpu : 0 < pu := chain_pos h (1, pu) (by simp)
  refine chain_merge segs _ A B pu c h (fun i hi => ?_) ?_ (fun st u hs => ?_) <;>
    show (upd (upd segs _ _) _ _)[_]? = _
  · rw [getElem?_upd, if_neg (by omega), getElem?_upd, if_neg (by omega)]
  · rw [getElem?_upd, if_pos rfl, getElem?_upd, if_neg (by omega), h1]; rfl
  · rw [getElem?_upd, if_neg (by omega), getElem?_upd, if_pos rfl, hs]
    simp only [Option.map_some, Nat.add_comm]

/-- the next block of zone_free on the table -/
theorem chain_merge_next (segs : List Seg) (A B : List Run) (c nu : Nat)
    (h : Chain segs 0 1 (A ++ (1, c) :: (1, nu) :: B)) :
    Chain (setPrev (addUnits segs (usum A) nu) (usum A + c + nu) (unitsOf (addUnits segs (usum A) nu)[usum A]?)) 0 1
      (A ++ (1, c + nu) :: B) := by
  have hc : 0 < c := chain_pos h (1, c) (by simp)
  have hu : (addUnits segs (usum A) nu)[usum A]? = some ⟨1, c + nu, lastU 1 A⟩ := by
    show (upd segs _ _)[_]? = _
    rw [getElem?_upd, if_pos rfl, chain_at h]; rfl
  rw [hu]
  refine chain_merge segs _ A B c nu h (fun i hi => ?_) ?_ (fun st u hs => ?_) <;>
    show (upd (upd segs _ _) _ _)[_]? = _
  · rw [getElem?_upd, if_neg (by omega), getElem?_upd, if_neg (by omega)]
  · rw [getElem?_upd, if_neg (by omega)]; exact hu
  · rw [getElem?_upd, if_pos rfl, getElem?_upd, if_neg (by omega), hs]
    rfl

end ParsecVerif.Zone
