import ParsecVerif.Proofs.RbTreeMirror
/-! What each function of the red-black tree model does to the in-order traversal, which rotations and
    recolourings never change: on a sorted traversal insert and remove are `insList` and `eraseId`, and
    update_node is `eraseId` followed by `insList`. -/
namespace ParsecVerif.RbTree
open Tree

/-- non-strict: duplicate keys are accepted by `insert` -/
def Sorted (l : List (Int × Nat)) : Prop := l.Pairwise (fun a b => a.1 ≤ b.1)

def insList (k : Int) (z : Nat) : List (Int × Nat) → List (Int × Nat)
  | [] => [(k, z)]
  | a :: l => if k < a.1 then (k, z) :: a :: l else a :: insList k z l

def eraseId (z : Nat) : List (Int × Nat) → List (Int × Nat)
  | [] => []
  | a :: l => if a.2 = z then l else a :: eraseId z l

@[simp] theorem inorder_nil : inorder nil = [] := rfl
@[simp] theorem inorder_node (c l k i r) : inorder (node c l k i r) = inorder l ++ (k, i) :: inorder r := rfl

@[simp] theorem inorder_setColor (c : Color) (t : Tree) : inorder (setColor c t) = inorder t := by
  cases t <;> rfl

@[simp] theorem inorder_rotL (t : Tree) : inorder (rotL t) = inorder t := by
  unfold rotL
  split <;> simp

@[simp] theorem inorder_rotR (t : Tree) : inorder (rotR t) = inorder t := by
  unfold rotR
  split <;> simp

theorem inorder_insFixL (gc : Color) (p : Tree) (gk : Int) (gi : Nat) (y : Tree) (st : IStat) :
    inorder (insFixL gc p gk gi y st).1 = inorder p ++ (gk, gi) :: inorder y := by
  cases st <;> simp only [insFixL] <;> (try split) <;> simp

theorem inorder_mirror : ∀ t, inorder (mirror t) = (inorder t).reverse
  | nil => rfl
  | node _ l k i r => by simp [mirror, inorder_mirror l, inorder_mirror r]

theorem inorder_insFixR (gc : Color) (y : Tree) (gk : Int) (gi : Nat) (p : Tree) (st : IStat) :
    inorder (insFixR gc y gk gi p st).1 = inorder y ++ (gk, gi) :: inorder p := by
  simp [insFixR_mirror, inorder_mirror, inorder_insFixL]

theorem insList_append_lt (k : Int) (z : Nat) (a : Int × Nat) (h : k < a.1) (L R : List (Int × Nat)) :
    insList k z (L ++ a :: R) = insList k z L ++ a :: R := by
  induction L with
  | nil => simp [insList, h]
  | cons b L ih =>
    simp only [List.cons_append, insList, ih]
    split <;> rfl

theorem insList_skip (k : Int) (z : Nat) (R : List (Int × Nat)) :
    ∀ L : List (Int × Nat), (∀ b ∈ L, b.1 ≤ k) → insList k z (L ++ R) = L ++ insList k z R
  | [], _ => rfl
  | a :: L, h => by
    have ⟨ha, hL⟩ := List.forall_mem_cons.1 h
    rw [List.cons_append, insList, if_neg (Int.not_lt.2 ha), insList_skip k z R L hL]; rfl

theorem insList_of_lt (k : Int) (z : Nat) : ∀ R : List (Int × Nat), (∀ b ∈ R, k < b.1) → insList k z R = (k, z) :: R
  | [], _ => rfl
  | b :: _, h => if_pos (h b List.mem_cons_self)

theorem sorted_middle {L R : List (Int × Nat)} {a : Int × Nat} :
    Sorted (L ++ a :: R) ↔ Sorted L ∧ Sorted R ∧ (∀ p ∈ L, p.1 ≤ a.1) ∧ ∀ p ∈ R, a.1 ≤ p.1 := by
  simp only [Sorted, List.pairwise_append, List.pairwise_cons, List.forall_mem_cons]
  constructor
  · exact fun ⟨hL, ⟨haR, hR⟩, hLR⟩ => ⟨hL, hR, fun p hp => (hLR p hp).1, haR⟩
  · exact fun ⟨hL, hR, hLa, haR⟩ =>
      ⟨hL, ⟨haR, hR⟩, fun p hp => ⟨hLa p hp, fun q hq => Int.le_trans (hLa p hp) (haR q hq)⟩⟩

theorem inorder_ins (k : Int) (z : Nat) : ∀ (t : Tree), Sorted (inorder t) →
    inorder (ins k z t).1 = insList k z (inorder t)
  | nil, _ => rfl
  | node c l x i r, hs => by
    obtain ⟨hl, hr, hlx, -⟩ := sorted_middle.1 hs
    unfold ins
    split
    · next hlt => rw [inorder_insFixL, inorder_ins k z l hl, inorder_node, insList_append_lt k z (x, i) hlt]
    · next hge =>
      rw [inorder_insFixR, inorder_ins k z r hr, inorder_node,
        insList_skip k z _ _ fun b hb => Int.le_trans (hlx b hb) (Int.not_lt.1 hge), insList, if_neg hge]

theorem inorder_insert (t : Tree) (k : Int) (z : Nat) (h : Sorted (inorder t)) :
    inorder (insert t k z) = insList k z (inorder t) := by
  unfold insert; rw [inorder_setColor, inorder_ins k z t h]

theorem insList_perm (k : Int) (z : Nat) : ∀ (l : List (Int × Nat)), (insList k z l).Perm ((k, z) :: l)
  | [] => List.Perm.refl _
  | a :: l => by
    simp only [insList]
    split
    · exact List.Perm.refl _
    · exact ((insList_perm k z l).cons a).trans (List.Perm.swap _ _ _)

theorem mem_insList (k : Int) (z : Nat) (x : Int × Nat) (l : List (Int × Nat)) :
    x ∈ insList k z l ↔ x = (k, z) ∨ x ∈ l := by
  rw [(insList_perm k z l).mem_iff, List.mem_cons]

theorem sorted_insList (k : Int) (z : Nat) : ∀ (l : List (Int × Nat)), Sorted l → Sorted (insList k z l)
  | [], _ => List.pairwise_singleton _ _
  | a :: l, hs => by
    have ⟨ha, hl⟩ := List.pairwise_cons.1 hs
    rw [insList]
    split
    · next hlt =>
      exact List.pairwise_cons.2 ⟨List.forall_mem_cons.2
        ⟨Int.le_of_lt hlt, fun b hb => Int.le_trans (Int.le_of_lt hlt) (ha b hb)⟩, hs⟩
    · next hge =>
      refine List.pairwise_cons.2 ⟨fun b hb => ?_, sorted_insList k z l hl⟩
      rcases (mem_insList k z b l).1 hb with rfl | hb
      · exact Int.not_lt.1 hge
      · exact ha b hb

theorem inorder_delFixL2 (pc : Color) (x : Tree) (pk : Int) (pi : Nat) (w : Tree) :
    inorder (delFixL2 pc x pk pi w).1 = inorder x ++ (pk, pi) :: inorder w := by
  cases w with
  | nil => rfl
  | node wc wl wk wi wr =>
    simp only [delFixL2]
    split
    · simp
    · split
      · cases wl <;> simp [List.append_assoc]
      · simp [List.append_assoc]

theorem inorder_delFixR2 (pc : Color) (pk : Int) (pi : Nat) (x : Tree) (w : Tree) :
    inorder (delFixR2 pc pk pi x w).1 = inorder w ++ (pk, pi) :: inorder x := by
  simp [delFixR2_mirror, inorder_mirror, inorder_delFixL2]

theorem inorder_delFixL (pc : Color) (x : Tree) (pk : Int) (pi : Nat) (w : Tree) :
    inorder (delFixL pc x pk pi w).1 = inorder x ++ (pk, pi) :: inorder w := by
  unfold delFixL
  split
  · simp [inorder_delFixL2, List.append_assoc]
  · exact inorder_delFixL2 ..

theorem inorder_delFixR (pc : Color) (pk : Int) (pi : Nat) (x : Tree) (w : Tree) :
    inorder (delFixR pc pk pi x w).1 = inorder w ++ (pk, pi) :: inorder x := by
  simp [delFixR_mirror, inorder_mirror, inorder_delFixL]

theorem inorder_upL (c : Color) (res : Tree × DStat) (k : Int) (i : Nat) (r : Tree) :
    inorder (upL c res k i r).1 = inorder res.1 ++ (k, i) :: inorder r := by
  unfold upL
  split
  · exact inorder_delFixL ..
  · rfl

theorem inorder_upR (c : Color) (l : Tree) (k : Int) (i : Nat) (res : Tree × DStat) :
    inorder (upR c l k i res).1 = inorder l ++ (k, i) :: inorder res.1 := by
  simp [upR_mirror, inorder_mirror, inorder_upL]

theorem inorder_splice (c : Color) (x : Tree) : inorder (splice c x).1 = inorder x := by
  unfold splice
  split
  · split <;> simp
  · rfl

theorem minNode_eq_head : ∀ (t : Tree), minNode t = (inorder t).head?
  | nil => rfl
  | node _ nil _ _ _ => rfl
  | node _ (node lc ll lk li lr) k i r => by
    simp only [minNode]
    rw [minNode_eq_head (node lc ll lk li lr)]
    simp [List.head?_append]

theorem getLast?_append_cons {α} (L : List α) (a : α) (R : List α) : (L ++ a :: R).getLast? = (a :: R).getLast? := by
  rw [List.getLast?_append, List.getLast?_cons]; rfl

theorem maxNode_eq_getLast : ∀ (t : Tree), maxNode t = (inorder t).getLast?
  | nil => rfl
  | node _ l k i nil => by simp [maxNode]
  | node c l k i (node rc rl rk ri rr) => by
    simp only [maxNode]
    rw [maxNode_eq_getLast (node rc rl rk ri rr), inorder_node c l, getLast?_append_cons,
      List.getLast?_cons_of_ne_nil (by simp)]

theorem inorder_delMin : ∀ (t : Tree), inorder (delMin t).1 = (inorder t).tail
  | nil => rfl
  | node c nil k i r => by simp [delMin, inorder_splice]
  | node c (node lc ll lk li lr) k i r => by
    simp only [delMin]
    rw [inorder_upL, inorder_delMin (node lc ll lk li lr), inorder_node c, List.tail_append_of_ne_nil (by simp)]

theorem inorder_delRoot (c : Color) (l : Tree) (k : Int) (i : Nat) (r : Tree) :
    inorder (delRoot (node c l k i r)).1 = inorder l ++ inorder r := by
  cases l with
  | nil => simp [delRoot, inorder_splice]
  | node lc ll lk li lr =>
    cases r with
    | nil => simp [delRoot, inorder_splice]
    | node rc rl rk ri rr =>
      simp only [delRoot, minNode_eq_head]
      cases hR : inorder (node rc rl rk ri rr) with
      | nil => simp at hR
      | cons a R =>
        simp only [List.head?_cons]
        rw [inorder_upR, inorder_delMin, hR]
        rfl

abbrev anyId (z : Nat) (l : List (Int × Nat)) : Bool := l.any (fun p => p.2 == z)

theorem hasId_eq_any : ∀ (t : Tree) (z : Nat), hasId z t = anyId z (inorder t)
  | nil, _ => rfl
  | node _ l k i r, z => by
    simp [hasId, hasId_eq_any l z, hasId_eq_any r z, Bool.or_assoc]

theorem eraseId_eq_eraseP (z : Nat) : ∀ (l : List (Int × Nat)), eraseId z l = l.eraseP (fun p => p.2 == z)
  | [] => rfl
  | a :: l => by by_cases h : a.2 = z <;> simp [eraseId, h, eraseId_eq_eraseP z l]

theorem eraseId_append (z : Nat) (L R : List (Int × Nat)) :
    eraseId z (L ++ R) = if anyId z L then eraseId z L ++ R else L ++ eraseId z R := by
  simp only [eraseId_eq_eraseP]
  exact List.eraseP_append

theorem eraseId_split (z : Nat) (L R : List (Int × Nat)) (k : Int) (hL : anyId z L = false) :
    eraseId z (L ++ (k, z) :: R) = L ++ R := by
  rw [eraseId_append, hL]; simp [eraseId]

theorem inorder_del (z : Nat) : ∀ (t : Tree), inorder (del z t).1 = eraseId z (inorder t)
  | nil => rfl
  | node c l k i r => by
    rw [inorder_node, eraseId_append, ← hasId_eq_any]
    simp only [del, eraseId]
    -- both sides branch alike: `z` in the left subtree, at the root, in the right subtree
    split
    · rw [inorder_upL, inorder_del z l]
    · split
      · rw [inorder_delRoot]
      · rw [inorder_upR, inorder_del z r]

theorem inorder_remove (t : Tree) (z : Nat) : inorder (remove t z) = eraseId z (inorder t) := by
  unfold remove
  split <;> simp [inorder_del]

theorem eraseId_sublist (z : Nat) (l : List (Int × Nat)) : (eraseId z l).Sublist l :=
  eraseId_eq_eraseP z l ▸ List.eraseP_sublist

theorem sorted_eraseId (z : Nat) (l : List (Int × Nat)) (h : Sorted l) : Sorted (eraseId z l) :=
  List.Pairwise.sublist (eraseId_sublist z l) h

theorem forall_mem_node {P : Int × Nat → Prop} {c l k i r} :
    (∀ p ∈ inorder (node c l k i r), P p) ↔ (∀ p ∈ inorder l, P p) ∧ P (k, i) ∧ ∀ p ∈ inorder r, P p := by
  simp only [inorder_node, List.forall_mem_append, List.forall_mem_cons]

theorem find_spec (q : Int) : ∀ (t : Tree), Sorted (inorder t) →
    (∃ i, find q t = some (q, i) ∧ (q, i) ∈ inorder t) ∨ (find q t = none ∧ ∀ p ∈ inorder t, p.1 ≠ q)
  | nil, _ => .inr ⟨rfl, nofun⟩
  | node c l k i r, hs => by
    obtain ⟨hl, hr, hlk, hkr⟩ := sorted_middle.1 hs
    unfold find
    split
    · next hk => exact .inl ⟨i, hk ▸ rfl, hk ▸ List.mem_append_right _ List.mem_cons_self⟩
    next hk =>
    split
    · next hlt =>
      rcases find_spec q r hr with ⟨j, e, hm⟩ | ⟨e, hn⟩
      · exact .inl ⟨j, e, List.mem_append_right _ (List.mem_cons_of_mem _ hm)⟩
      · exact .inr ⟨e, forall_mem_node.2 ⟨fun p hp => by have := hlk p hp; omega, hk, hn⟩⟩
    · next hge =>
      rcases find_spec q l hl with ⟨j, e, hm⟩ | ⟨e, hn⟩
      · exact .inl ⟨j, e, List.mem_append_left _ hm⟩
      · exact .inr ⟨e, forall_mem_node.2 ⟨hn, hk, fun p hp => by have := hkr p hp; omega⟩⟩

theorem folAux_spec (q : Int) : ∀ (t : Tree) (larger : Option (Int × Nat)), Sorted (inorder t) →
    (folAux q larger t = larger ∧ ∀ p ∈ inorder t, p.1 < q) ∨
    (∃ m, folAux q larger t = some m ∧ m ∈ inorder t ∧ q ≤ m.1 ∧ ∀ p ∈ inorder t, q ≤ p.1 → m.1 ≤ p.1)
  | nil, _, _ => .inl ⟨rfl, nofun⟩
  | node c l k i r, larger, hs => by
    obtain ⟨hl, hr, hlk, hkr⟩ := sorted_middle.1 hs
    have hmid : (k, i) ∈ inorder (node c l k i r) := List.mem_append_right _ List.mem_cons_self
    unfold folAux
    split
    · next hk => exact .inr ⟨(k, i), rfl, hmid, by omega, fun p _ hq => by show k ≤ p.1; omega⟩
    next hk =>
    split
    · next hlt =>
      have hlq : ∀ p ∈ inorder l, p.1 < q := fun p hp => by have := hlk p hp; omega
      rcases folAux_spec q r larger hr with ⟨e, hall⟩ | ⟨m, e, hm, hqm, hmin⟩
      · exact .inl ⟨e, forall_mem_node.2 ⟨hlq, hlt, hall⟩⟩
      · exact .inr ⟨m, e, List.mem_append_right _ (List.mem_cons_of_mem _ hm), hqm, forall_mem_node.2
          ⟨fun p hp hq => by have := hlq p hp; omega, fun hq => by have : q ≤ k := hq; omega, hmin⟩⟩
    · next hge =>
      rcases folAux_spec q l (some (k, i)) hl with ⟨e, hall⟩ | ⟨m, e, hm, hqm, hmin⟩
      · exact .inr ⟨(k, i), e, hmid, by omega, forall_mem_node.2
          ⟨fun p hp hq => by have := hall p hp; omega, fun _ => Int.le_refl k, fun p hp _ => hkr p hp⟩⟩
      · exact .inr ⟨m, e, List.mem_append_left _ hm, hqm, forall_mem_node.2
          ⟨hmin, fun _ => hlk m hm, fun p hp _ => Int.le_trans (hlk m hm) (hkr p hp)⟩⟩

def keyOfL (z : Nat) : List (Int × Nat) → Option Int
  | [] => none
  | a :: l => if a.2 = z then some a.1 else keyOfL z l

/-- predecessor and successor as the C code finds them (`ap`, `as`: the ancestors reached so far from the
    right / left) are the neighbours of `z` in the traversal -/
theorem locate (z : Nat) : ∀ (t : Tree) (ap as : Option Int), hasId z t = true →
    ∃ L k R, inorder t = L ++ (k, z) :: R ∧ anyId z L = false ∧
      predKey z ap t = (L.getLast?.map (·.1)).or ap ∧ succKey z as t = (R.head?.map (·.1)).or as ∧
      ∀ new, inorder (setKey z new t) = L ++ (new, z) :: R
  | nil, _, _, h => nomatch h
  | node c l k i r, ap, as, h => by
    by_cases hl : hasId z l = true
    · simp only [predKey, succKey, setKey, if_pos hl]
      obtain ⟨L, k', R, e, hL, hp, hs, hk⟩ := locate z l ap (some k) hl
      refine ⟨L, k', R ++ (k, i) :: inorder r, by simp [e], hL, hp, ?_, fun new => by simp [hk]⟩
      rw [hs]
      cases R <;> rfl
    · have hl' : anyId z (inorder l) = false := by rw [← hasId_eq_any]; simpa using hl
      by_cases hi : i = z
      · subst hi
        simp only [predKey, succKey, setKey, if_neg hl, if_pos, maxNode_eq_getLast, minNode_eq_head]
        refine ⟨inorder l, k, inorder r, rfl, hl', ?_, ?_, fun new => rfl⟩
        · cases (inorder l).getLast? <;> rfl
        · cases (inorder r).head? <;> rfl
      · simp only [predKey, succKey, setKey, if_neg hl, if_neg hi]
        have hr : hasId z r = true := by simpa [hasId, hl, hi] using h
        obtain ⟨L, k', R, e, hL, hp, hs, hk⟩ := locate z r (some k) as hr
        refine ⟨inorder l ++ (k, i) :: L, k', R, by simp [e], by simp [anyId, hi] at hl' hL ⊢; exact ⟨hl', hL⟩, ?_,
          hs, fun new => by simp [hk]⟩
        rw [hp, getLast?_append_cons, List.getLast?_cons]
        cases L.getLast? <;> rfl

theorem sorted_last {L : List (Int × Nat)} (h : Sorted L) :
    ∀ x ∈ L, ∃ pk, L.getLast?.map (·.1) = some pk ∧ x.1 ≤ pk := by
  rcases List.eq_nil_or_concat L with rfl | ⟨L', a, rfl⟩
  · exact nofun
  · rw [List.concat_eq_append] at h ⊢
    rw [List.getLast?_concat]
    exact List.forall_mem_append.2 ⟨fun x hx => ⟨a.1, rfl, (sorted_middle.1 h).2.2.1 x hx⟩,
      List.forall_mem_singleton.2 ⟨a.1, rfl, Int.le_refl _⟩⟩

theorem sorted_head {R : List (Int × Nat)} (h : Sorted R) :
    ∀ x ∈ R, ∃ sk, R.head?.map (·.1) = some sk ∧ sk ≤ x.1 := by
  cases R with
  | nil => exact nofun
  | cons b R =>
    exact List.forall_mem_cons.2 ⟨⟨b.1, rfl, Int.le_refl _⟩, fun x hx => ⟨b.1, rfl, (List.pairwise_cons.1 h).1 x hx⟩⟩

theorem updDecide_eq (p s : Option Int) (new : Int) :
    updDecide p s new =
      if p = some new then none
      else if ∃ pk, p = some pk ∧ new < pk then some true
      else if s = some new then none
      else some (decide (∃ sk, s = some sk ∧ sk < new)) := by
  cases p <;> cases s <;> simp [updDecide]

/-- EXISTS only for a key carried by another node; in-place only when the new key fits strictly between the
    neighbours; otherwise the new key differs from z's own (so the following `find` looks for another node). -/
theorem updDecide_spec (z : Nat) (new : Int) (L R : List (Int × Nat)) (k : Int)
    (hs : Sorted (L ++ (k, z) :: R)) :
    match updDecide (L.getLast?.map (·.1)) (R.head?.map (·.1)) new with
    | none => new ∈ (L ++ R).map (·.1)
    | some false => (∀ x ∈ L, x.1 < new) ∧ ∀ x ∈ R, new < x.1
    | some true => new ≠ k := by
  obtain ⟨hL, hR, hLk, hkR⟩ := sorted_middle.1 hs
  have p1 : ∀ pk, L.getLast?.map (·.1) = some pk → pk ∈ L.map (·.1) ∧ pk ≤ k := fun pk e => by
    obtain ⟨a, ha, rfl⟩ := Option.map_eq_some_iff.1 e
    have := List.mem_of_getLast? ha
    exact ⟨List.mem_map_of_mem this, hLk a this⟩
  have s1 : ∀ sk, R.head?.map (·.1) = some sk → sk ∈ R.map (·.1) ∧ k ≤ sk := fun sk e => by
    obtain ⟨b, hb, rfl⟩ := Option.map_eq_some_iff.1 e
    have := List.mem_of_head? hb
    exact ⟨List.mem_map_of_mem this, hkR b this⟩
  have p2 := sorted_last hL
  have s2 := sorted_head hR
  rw [updDecide_eq, List.map_append]
  generalize L.getLast?.map (·.1) = p at *
  generalize R.head?.map (·.1) = s at *
  by_cases c1 : p = some new
  · rw [if_pos c1]; exact List.mem_append_left _ (p1 new c1).1
  by_cases c2 : ∃ pk, p = some pk ∧ new < pk
  · obtain ⟨pk, e, hlt⟩ := c2
    rw [if_neg c1, if_pos ⟨pk, e, hlt⟩]
    exact Int.ne_of_lt (Int.lt_of_lt_of_le hlt (p1 pk e).2)
  by_cases c3 : s = some new
  · rw [if_neg c1, if_neg c2, if_pos c3]; exact List.mem_append_right _ (s1 new c3).1
  rw [if_neg c1, if_neg c2, if_neg c3]
  by_cases c4 : ∃ sk, s = some sk ∧ sk < new
  · obtain ⟨sk, e, hlt⟩ := c4
    rw [decide_eq_true ⟨sk, e, hlt⟩]
    exact Int.ne_of_gt (Int.lt_of_le_of_lt (s1 sk e).2 hlt)
  rw [decide_eq_false c4]
  refine ⟨fun x hx => ?_, fun x hx => ?_⟩
  · obtain ⟨pk, e, hle⟩ := p2 x hx
    have : pk ≠ new := fun h => c1 (h ▸ e)
    have : ¬ new < pk := fun h => c2 ⟨pk, e, h⟩
    omega
  · obtain ⟨sk, e, hle⟩ := s2 x hx
    have : sk ≠ new := fun h => c3 (h ▸ e)
    have : ¬ sk < new := fun h => c4 ⟨sk, e, h⟩
    omega

/-- `update_node` does to the traversal what `remove` followed by `insert` does, on both of its paths: the
    in-place write is chosen only where re-insertion would put the node back where it is. -/
theorem inorder_update {t : Tree} {z : Nat} (new : Int) (hs : Sorted (inorder t)) (hz : hasId z t = true) :
    match update t z new with
    | none => new ∈ (eraseId z (inorder t)).map (·.1)
    | some t' => new ∉ (eraseId z (inorder t)).map (·.1) ∧ inorder t' = insList new z (eraseId z (inorder t)) := by
  obtain ⟨L, k, R, hl, hL, hp, hq, hset⟩ := locate z t none none hz
  rw [Option.or_none] at hp hq
  have d := updDecide_spec z new L R k (hl ▸ hs)
  rw [← hp, ← hq] at d
  have he : eraseId z (inorder t) = L ++ R := by rw [hl, eraseId_split z L R k hL]
  rw [he]
  unfold update
  generalize updDecide (predKey z none t) (succKey z none t) new = dec at d ⊢
  match dec, d with
  | none, d => exact d
  | some false, ⟨hLn, hRn⟩ =>
    refine ⟨fun hm => ?_, ?_⟩
    · obtain ⟨y, hy, e⟩ := List.mem_map.1 hm
      rcases List.mem_append.1 hy with h | h
      · have := hLn y h; omega
      · have := hRn y h; omega
    · -- re-insertion among the others passes `L` and stops in front of `R`
      show inorder (setKey z new t) = _
      rw [hset, insList_skip _ _ _ _ fun x hx => Int.le_of_lt (hLn x hx), insList_of_lt _ _ _ hRn]
  | some true, d =>
    -- a node carrying `new` is not `z`, so it is in the tree iff it is among the others
    have hmid : ∀ p : Int × Nat, p.1 = new → (p ∈ inorder t ↔ p ∈ L ++ R) := fun p hp => by
      have : p ≠ (k, z) := fun e => d (by rw [← hp, e])
      simp [hl, this]
    simp only []
    rcases find_spec new t hs with ⟨i, e, hm⟩ | ⟨e, hn⟩ <;> rw [e]
    · exact List.mem_map.2 ⟨(new, i), (hmid _ rfl).1 hm, rfl⟩
    · refine ⟨fun hmem => ?_, ?_⟩
      · obtain ⟨p, hp, hpn⟩ := List.mem_map.1 hmem
        exact absurd hpn (hn p ((hmid p hpn).2 hp))
      · rw [inorder_insert _ _ _ (inorder_remove t z ▸ sorted_eraseId z _ hs), inorder_remove, he]

end ParsecVerif.RbTree
