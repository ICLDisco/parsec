/-
  The inductive invariant of the hash-table model: `SInv s thr` about the store, the ghost map, the
  read-write lock (`Excl`) and the caller's bookkeeping (`UserInv`);
  `TInv s t op pc`, what thread `t` knows at program point `pc` (the locks it holds, how far its search
  went, the item it carries); `Rely t s s'`, what a step of ANOTHER thread preserves for a thread `t`
  between rdlock and rdunlock.
-/
import ParsecVerif.Proofs.HashTable

namespace ParsecVerif.C32
open HashTable

/-- program points at which a thread holds the lock of the top-level bucket of its key -/
def holdsTopPc : Pc → Bool
  | .nx _ | .lo .. | .du .. | .cn .. | .ulo .. | .ult _ => true
  | _ => false

end ParsecVerif.C32

namespace ParsecVerif.HashTable

/-- table `T` exists -/
def Tin (s : Store) (T : Nat) : Prop := s.nb0 ≤ T ∧ T ≤ s.top

def EmptyT (s : Store) (T : Nat) : Prop := ∀ b, (s.bk T b).items = []

def KeyIn (s : Store) (k T : Nat) : Prop := ∃ it, it ∈ (s.bk T (s.hf k T)).items ∧ it.key = k

def Stored (s : Store) (it : Item) : Prop := ∃ T b, Tin s T ∧ it ∈ (s.bk T b).items

def NotIn (s : Store) (k lo : Nat) : Prop := ∀ T, lo ≤ T → T ≤ s.top → ¬ KeyIn s k T

def Pc.inHand : Pc → Option Item
  | .du _ _ it => some it
  | .cn _ _ _ it => some it
  | _ => none

def Pc.isDu (T : Nat) : Pc → Bool
  | .du hd _ _ => hd == T
  | _ => false

/-- threads between `--cur_len == 0` and the fetch-dec of `used_buckets` of table `T` -/
def pendingDec (thr : List Thread) (T : Nat) : Nat := thr.countP fun th => th.pc.isDu T

/-- an item unlinked from an older table by a `find` or find-or-insert (`Op.mv`) that has not yet re-inserted it
    at the top -/
def InFlight (thr : List Thread) (it : Item) : Prop :=
  ∃ (t : Nat) (th : Thread), thr[t]? = some th ∧ th.op.mv = true ∧ th.pc.inHand = some it

/-- result of the running operation once it has taken effect -/
def Pc.linRes : Pc → Option Nat
  | .du _ _ it => some it.id
  | .cn _ _ _ it => some it.id
  | .ulo _ (some it) => some it.id
  | .ult r => some r
  | .rul r _ _ => some r
  | .wr _ r => some r
  | .wul r => some r
  | _ => none

/-- an `ins k` that has been issued and has not yet taken effect -/
def PendIns (th : Thread) (k : Nat) : Prop := (th.pc = .rd ∨ th.pc = .lt) ∧ ∃ i, th.op = .ins k i

/-- a `rem k` of an even key that has taken the item out and has not yet returned -/
def RmHold (th : Thread) (k : Nat) : Prop :=
  th.op = .rem k ∧ plainKey k = true ∧ ∃ r, th.pc.linRes = some r ∧ r ≠ 0

def OpOk : Op → Prop
  | .ins k _ => plainKey k = true
  | .foi k _ => plainKey k = false
  | _ => True

def NoIns : Op → Prop
  | .ins _ _ => False
  | _ => True

def HoldsTop (s : Store) (t k : Nat) : Prop := (s.bk s.top (s.hf k s.top)).lock = t + 1
def HoldsOld (s : Store) (t k hd : Nat) : Prop := (s.bk hd (s.hf k hd)).lock = t + 1

/-- `skip` keeps every non-empty table on the `next` chain from the top-level table:
    the tables a `next` pointer jumps over are empty, and the CAS at `cn` unlinks only an emptied table.  In `nxt`,
    `next = 0` is NULL: a table is named by its `nb_bits`, which is at least `nb0 ≥ 1`. -/
structure StructInv (s : Store) : Prop where
  nb0 : 1 ≤ s.nb0
  top : s.nb0 ≤ s.top
  hfr : ∀ k nb, s.hf k nb < 2 ^ nb
  nxt : ∀ T, Tin s T → (s.tab T).next < T ∧ ((s.tab T).next = 0 ∨ s.nb0 ≤ (s.tab T).next)
  len : ∀ T b, Tin s T → (s.bk T b).len = ((s.bk T b).items.length : Int)
  place : ∀ T b it, Tin s T → it ∈ (s.bk T b).items → b = s.hf it.key T
  skip : ∀ T T', Tin s T → (s.tab T).next < T' → T' < T → s.nb0 ≤ T' → EmptyT s T'
  nodup : ∀ T b, Tin s T → (s.bk T b).items.Nodup
  once : ∀ T T' b b' it, Tin s T → Tin s T' → it ∈ (s.bk T b).items → it ∈ (s.bk T' b').items → T = T'

def UsedInv (s : Store) (thr : List Thread) : Prop :=
  ∀ T, s.nb0 ≤ T → T < s.top → (s.tab T).used = ((s.usedCount T : Nat) : Int) + ((pendingDec thr T : Nat) : Int)

structure AbsInv (s : Store) (thr : List Thread) : Prop where
  absIn : ∀ it, Stored s it → it ∈ s.abs
  absOut : ∀ it, it ∈ s.abs → Stored s it ∨ InFlight thr it
  absKeys : s.abs.Pairwise fun a b => a.key ≠ b.key

def Excl (thr : List Thread) : Prop :=
  ∀ (t t' : Nat) (th th' : Thread), thr[t]? = some th → thr[t']? = some th' → th.pc.isWriter = true →
    (th'.pc.isReader = true ∨ th'.pc.isWriter = true) → t = t'

/-- Caller bookkeeping: a key that a thread has reserved (`uIns`, `uRm`) is held, not in the map and reserved by no
    other thread. -/
structure UserInv (s : Store) (thr : List Thread) : Prop where
  uPlain : ∀ k, k ∈ s.kheld → plainKey k = true
  uAbs : ∀ it, it ∈ s.abs → plainKey it.key = true → it.key ∈ s.kheld
  uIns : ∀ (t : Nat) (th : Thread) (k : Nat), thr[t]? = some th → PendIns th k →
            k ∈ s.kheld ∧ (∀ it, it ∈ s.abs → it.key ≠ k) ∧
            ∀ (t' : Nat) (th' : Thread), thr[t']? = some th' → t' ≠ t → ¬ PendIns th' k ∧ ¬ RmHold th' k
  uRm : ∀ (t : Nat) (th : Thread) (k : Nat), thr[t]? = some th → RmHold th k →
            k ∈ s.kheld ∧ (∀ it, it ∈ s.abs → it.key ≠ k) ∧
            ∀ (t' : Nat) (th' : Thread), thr[t']? = some th' → t' ≠ t → ¬ RmHold th' k

structure SInv (s : Store) (thr : List Thread) : Prop where
  st : StructInv s
  used : UsedInv s thr
  ab : AbsInv s thr
  excl : Excl thr
  user : UserInv s thr

def TInv (s : Store) (t : Nat) (op : Op) : Pc → Prop
  | .idle => True
  | .rd => OpOk op
  | .lt => OpOk op
  | .nx cur => OpOk op ∧ NoIns op ∧ HoldsTop s t op.key ∧ s.nb0 ≤ cur ∧ cur ≤ s.top ∧ NotIn s op.key cur
  | .lo hd pv => OpOk op ∧ NoIns op ∧ HoldsTop s t op.key ∧ s.nb0 ≤ hd ∧ hd < pv ∧ pv ≤ s.top ∧ NotIn s op.key (hd + 1)
  | .du hd pv it => OpOk op ∧ NoIns op ∧ HoldsTop s t op.key ∧ HoldsOld s t op.key hd ∧ s.nb0 ≤ hd ∧ hd < pv ∧ pv ≤ s.top ∧
      it.key = op.key ∧ ¬ Stored s it ∧ (s.bk hd (s.hf op.key hd)).items = [] ∧ (op.mv = true → it ∈ s.abs)
  | .cn hd pv nv it => OpOk op ∧ NoIns op ∧ HoldsTop s t op.key ∧ HoldsOld s t op.key hd ∧ s.nb0 ≤ hd ∧ hd < pv ∧ pv ≤ s.top ∧
      it.key = op.key ∧ ¬ Stored s it ∧ (op.mv = true → it ∈ s.abs) ∧
      EmptyT s hd ∧ nv < hd ∧ (nv = 0 ∨ s.nb0 ≤ nv) ∧ (∀ T', nv < T' → T' < hd → s.nb0 ≤ T' → EmptyT s T')
  | .ulo hd r => OpOk op ∧ NoIns op ∧ HoldsTop s t op.key ∧ HoldsOld s t op.key hd ∧ s.nb0 ≤ hd ∧ hd < s.top ∧
      (r = none → NotIn s op.key hd)
  | .ult _ => HoldsTop s t op.key
  | .rul _ _ _ => True
  | .wr _ _ => True
  | .wul _ => True

theorem TInv.holdsTop {s : Store} {t : Nat} {op : Op} {pc : Pc} (h : TInv s t op pc) (hp : C32.holdsTopPc pc = true) :
    HoldsTop s t op.key := by
  cases pc with
  | nx _ | lo _ _ | du _ _ _ | cn _ _ _ _ | ulo _ _ => exact h.2.2.1
  | ult _ => exact h
  | _ => cases hp

theorem StructInv.tin_top {s : Store} (h : StructInv s) : Tin s s.top := ⟨h.top, Nat.le_refl _⟩

structure Rely (t : Nat) (s s' : Store) : Prop where
  top : s'.top = s.top
  nb0 : s'.nb0 = s.nb0
  hf : s'.hf = s.hf
  lock : ∀ T b, (s.bk T b).lock = t + 1 → (s'.bk T b).lock = t + 1
  old : ∀ T b it, T < s.top → it ∈ (s'.bk T b).items → it ∈ (s.bk T b).items
  new : ∀ b it, it ∈ (s'.bk s.top b).items → it ∉ (s.bk s.top b).items →
          b = s.hf it.key s.top ∧ (s.bk s.top b).lock ≠ t + 1
  abs : ∀ it, it ∈ s.abs → it ∈ s'.abs ∨ Stored s it

/-- the rely composes as long as the first leg chains nothing new -/
theorem Rely.trans {t : Nat} {s s1 m : Store} (r1 : Rely t s s1) (r2 : Rely t s1 m) (hst : ∀ it, Stored s1 it → Stored s it) :
    Rely t s m := by
  refine ⟨r2.top.trans r1.top, r2.nb0.trans r1.nb0, r2.hf.trans r1.hf, fun T b h => r2.lock T b (r1.lock T b h),
    fun T b it hT hit => r1.old T b it hT (r2.old T b it (r1.top ▸ hT) hit), fun b it hit hn => ?_,
    fun it hit => (r1.abs it hit).elim (fun h => (r2.abs it h).imp_right (hst it)) Or.inr⟩
  by_cases h1 : it ∈ (s1.bk s.top b).items
  · exact r1.new b it h1 hn
  · have := r2.new b it (r1.top ▸ hit) (r1.top ▸ h1)
    rw [r1.top, r1.hf] at this
    exact ⟨this.1, fun hl => this.2 (r1.lock _ _ hl)⟩

theorem Rely.mem {t : Nat} {s s' : Store} (r : Rely t s s') {T b : Nat} {it : Item} (hT : T ≤ s.top)
    (hk : HoldsTop s t it.key) (h : it ∈ (s'.bk T b).items) : it ∈ (s.bk T b).items := by
  rcases Nat.lt_or_ge T s.top with hlt | hge
  · exact r.old T b it hlt h
  · obtain rfl : T = s.top := Nat.le_antisymm hT hge
    apply Classical.byContradiction
    intro hn
    obtain ⟨rfl, hl⟩ := r.new b it h hn
    exact hl hk

theorem Rely.notIn {t : Nat} {s s' : Store} (r : Rely t s s') {k lo : Nat}
    (hk : HoldsTop s t k) (h : NotIn s k lo) : NotIn s' k lo := by
  rintro T h1 h2 ⟨it, hit, rfl⟩
  rw [r.top] at h2
  rw [r.hf] at hit
  exact h T h1 h2 ⟨it, r.mem h2 hk hit, rfl⟩

theorem Rely.notStored {t : Nat} {s s' : Store} (r : Rely t s s') {it : Item}
    (hk : HoldsTop s t it.key) (h : ¬ Stored s it) : ¬ Stored s' it := by
  rintro ⟨T, b, ⟨h1, h2⟩, h3⟩
  rw [r.nb0] at h1
  rw [r.top] at h2
  exact h ⟨T, b, ⟨h1, h2⟩, r.mem h2 hk h3⟩

theorem Rely.itemsNil {t : Nat} {s s' : Store} (r : Rely t s s') {T b : Nat} (hT : T < s.top)
    (h : (s.bk T b).items = []) : (s'.bk T b).items = [] := by
  apply List.eq_nil_iff_forall_not_mem.2
  intro it hit
  have := r.old T b it hT hit
  rw [h] at this
  cases this

theorem Rely.emptyT {t : Nat} {s s' : Store} (r : Rely t s s') {T : Nat} (hT : T < s.top)
    (h : EmptyT s T) : EmptyT s' T :=
  fun b => r.itemsNil hT (h b)

theorem Rely.holdsTop {t : Nat} {s s' : Store} (r : Rely t s s') {k : Nat} (h : HoldsTop s t k) : HoldsTop s' t k := by
  unfold HoldsTop at h ⊢
  rw [r.top, r.hf]; exact r.lock _ _ h

theorem Rely.holdsOld {t : Nat} {s s' : Store} (r : Rely t s s') {k hd : Nat} (h : HoldsOld s t k hd) : HoldsOld s' t k hd := by
  unfold HoldsOld at h ⊢
  rw [r.hf]; exact r.lock _ _ h

theorem Rely.absKept {t : Nat} {s s' : Store} (r : Rely t s s') {it : Item} (hn : ¬ Stored s it) (h : it ∈ s.abs) : it ∈ s'.abs :=
  (r.abs it h).resolve_right hn

theorem TInv.stable {t : Nat} {s s' : Store} {op : Op} {pc : Pc}
    (r : pc.isReader = true → Rely t s s') (h : TInv s t op pc) : TInv s' t op pc := by
  cases pc with
  | idle | rul _ _ _ | wr _ _ | wul _ => trivial
  | rd | lt => exact h
  | ult _ => exact (r rfl).holdsTop h
  | nx cur =>
    have r := r rfl
    obtain ⟨h1, h2, h3, h4, h5, h6⟩ := h
    exact ⟨h1, h2, r.holdsTop h3, by rw [r.nb0]; exact h4, by rw [r.top]; exact h5, r.notIn h3 h6⟩
  | lo hd pv =>
    have r := r rfl
    obtain ⟨h1, h2, h3, h4, h5, h6, h7⟩ := h
    exact ⟨h1, h2, r.holdsTop h3, by rw [r.nb0]; exact h4, h5, by rw [r.top]; exact h6, r.notIn h3 h7⟩
  | ulo hd x =>
    have r := r rfl
    obtain ⟨h1, h2, h3, h4, h5, h6, h7⟩ := h
    exact ⟨h1, h2, r.holdsTop h3, r.holdsOld h4, by rw [r.nb0]; exact h5, by rw [r.top]; exact h6, fun hx => r.notIn h3 (h7 hx)⟩
  | du hd pv it =>
    have r := r rfl
    obtain ⟨h1, h2, h3, h4, h5, h6, h7, h8, h9, h10, h11⟩ := h
    have hlt : hd < s.top := Nat.lt_of_lt_of_le h6 h7
    exact ⟨h1, h2, r.holdsTop h3, r.holdsOld h4, by rw [r.nb0]; exact h5, h6, by rw [r.top]; exact h7, h8,
      r.notStored (h8 ▸ h3) h9, by rw [r.hf]; exact r.itemsNil hlt h10, fun hm => r.absKept h9 (h11 hm)⟩
  | cn hd pv nv it =>
    have r := r rfl
    obtain ⟨h1, h2, h3, h4, h5, h6, h7, h8, h9, h11, h12, h13, h14, h15⟩ := h
    have hlt : hd < s.top := Nat.lt_of_lt_of_le h6 h7
    exact ⟨h1, h2, r.holdsTop h3, r.holdsOld h4, by rw [r.nb0]; exact h5, h6, by rw [r.top]; exact h7, h8,
      r.notStored (h8 ▸ h3) h9, fun hm => r.absKept h9 (h11 hm), r.emptyT hlt h12, h13, by rw [r.nb0]; exact h14,
      fun T' a b c => r.emptyT (Nat.lt_trans b hlt) (h15 T' a b (by rw [← r.nb0]; exact c))⟩

theorem inHand_holds {s : Store} {t : Nat} {op : Op} {pc : Pc} {y : Item} (h : TInv s t op pc) (hh : pc.inHand = some y) :
    HoldsTop s t y.key ∧ ¬ Stored s y ∧ (op.mv = true → y ∈ s.abs) := by
  cases pc with
  | du hd pv it =>
    obtain ⟨_, _, h3, _, _, _, _, h8, h9, _, h11⟩ := h
    cases hh; rw [h8]; exact ⟨h3, h9, h11⟩
  | cn hd pv nv it =>
    obtain ⟨_, _, h3, _, _, _, _, h8, h9, h11, _⟩ := h
    cases hh; rw [h8]; exact ⟨h3, h9, h11⟩
  | _ => cases hh

end ParsecVerif.HashTable
