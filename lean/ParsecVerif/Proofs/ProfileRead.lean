import ParsecVerif.Proofs.Profile
/-
  C42 — the reader inverts every placement: both chain readers along a `ChunksAt` chain of packed
  records, then the event chains of all streams.
-/
namespace ParsecVerif.Profile

/-- Both equations of `ChunksAt` at once. -/
theorem chunksAt_cons {B : Nat} {f : Bytes} {typ : Nat} {offs : List Int} {c : Nat × Bytes}
    {cs : List (Nat × Bytes)} (h : ChunksAt B f typ offs (c :: cs)) :
    ∃ o os nx, offs = o :: os ∧ readBuf B f o = some ⟨nx, c.1, typ, pad (avail B) c.2⟩ ∧
      if cs = [] then os = [] ∧ nx < 0 else os.head? = some nx ∧ ChunksAt B f typ os cs :=
  match offs, cs, h with
  | [o], [], ⟨nx, h1, h2⟩ => ⟨o, [], nx, rfl, h2, by simp [h1]⟩
  | o :: o' :: os, _ :: _, ⟨h1, h2⟩ => ⟨o, _, o', rfl, h1, by simp [h2]⟩

theorem headD_of_head? {α : Type} {l : List α} {a d : α} (h : l.head? = some a) : l.headD d = a := by
  cases l <;> simp_all

section chains
variable {α : Type} (p : Bytes → Option (α × Bytes)) {enc : α → Bytes} {len : α → Nat} {cap typ B : Nat}
  {f : Bytes} {offs : List Int} (fuel : Nat)

/-- The linked reader takes one step more: it stops at the negative next offset, the counted one as soon
    as no record is missing. -/
theorem read_chunks {chunks : List (List α)}
    (hp : ∀ a ∈ chunks.flatten, ∀ r, p (enc a ++ r) = some (a, r)) (hne : ∀ c ∈ chunks, c ≠ [])
    (hat : ChunksAt B f typ offs (chunks.map (chunkOf enc)))
    (hcn : chunks ≠ []) (hfuel : offs.length ≤ fuel) :
    readCounted p typ B f fuel (offs.headD (-1)) chunks.flatten.length = some chunks.flatten ∧
      readLinked p typ B f (fuel + 1) (offs.headD (-1)) = some chunks.flatten := by
  induction chunks generalizing offs fuel with
  | nil => exact absurd rfl hcn
  | cons c cs ih =>
    simp only [List.map_cons, chunkOf] at hat
    obtain ⟨o, os, nx, rfl, hrb, hrest⟩ := chunksAt_cons hat
    obtain ⟨fuel, rfl⟩ : ∃ k, fuel = k + 1 := ⟨fuel - 1, by simp at hfuel; omega⟩
    have ho : ¬ o < 0 := fun hlt => by simp [readBuf, hlt] at hrb
    obtain ⟨hcl, hne⟩ := List.forall_mem_cons.1 hne
    obtain ⟨hpc, hp⟩ := List.forall_mem_append.1 hp
    replace hcl : c.length ≠ 0 := by simpa using hcl
    replace hpc := fun r => parseN_flatten p enc c r hpc
    rw [readCounted, readLinked]
    simp only [List.headD_cons, ho, hrb, List.flatten_cons, List.length_append, ne_eq, not_true_eq_false,
      if_false, hcl, Nat.add_eq_zero_iff, false_and, Nat.min_eq_left (Nat.le_add_right _ _), pad, hpc,
      Nat.add_sub_cancel_left]
    by_cases hcs : cs = []
    · simp only [hcs, List.map_nil, if_true] at hrest
      simp [hcs, readLinked, hrest.2]
    · simp only [List.map_eq_nil_iff, hcs, if_false] at hrest
      have := ih fuel hp hne hrest.2 hcs (by simpa using hfuel)
      rw [headD_of_head? hrest.1] at this
      by_cases hL : cs.flatten.length = 0
      · simp [this, List.length_eq_zero_iff.1 hL]
      · simp only [if_neg hL, this, and_self]

variable {l : List α} (hp : ∀ a ∈ l, ∀ r, p (enc a ++ r) = some (a, r)) (hl : ∀ a ∈ l, len a ≤ cap)
  (hat : ChunksAt B f typ offs ((pack cap len l 0).map (chunkOf enc)))
include hp hl hat

theorem read_pack (hne : l ≠ []) (hfuel : offs.length ≤ fuel) :
    readCounted p typ B f fuel (offs.headD (-1)) l.length = some l ∧
      readLinked p typ B f (fuel + 1) (offs.headD (-1)) = some l := by
  have := read_chunks p fuel (by rwa [pack_flatten])
    (fun c hc => (pack_zero_ok cap len l hl c hc).1 hne) hat (pack_ne_nil _ _ _ _) hfuel
  rwa [pack_flatten] at this

/-- `l` may be empty: the chain is then one empty buffer. -/
theorem readCounted_pack (hfuel : offs.length ≤ fuel) :
    readCounted p typ B f fuel (offs.headD (-1)) l.length = some l := by
  by_cases hne : l = []
  · subst hne
    obtain ⟨o, os, nx, rfl, hrb, -⟩ := chunksAt_cons hat
    obtain ⟨fuel, rfl⟩ : ∃ k, fuel = k + 1 := ⟨fuel - 1, by simp at hfuel; omega⟩
    simp [readCounted, hrb]
  · exact (read_pack p fuel hp hl hat hne hfuel).1

end chains

theorem chunksAt_head_nonneg {B : Nat} {f : Bytes} {typ : Nat} {o : Int} {os : List Int}
    {cs : List (Nat × Bytes)} (h : ChunksAt B f typ (o :: os) cs) : 0 ≤ o ∧ o < f.length := by
  cases cs with
  | nil => simp [ChunksAt] at h
  | cons c cs =>
    obtain ⟨_, _, _, he, hb, -⟩ := chunksAt_cons h
    cases he
    unfold readBuf at hb
    by_cases hlt : o < 0
    · simp [hlt] at hb
    · refine ⟨by omega, ?_⟩
      by_cases hlen : f.length ≤ o.toNat
      · rw [if_neg hlt, List.drop_eq_nil_of_le hlen] at hb
        cases B <;> simp [split] at hb
      · omega

theorem evChunksAt_length {B : Nat} {f : Bytes} {oss : List (List Int)} {ss : List Stream}
    (h : EvChunksAt B f oss ss) : oss.length = ss.length := by
  fun_induction EvChunksAt B f oss ss with
  | case1 => rfl
  | case2 os oss s ss ih => simp [ih h.2.2]
  | case3 => exact h.elim

theorem readStreams_layout {B : Nat} {dict : List KeyDef} {f : Bytes}
    {oss : List (List Int)} {ss : List Stream}
    (hat : EvChunksAt B f oss ss) (hwf : ∀ s ∈ ss, WFStream B dict s) :
    readStreams B dict f (thrRecs ss (firstOffs oss)) = some ss := by
  fun_induction EvChunksAt B f oss ss with
  | case1 => rfl
  | case2 os oss s ss ih =>
    obtain ⟨⟨_, _, hne, _, hev, -⟩, hwf'⟩ := List.forall_mem_cons.1 hwf
    have hrl := (read_pack (decEvent dict) f.length (fun e he => decEvent_encEvent (hev e he))
      (fun e he => Nat.le_of_lt (hev e he).2.2.2.2.2.1) hat.2.1 hne hat.1).2
    have ih' := ih hat.2.2 hwf'
    simp only [firstOffs, List.map_cons, thrRecs, readStreams] at ih' ⊢
    simp only [hrl, ne_eq, not_true_eq_false, if_false, ih']
  | case3 => exact hat.elim

theorem firstOffs_i64 {B : Nat} {f : Bytes} {oss : List (List Int)} {ss : List Stream}
    (hf : f.length < 9223372036854775808) (hat : EvChunksAt B f oss ss) :
    ∀ o ∈ firstOffs oss, FitsI64 o := by
  fun_induction EvChunksAt B f oss ss with
  | case1 => nofun
  | case2 os oss s ss ih =>
    refine List.forall_mem_cons.2 ⟨?_, ih hat.2.2⟩
    cases os with
    | nil => exact .neg_one
    | cons o os =>
      obtain ⟨h0, h1⟩ := chunksAt_head_nonneg hat.2.1
      exact show FitsI64 o from ⟨by omega, by omega⟩
  | case3 => exact hat.elim

theorem decode_of_layout (f : Bytes) (t : Trace) (p : Place) (hwf : WellFormed t)
    (hf : f.length < 9223372036854775808) (hl : LayoutAt f t p) : decode f = some t := by
  obtain ⟨_, _, _, _, _, _, _, hkeys, _, hstreams⟩ := hwf
  obtain ⟨⟨h, hdec, hB, hhr, hrk, hds, hnt, hdo, hto⟩, hdl, htl, hdict, hthr, hev⟩ := hl
  have hrd := readCounted_pack decKey (f.length + 1) (fun k hk => decKey_encKey (hkeys k hk))
    (fun k hk => by have := (hkeys k hk).2.2.2.2.2.2; omega) hdict (by omega)
  have hrt := readCounted_pack decThr (f.length + 1)
    (thrRecs_dec hstreams (firstOffs_i64 hf hev))
    (thrRecs_stride hstreams) hthr (by omega)
  rw [headD_of_head? hdo.symm] at hrd
  rw [headD_of_head? hto.symm,
    thrRecs_length _ _ (by simp [firstOffs, evChunksAt_length hev])] at hrt
  unfold decode
  simp only [hdec, hB, hds, hnt, hrd, hrt, readStreams_layout hev hstreams, hhr, hrk]

end ParsecVerif.Profile
