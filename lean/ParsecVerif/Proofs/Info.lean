import ParsecVerif.Model.Info
/-!
  Lists of registry entries (the id scan, insertion, the maximal id, search by name) and the slots of
  an object array under `grow` / `setSlot`.
-/
namespace ParsecVerif.Info

def ids (l : List Entry) : List Nat := l.map (·.iid)

/-- the list order the code maintains -/
def Sorted (l : List Entry) : Prop := l.Pairwise (fun a b => a.iid < b.iid)

theorem sorted_nodup_ids {l : List Entry} (h : Sorted l) : (ids l).Nodup :=
  List.pairwise_map.2 (h.imp Nat.ne_of_lt)

theorem findHole_spec : ∀ (l : List Entry) (ret : Nat), Sorted l → (∀ e ∈ l, ret ≤ e.iid) →
    ∃ k, findHole l ret = (ret + k, k) ∧ ids (l.take k) = List.range' ret k ∧ ∀ e ∈ l.drop k, ret + k < e.iid
  | [], ret, _, _ => ⟨0, rfl, rfl, fun _ h => nomatch h⟩
  | e :: t, ret, hs, hge => by
    obtain ⟨hlt, hs'⟩ := List.pairwise_cons.1 hs
    unfold findHole
    split
    · obtain ⟨k, hk, h2, h3⟩ := findHole_spec t (ret + 1) hs' (fun x hx => by have := hlt x hx; omega)
      refine ⟨k + 1, by rw [hk, Nat.add_assoc, Nat.add_comm 1], ?_, by rwa [Nat.add_assoc, Nat.add_comm 1] at h3⟩
      rw [List.take_succ_cons, List.range'_succ, ← h2, ids, List.map_cons, ‹e.iid = ret›]
      rfl
    · refine ⟨0, rfl, rfl, fun x hx => ?_⟩
      have := hge e (.head _)
      rcases List.mem_cons.1 hx with rfl | hx
      · omega
      · have := hlt x hx; omega

theorem insertAt_perm {α} (l : List α) (k : Nat) (x : α) : (insertAt l k x).Perm (x :: l) := by
  unfold insertAt
  have : (x :: l).Perm (x :: (l.take k ++ l.drop k)) := by rw [List.take_append_drop]
  exact List.perm_middle.trans this.symm

theorem mem_insertAt {α} (l : List α) (k : Nat) (x y : α) : y ∈ insertAt l k x ↔ y ∈ x :: l :=
  (insertAt_perm l k x).mem_iff

theorem sorted_insertAt (l : List Entry) (k : Nat) (x : Entry) (hs : Sorted l)
    (h1 : ∀ e ∈ l.take k, e.iid < x.iid) (h2 : ∀ e ∈ l.drop k, x.iid < e.iid) :
    Sorted (insertAt l k x) := by
  rw [← List.take_append_drop k l, Sorted, List.pairwise_append] at hs
  refine List.pairwise_append.2 ⟨hs.1, List.pairwise_cons.2 ⟨h2, hs.2.1⟩, fun a ha b hb => ?_⟩
  rcases List.mem_cons.1 hb with rfl | hb
  · exact h1 a ha
  · exact hs.2.2 a ha b hb

theorem maxIid_ge (l : List Entry) : ∀ e ∈ l, (e.iid : Int) ≤ maxIid l := by
  induction l with
  | nil => nofun
  | cons a t ih =>
    intro e he
    unfold maxIid
    rcases List.mem_cons.1 he with rfl | he
    · split <;> omega
    · have := ih e he; split <;> omega

theorem maxIid_mem_or (l : List Entry) : maxIid l = -1 ∨ ∃ e ∈ l, maxIid l = e.iid := by
  induction l with
  | nil => exact .inl rfl
  | cons a t ih =>
    right
    unfold maxIid
    split
    · exact ⟨a, .head _, rfl⟩
    · rcases ih with h | ⟨e, he, h⟩
      · omega
      · exact ⟨e, .tail _ he, h⟩

/-- characterisation used to transport `maxId` across list edits -/
theorem maxIid_eq_iff (l : List Entry) (m : Int) :
    maxIid l = m ↔ (∀ e ∈ l, (e.iid : Int) ≤ m) ∧ (m = -1 ∨ ∃ e ∈ l, m = e.iid) := by
  constructor
  · rintro rfl; exact ⟨maxIid_ge l, maxIid_mem_or l⟩
  · rintro ⟨h1, h2⟩
    have hge := maxIid_ge l
    rcases maxIid_mem_or l with h | ⟨e, he, h⟩ <;> rcases h2 with hm | ⟨e', he', hm⟩
    · omega
    · have := hge e' he'; omega
    · have := h1 e he; omega
    · have := h1 e he; have := hge e' he'; omega

theorem maxIid_congr {l l' : List Entry} (h : ∀ e, e ∈ l' ↔ e ∈ l) : maxIid l' = maxIid l := by
  rw [maxIid_eq_iff]
  simp only [h]
  exact (maxIid_eq_iff l _).1 rfl

theorem maxIid_erase {l : List Entry} {e : Entry} (hne : (e.iid : Int) ≠ maxIid l) :
    maxIid (l.erase e) = maxIid l := by
  rw [maxIid_eq_iff]
  refine ⟨fun x hx => maxIid_ge l x (List.mem_of_mem_erase hx), (maxIid_mem_or l).imp_right ?_⟩
  rintro ⟨m, hm, h⟩
  exact ⟨m, (List.mem_erase_of_ne (by rintro rfl; exact hne h.symm)).2 hm, h⟩

theorem find?_name {l : List Entry} (hn : (l.map (·.name)).Nodup) {e : Entry} (he : e ∈ l) :
    l.find? (fun x => x.name == e.name) = some e := by
  induction l with
  | nil => cases he
  | cons a t ih =>
    obtain ⟨ha, ht⟩ := List.nodup_cons.1 hn
    rcases List.mem_cons.1 he with rfl | he
    · exact List.find?_cons_of_pos (by simp)
    · have : a.name ≠ e.name := fun h => ha (List.mem_map.2 ⟨e, he, h.symm⟩)
      rw [List.find?_cons_of_neg (by simpa using this)]
      exact ih ht he

theorem slotOf_replicate_zero (n i : Nat) : slotOf (List.replicate n 0) i = 0 := by
  unfold slotOf
  rw [List.getElem?_replicate]
  split <;> rfl

theorem slotOf_grow (m : Int) (oa : OA) (i j : Nat) : slotOf (grow m oa i) j = slotOf oa j := by
  unfold grow
  split
  · unfold slotOf
    rw [List.getElem?_append]
    split
    · rfl
    · rw [List.getElem?_eq_none (l := oa) (Nat.le_of_not_lt ‹_›)]
      exact slotOf_replicate_zero ..
  · rfl

theorem lt_length_grow (m : Int) (oa : OA) (i : Nat) (h : (i : Int) ≤ m) : i < (grow m oa i).length := by
  unfold grow
  split
  · simp only [List.length_append, List.length_replicate]; omega
  · omega

theorem slotOf_setSlot (oa : OA) (i v j : Nat) :
    slotOf (setSlot oa i v) j = if j = i ∧ i < oa.length then v else slotOf oa j := by
  unfold slotOf setSlot
  rw [List.getElem?_set]
  by_cases hji : i = j
  · subst hji
    by_cases hl : i < oa.length <;> simp [hl]
  · simp [hji, Ne.symm hji]

theorem slotOf_setSlot_grow {m : Int} (oa : OA) {i : Nat} (h : (i : Int) ≤ m) (v j : Nat) :
    slotOf (setSlot (grow m oa i) i v) j = if j = i then v else slotOf oa j := by
  simp [slotOf_setSlot, slotOf_grow, lt_length_grow m oa i h]

end ParsecVerif.Info
