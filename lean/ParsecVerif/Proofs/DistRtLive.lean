import ParsecVerif.Proofs.DistRtInv
/-! Deadlock freedom of the distributed runtime (C05) under C13's side condition on the data outputs; and, for the
    witnesses of Props/C05, a criterion for a given state to have no enabled transition. -/
namespace ParsecVerif.DistRt
open ParsecVerif.Dataflow
open ParsecVerif.RemoteDep hiding St

section
variable {g : DGraph} {cf : Conf} {F : Nat → List (Option Nat) → Nat} {again : List Nat}

theorem dataOK_iff (c : Cfg) (f : Nat → Bool) :
    dataOK c f = true ↔ ∀ p x, (p, x) ∈ c.edges → p = c.root ∨ ∀ o ∈ c.outs, f o.1 = false → x ∈ o.2 → p ∈ o.2 :=
  relayOK_iff c f

theorem dataOK_of_deliveryOK (c : Cfg) (f : Nat → Bool) (h : c.deliveryOK = true) : dataOK c f = true :=
  (dataOK_iff c f).2 fun p x he => ((deliveryOK_iff c).1 h p x he).imp_right fun h1 o ho _ hx => h1 o ho hx

theorem dataOKAll_of_deliveryOKAll (h : deliveryOKAll g cf = true) : dataOKAll g cf = true := by
  unfold dataOKAll; unfold deliveryOKAll at h
  rw [List.all_eq_true] at h ⊢
  intro a ha
  exact dataOK_of_deliveryOK _ _ (h a ha)

theorem remote_released (hwf : g.WF) (hcf : cf.WF g) (hok : dataOKAll g cf = true) {s : DSt}
    (h : DInv g cf F again s) (a b : Nat) (haE : s.core.status[a]? = some Status.ended)
    (hinf : inflightOf s a = []) (hpl : cf.place b ≠ cf.place a) : (a, b) ∉ s.core.pending := by
  have ha : a < g.n := (h.ginv hwf).lt haE
  obtain ⟨st, hl⟩ := Option.isSome_iff_exists.1 (h.own a haE)
  have hst : st.inflight = [] := inflightOf_of_look hl ▸ hinf
  obtain ⟨hcw, hC⟩ := h.coll_inv hwf hcf hl
  have hdo := (dataOK_iff _ _).1 (List.all_eq_true.1 hok a (List.mem_range.2 ha))
  refine (h.not_pending_iff hpl).2 fun e he h1 h2 => ?_
  subst h2
  obtain ⟨hr, o, ho, hk, hro⟩ := (mem_wanted _ _).1 (cfgOf_wanted hwf a e he h1 hpl)
  -- the rank of the successor has received its activation message `m`
  obtain ⟨m, hm, hd⟩ := mem_dsts.1
    (hC.all_delivered hcw (topo_tree cf.topo) hst _ ((Cfg.mem_members hcw _).2 ⟨hr, o, ho, hro⟩))
  obtain ⟨hedge, hkeys⟩ := hC.edge m (List.mem_append_right _ hm)
  -- so `m` carried output `e.2.2`, or that output is a control flow
  refine got_iff.2 ⟨m, logOf_of_look hl ▸ hm, hd, ?_⟩
  cases hct : g.isCtl a e.2.2 with
  | true => exact Or.inr rfl
  | false =>
    rw [hkeys, mem_payload]
    exact Or.inl ⟨o, ho, hk, hd ▸ hro, (hdo _ _ hedge).imp_right fun e1 => e1 o ho (hk ▸ hct) (hd ▸ hro)⟩

theorem dprogress (hwf : g.WF) (hcf : cf.WF g) (hok : dataOKAll g cf = true) {s : DSt}
    (h : DInv g cf F again s) (hq : ¬ allTerminate g s) : ∃ t, denabled cf s t = true := by
  cases hx : s.xfer with
  | cons am rest => exact ⟨.recvData am.1 am.2, denabled_iff.2 (hx ▸ List.mem_cons_self)⟩
  | nil =>
    by_cases hinf : ∀ a, a < g.n → inflightOf s a = []
    · obtain ⟨t, ht⟩ := progress (graph_WF g hwf) (h.ginv hwf) fun hh => hq ⟨hh, hinf, hx⟩
      cases t with
      | start i => exact ⟨.start i, ht⟩
      | again i => exact ⟨.again i, ht⟩
      | finish i => exact ⟨.finish i, ht⟩
      | release a b =>
        have hab := enabled_iff.1 ht
        by_cases hpl : cf.place a = cf.place b
        · exact ⟨.releaseLocal a b, denabled_iff.2 ⟨ht, hpl⟩⟩
        · exact absurd hab.2 (remote_released hwf hcf hok h a b hab.1
            (hinf a ((h.ginv hwf).lt hab.1)) (fun e => hpl e.symm))
    · obtain ⟨a, ha⟩ := Classical.not_forall.1 hinf
      obtain ⟨m, hm⟩ := List.exists_mem_of_ne_nil _ (not_imp.1 ha).2
      exact ⟨.recvAct a m false, denabled_iff.2 ⟨hm, hx ▸ List.not_mem_nil, .inl rfl⟩⟩

end

theorem inflight_nil_of_all (s : DSt) (h : (s.coll.all fun e => (inflightOf s e.1).isEmpty) = true) (a : Nat) :
    inflightOf s a = [] := by
  cases hf : s.coll.find? (fun e => e.1 == a) with
  | none => unfold inflightOf look; rw [hf]; rfl
  | some e =>
    have := List.all_eq_true.1 h e (List.mem_of_find?_eq_some hf)
    rwa [show e.1 = a by simpa using List.find?_some hf, List.isEmpty_iff] at this

theorem not_enabled_of (cf : Conf) (s : DSt) (hst : ∀ st ∈ s.core.status, st = Status.waiting ∨ st = Status.ended)
    (hp : ∀ e ∈ s.core.pending, cf.place e.1 ≠ cf.place e.2) (hx : s.xfer = [])
    (hc : (s.coll.all fun e => (inflightOf s e.1).isEmpty) = true) : ∀ t, denabled cf s t = false := by
  have hns : ∀ (i : Nat) (c : Status), c ≠ .waiting → c ≠ .ended → s.core.status[i]? ≠ some c :=
    fun i c h1 h2 hi => (hst c (List.mem_of_getElem? hi)).elim h1 h2
  refine fun t => Bool.eq_false_iff.2 fun hen => ?_
  have hen := denabled_iff.1 hen
  cases t with
  | start i => exact hns i .ready nofun nofun (enabled_iff.1 hen)
  | again i | finish i => exact hns i .running nofun nofun (enabled_iff.1 hen).1
  | releaseLocal a b => exact hp (a, b) (enabled_iff.1 hen.1).2 hen.2
  | recvAct a m e => exact List.not_mem_nil (inflight_nil_of_all _ hc a ▸ hen.1)
  | recvData a m => exact List.not_mem_nil (hx ▸ hen : (a, m) ∈ [])

end ParsecVerif.DistRt
