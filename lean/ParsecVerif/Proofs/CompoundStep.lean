import ParsecVerif.Proofs.ContextStamps
import ParsecVerif.Model.Compound
/-! What the compound layer reads off the context machine: the order between two stamps, what the stamps say of a
    descriptor, what one transition does to the taskpool descriptors. -/
namespace ParsecVerif.Compound
open ParsecVerif.Context

/-- `Bef a b`: the stamp `a` was taken before the stamp `b`, if `b` was taken at all (0 = never).  The stamp clauses of
    `tpOK`, `CI` and `CS` have this form, written out; an order between two events of a run is a chain of them. -/
def Bef (a b : Nat) : Prop := b ≠ 0 → a ≠ 0 ∧ a < b

theorem Bef.trans {a b c : Nat} (h : Bef a b) (h' : Bef b c) : Bef a c := fun hc =>
  ⟨(h (h' hc).1).1, Nat.lt_trans (h (h' hc).1).2 (h' hc).2⟩

/-- the left stamp may be rewritten while it is unset: then so is the right one -/
theorem Bef.left {a a' b : Nat} (h : Bef a b) (ha : a' = a ∨ a = 0) : Bef a' b := fun hb => by
  rcases ha with rfl | rfl
  · exact h hb
  · exact absurd rfl (h hb).1

variable {clk : Nat} {tp : Tp}

theorem tpOK_notAdded (h : tpOK clk tp) (hst : tp.st = .notAdded ∨ tp.st = .adding) : tp.addAt = 0 := by
  obtain ⟨_, _, _, _, _, _, _, _, _, _, _, a12⟩ := h
  rcases hst with e | e <;> rw [e] at a12 <;> exact a12.1

structure PastCb (clk : Nat) (tp : Tp) : Prop where
  cb : tp.cbAt ≠ 0
  lt : tp.cbAt < clk
  cbs : tp.cbs = 1
  ended : tp.ended = tp.total
  end_cb : tp.lastEnd < tp.cbAt
  det : tp.early = false → (tp.st = .inCb ∨ tp.st = .inCbN ∨ tp.st = .done) ∧ tp.addAt ≠ 0 ∧ tp.addAt < tp.cbAt ∧
    tp.started = tp.total

theorem tpOK_in_cb (h : tpOK clk tp) (hc : tp.cbAt ≠ 0 ∨ tp.st = .inCb ∨ tp.st = .inCbN ∨ tp.st = .done) :
    PastCb clk tp := by
  obtain ⟨_, _, _, a4, _, _, a7, _, _, _, a11, a12⟩ := h
  cases hst : tp.st <;> rw [hst] at a12 <;> simp only [hst, reduceCtorEq, or_false, or_true] at hc
  case notAdded | adding => exact absurd a12.2.2.1 hc
  case added => exact absurd a12.2.2.2.1 hc
  case inCb | inCbN =>
    obtain ⟨_, b2, b3, b4, b5, _, b7, b8⟩ := a12
    exact ⟨by omega, a4, b3, b7, b5, fun _ => ⟨by simp [hst], b2, b4, b8⟩⟩
  case earlyCb | earlyDec =>
    -- completed inside add_taskpool: no task
    obtain ⟨b1, _, b3, b4, _, b6, b7⟩ := a12
    have := a7 b1
    exact ⟨b4, a4, b3, by omega, by omega, fun e => by rw [b1] at e; cases e⟩
  case done =>
    obtain ⟨b1, b2, _, b4, b5, b6, b7, _⟩ := a12
    exact ⟨b2, a4, b1, b5, b4, fun e => ⟨by simp [hst], (b7 e).1, (b7 e).2, b6⟩⟩

theorem tpOK_added (h : tpOK clk tp) (hst : tp.st = .added) : tp.addAt ≠ 0 ∧ tp.cbAt = 0 := by
  obtain ⟨_, _, _, _, _, _, _, _, _, _, _, a12⟩ := h
  rw [hst] at a12; exact ⟨a12.2.1, a12.2.2.2.1⟩

theorem tpOK_early (h : tpOK clk tp) (hst : tp.st = .earlyCb ∨ tp.st = .earlyDec) :
    tp.early = true := by
  obtain ⟨_, _, _, _, _, _, _, _, _, _, _, a12⟩ := h
  rcases hst with e | e <;> rw [e] at a12 <;> exact a12.1

theorem tpOK_begin (h : tpOK clk tp) : Bef tp.addAt tp.firstBegin :=
  h.2.2.2.2.2.2.2.1

theorem tpOK_add_cb (h : tpOK clk tp) (he : tp.early = false) : Bef tp.addAt tp.cbAt := fun hc =>
  ((tpOK_in_cb h (Or.inl hc)).det he).2.imp_right And.left

/-- the transitions that rewrite a descriptor -/
def writes : Tr → Bool
  | .startBarrier | .startToken | .waitBegin | .sawZero | .leave _ | .barrier | .waitReturn | .addReturn _
  | .tpWaitBegin _ | .tpWaitReturn => false
  | _ => true

theorem step?_tps {s s' : St} {tr : Tr} (hs : step? s tr = some s') :
    s'.clock = s.clock + 1 ∧
    ((writes tr = false ∧ s'.tps = s.tps) ∨
      ∃ (p : Nat) (tp tp' : Tp) (d : Loc), s.tps[p]? = some tp ∧ Upd s tr p tp tp' d ∧ s'.tps = s.tps.set p tp') := by
  cases Step.of_step? hs with
  | thread htp hw => exact ⟨rfl, .inr ⟨_, _, _, _, htp, hw, rfl⟩⟩
  | _ => exact ⟨rfl, .inl ⟨rfl, rfl⟩⟩

theorem step?_upd {s s' : St} {tr : Tr} (hw : writes tr = true) (hs : step? s tr = some s') :
    ∃ (p : Nat) (tp tp' : Tp) (d : Loc), s.tps[p]? = some tp ∧ Upd s tr p tp tp' d ∧ s'.tps = s.tps.set p tp' :=
  (step?_tps hs).2.resolve_left fun h => by rw [hw] at h; cases h.1

end ParsecVerif.Compound
