/-
  Every micro step of the arena machine produces a `Good` delta, so `Inv` holds in every reachable state.  Under
  schedules that run one operation at a time, `released` is exactly the number of cached chunks between operations.
-/
import ParsecVerif.Proofs.Arena

namespace ParsecVerif.Arena

macro "measures" : tactic => `(tactic|
  simp only [base, fin, finGot, own, pcChunks, tpend, pend, tC, tP, tD, mC, mP, mD, tOnes, pcOnes,
    ob, badRes, bad, tHeld, ind, cnt, gots, rels, csum_cons, csum_nil, badReq_self, List.map_cons, List.sum_cons,
    List.length_cons])

theorem chunkless {pc : Pc} (h : pcChunks pc = []) : mC pc = 0 ∧ mP pc = 0 ∧ mD pc = 0 ∧ pcOnes pc = [] := by
  cases pc <;> first | exact ⟨rfl, rfl, rfl, rfl⟩ | cases h

/-! `Good` looks at a thread only through `pc`, `held` and `out`, so the threads are given by their fields. -/

section moves
variable {cfg : Cfg} {s : State} {t : Nat} {held : List Chunk} {todo todo' : List Op} {out : List Res}

/-- `hu`: `used` moves together with the decrements still to come.
    At a call the delta of the goal unfolds to the record below.  `ho` is `Nat.le_refl _` where `out` stays and
    `Nat.le_of_eq (Nat.zero_add _)` where a result with `badRes = 0` (`fail`, `rejected`) is pushed. -/
theorem good_still {pc pc' : Pc} {out' : List Res} {u : Int} {m : Nat} (ho : (out'.map badRes).sum ≤ (out.map badRes).sum)
    (hu : u + pend pc = s.used + pend pc' := by simp only [pend] <;> omega) (hm : s.mallocs ≤ m := by omega)
    (hc : pcChunks pc = [] := by rfl) (hc' : pcChunks pc' = [] := by rfl) :
    Good cfg s ⟨pc, held, todo, out⟩ ⟨⟨pc', held, todo', out'⟩, u, s.released, s.cache, m, [], [], []⟩ := by
  refine ⟨fun g => ?_, .inl ⟨rfl, hm⟩, fun _ => .inl ?_, fun _ => .inl ?_, fun _ => ?_, fun _ => .inl ?_, ?_, ?_, fun x => ?_⟩ <;>
    simp only [own, tpend, tC, tP, tD, tOnes, tHeld, ob, hc, hc', chunkless hc, chunkless hc', gots, rels, csum_nil] <;>
    omega

theorem good_base (cfg : Cfg) (s : State) (th th' : Thread) (hh : th'.held = th.held) (hp : th.pc = .idle) (hp' : th'.pc = .idle)
    (ho : ob th' ≤ ob th) : Good cfg s th (base s th') := by
  obtain ⟨pc, held, todo, out⟩ := th
  obtain ⟨pc', held', todo', out'⟩ := th'
  subst hh hp hp'
  exact good_still ho

/-- `data_malloc` succeeds, with `used` already at `u`.  `hu`: where there is a limit, `u` is `used` after the
    `fetch_add` and passed the test against `max_used` (second alternative of `Good.u2`). -/
theorem good_mallocGot {pc : Pc} {n : Nat} {u : Int} (hu : cfg.maxUsed ≠ INF → u = s.used + n ∧ u ≤ cfg.maxUsed)
    (hc : pcChunks pc = [] := by rfl) (hp : pend pc = 0 := by rfl) :
    Good cfg s ⟨pc, held, todo, out⟩ (mallocGot { base s ⟨pc, held, todo', out⟩ with used := u } t n) := by
  refine ⟨fun g => ?_, .inr ⟨n, rfl, rfl⟩, fun h => .inl ((hu h).1 ▸ ?_), fun h => .inr ⟨(hu h).2, rfl⟩, fun _ => ?_, fun _ => .inl ?_,
    ?_, ?_, fun x => ?_⟩ <;>
    simp only [base, finGot, mallocGot, own, tpend, tC, tP, tD, tOnes, hc, hp, chunkless hc] <;> measures <;> omega

/-- The thread gives chunk `c` away: `pc'` carries it, or it goes to `data_free` (`died`).
    `hu`: only an arena without limit (`max_used` 0 or INT32_MAX) frees at once; there `used` is not maintained.
    `hr`: a thread past the test `released < max_released` has its increment pending (second alternative of `Good.i2`). -/
theorem good_give {k : Nat} {c : Chunk} (hk : held[k]? = some c) {pc' : Pc} {died : List Chunk} {out' : List Res}
    (hu : died = [] ∨ cfg.maxUsed = 0 ∨ cfg.maxUsed = INF)
    (hr : cfg.maxRel ≠ INF → mP pc' = 0 ∧ mD pc' = 0 ∧ (mC pc' = 0 ∨ mC pc' = 1 ∧ s.released < cfg.maxRel))
    (hb : csum bad (pcOnes pc') = 0) (ho : (out'.map badRes).sum ≤ (out.map badRes).sum)
    (hd : pcChunks pc' ++ died = [c] := by rfl) (hp : pend pc' = 0 := by rfl) :
    Good cfg s ⟨.idle, held, todo, out⟩
      ⟨⟨pc', held.eraseIdx k, todo', out'⟩, s.used, s.released, s.cache, s.mallocs, [], died, [.rel t c.id]⟩ := by
  have he := fun g => csum_eraseIdx g held k c hk
  have hd : ∀ g, csum g (pcChunks pc') + csum g died = g c := fun g => (csum_append g _ _).symm.trans (congrArg (csum g) hd)
  have hcnt := he cnt
  have hdc := hd cnt
  have i0 : pcChunks .idle = [] := rfl
  refine ⟨fun g => ?_, .inl ⟨rfl, Nat.le_refl _⟩, fun h => ?_, fun _ => .inl ?_, fun h => ?_, fun h => ?_, ?_, ?_, fun x => ?_⟩
  · have := he g; have := hd g
    simp only [own, i0, csum_nil]; omega
  · rcases hu with rfl | h0 | h0
    · left; simp only [own, tpend, i0, hp, csum_nil] at hdc ⊢; rw [show pend .idle = 0 from rfl]; omega
    · right; refine ⟨h0, rfl, hp, ?_⟩; simp only [own, i0, csum_nil]; omega
    · exact absurd h0 h
  · simp only [own, i0, csum_nil]; omega
  · obtain ⟨h1, h2, _⟩ := hr h
    simp only [tP, tD, h1, h2]; rfl
  · obtain ⟨_, _, h3 | ⟨h3, h4⟩⟩ := hr h
    · exact .inl (by simp only [tC, h3]; exact Int.le_refl _)
    · exact .inr ⟨h4, rfl, rfl, h3⟩
  · simp only [tOnes, hb]; exact Nat.le_refl _
  · simp only [ob]; omega
  · have := he (ind x)
    simp only [gots, rels, tHeld, ind] at this ⊢; omega

end moves

theorem good_local (cfg : Cfg) (s : State) (t : Nat) (th : Thread) : Good cfg s th (localStep cfg s t th) := by
  rcases th with ⟨pc, held, todo, out⟩
  cases pc with
  | idle =>
    cases todo with
    | nil => exact good_still (Nat.le_refl _)
    | cons op rest =>
      cases op with
      | alloc n =>
        match n with
        | 0 => exact good_still (Nat.le_of_eq (Nat.zero_add _))
        | 1 =>
          simp only [localStep, idleAlloc1, mallocFail, base]
          split
          · next c rest' hc =>
            -- the pop; without a cache limit the allocation returns at once, and `h` contradicts the branch
            split <;>
              refine ⟨fun g => ?_, .inl ⟨rfl, Nat.le_refl _⟩, fun _ => .inl ?_, fun _ => .inl ?_, fun h => ?_, fun h => .inl ?_, ?_, ?_,
                fun x => ?_⟩ <;> simp only [hc] <;> measures <;> omega
          · split
            · exact good_still (Nat.le_refl _)
            · next hu =>
              split
              · exact good_mallocGot fun h => absurd h hu
              · exact good_still (Nat.le_of_eq (Nat.zero_add _))
        | n + 2 =>
          simp only [localStep, idleAllocN, mallocFail, base]
          split
          · exact good_still (Nat.le_refl _)
          · next hu =>
            split
            · exact good_mallocGot fun h => absurd h hu
            · exact good_still (Nat.le_of_eq (Nat.zero_add _))
      | release k =>
        simp only [localStep]
        split
        · exact good_still (Nat.le_of_eq (Nat.zero_add _))
        · next c hk =>
          unfold idleRelease
          split
          · next h1 =>
            have hb : bad c = 0 := congrArg (badReq 1) h1.1
            split
            · exact good_give hk (.inl rfl) (fun _ => ⟨rfl, rfl, .inr ⟨rfl, h1.2⟩⟩) hb (Nat.le_refl _)
            · next h2 => exact good_give hk (.inl rfl) (fun h => absurd (Decidable.not_not.1 h2) h) hb (Nat.le_refl _)
          · split
            · exact good_give hk (.inl rfl) (fun _ => ⟨rfl, rfl, .inl rfl⟩) rfl (Nat.le_refl _)
            · exact good_give hk (.inr (by omega)) (fun _ => ⟨rfl, rfl, .inl rfl⟩) rfl (Nat.le_of_eq (Nat.zero_add _))
  | a2 | b0 n =>
    simp only [localStep, mallocFail, base]
    split
    · exact good_still (Nat.le_refl _)
    · next hu =>
      split
      · exact good_mallocGot fun _ => ⟨rfl, by omega⟩
      · exact good_still (Nat.le_refl _)
  -- nothing has unfolded `localStep` here: `m` is still the projection `(base s _).mall`, an atom to the default `omega`
  | a3 | b1 n => exact good_still (Nat.le_of_eq (Nat.zero_add _)) (hm := Nat.le_refl _)
  | a1 c | r1 c | r2 c | f c =>
    -- no branching with a chunk in flight
    simp only [localStep]
    refine ⟨fun g => ?_, .inl ⟨rfl, Nat.le_refl _⟩, fun _ => .inl ?_, fun _ => .inl ?_, fun _ => ?_, fun _ => .inl ?_, ?_, ?_,
      fun x => ?_⟩ <;> measures <;> omega

theorem Inv.step {cfg : Cfg} {s : State} (h : Inv cfg s) (t : Nat) : Inv cfg (step cfg s t) := by
  unfold Arena.step
  cases ht : s.thr[t]? with
  | none => exact h
  | some th => exact h.apply t th ht _ (good_local cfg s t th)

theorem Inv.run (cfg : Cfg) (progs : List (List Op)) (sched : List Nat) : Inv cfg (run cfg progs sched) :=
  Interleave.foldl_inv (fun _ t h => h.step t) sched (Inv.init cfg progs)

theorem Inv.places_le_one {cfg : Cfg} {s : State} (h : Inv cfg s) (x : Nat) : total (ind x) s ≤ 1 := by
  have := h.ghost (ind x)
  have := h.bornOne x
  omega

theorem Inv.held_le_one {cfg : Cfg} {s : State} (h : Inv cfg s) (x : Nat) : tsum (tHeld x) s.thr ≤ 1 :=
  Nat.le_trans (held_le_total (ind x) s) (h.places_le_one x)

theorem trace_step (cfg : Cfg) (s : State) (t : Nat) : ∃ evs, (step cfg s t).trace = evs ++ s.trace := by
  unfold Arena.step
  cases s.thr[t]? with
  | none => exact ⟨[], rfl⟩
  | some th => exact ⟨_, rfl⟩

theorem length_step (cfg : Cfg) (s : State) (t : Nat) : (step cfg s t).thr.length = s.thr.length := by
  unfold Arena.step
  cases s.thr[t]? with
  | none => rfl
  | some th => simp [Arena.apply]

theorem length_run (cfg : Cfg) (progs : List (List Op)) (sched : List Nat) : (run cfg progs sched).thr.length = progs.length :=
  Interleave.foldl_inv (P := fun s => s.thr.length = progs.length) (fun s t h => (length_step cfg s t).trans h) sched (by simp [Arena.init])

theorem evs_le_one (cfg : Cfg) (s : State) (t : Nat) (th : Thread) : (localStep cfg s t th).evs.length ≤ 1 := by
  unfold localStep idleAlloc1 idleAllocN idleRelease
  repeat' split
  all_goals exact Nat.le_of_ble_eq_true rfl

theorem trace_step' (cfg : Cfg) (s : State) (t : Nat) :
    (step cfg s t).trace = s.trace ∨ ∃ e, (step cfg s t).trace = e :: s.trace := by
  unfold Arena.step
  cases s.thr[t]? with
  | none => exact Or.inl rfl
  | some th =>
    rcases Nat.le_one_iff_eq_zero_or_eq_one.1 (evs_le_one cfg s t th) with h | h
    · exact .inl (congrArg (· ++ s.trace) (List.length_eq_zero_iff.1 h))
    · obtain ⟨e, he⟩ := List.length_eq_one_iff.1 h
      exact .inr ⟨e, congrArg (· ++ s.trace) he⟩

/-- `released = r` against the cache length `n` and the limit `M`, by the program point of the one thread that is
    inside an operation -/
def pcRel (M : Nat) (r : Int) (n : Nat) : Pc → Prop
  | .a1 _ => r = n + 1 ∧ r ≤ M
  | .r1 _ => r = n ∧ r < M
  | .r2 _ => r = n + 1 ∧ r ≤ M
  | .idle => r = n ∧ r ≤ M
  | .a2 => r = n ∧ r ≤ M
  | .a3 => r = n ∧ r ≤ M
  | .b0 _ => r = n ∧ r ≤ M
  | .b1 _ => r = n ∧ r ≤ M
  | .f _ => r = n ∧ r ≤ M

/-- bound on the micro steps left in the operation -/
def dist : Pc → Nat
  | .idle => 0 | .a1 _ => 1 | .a2 => 2 | .a3 => 1 | .b0 _ => 2 | .b1 _ => 1 | .r1 _ => 2 | .r2 _ => 1 | .f _ => 1

theorem pcRel_iff (M : Nat) (r : Int) (n : Nat) (pc : Pc) :
    pcRel M r n pc ↔ r = ((n + mP pc + mD pc : Nat) : Int) ∧ r + (mC pc : Nat) ≤ M := by
  cases pc <;> simp only [pcRel, mP, mD, mC] <;> omega

/-- With every other thread idle the sums of `Inv.i1` and `Inv.i2` are the terms of this thread (`pcRel_iff`), so
    `Good.i1` and `Good.i2` of `good_local` are the whole step. -/
theorem pcRel_local (cfg : Cfg) (hne : cfg.maxRel ≠ INF) (s : State) (t : Nat) (th : Thread)
    (h : pcRel cfg.maxRel s.released s.cache.length th.pc) :
    pcRel cfg.maxRel (localStep cfg s t th).rel (localStep cfg s t th).cache.length (localStep cfg s t th).th.pc := by
  have g := good_local cfg s t th
  have i1 := g.i1 hne
  have i2 := g.i2 hne
  rw [pcRel_iff] at h ⊢
  simp only [tP, tD, tC] at i1 i2
  omega

theorem dist_le_two (pc : Pc) : dist pc ≤ 2 := by cases pc <;> simp only [dist] <;> omega

theorem dist_local (cfg : Cfg) (s : State) (t : Nat) (th : Thread) (h : th.pc ≠ .idle) :
    dist (localStep cfg s t th).th.pc < dist th.pc := by
  rcases th with ⟨pc, held, todo, out⟩
  cases pc
  case idle => exact absurd rfl h
  all_goals
    simp only [localStep]
    repeat' split
    all_goals exact Nat.le_of_ble_eq_true rfl

def curPc (s : State) (t : Nat) : Pc :=
  match s.thr[t]? with
  | some th => th.pc
  | none => .idle

theorem dist_zero {pc : Pc} (h : dist pc ≤ 0) : pc = .idle := by
  cases pc <;> simp [dist] at h ⊢

theorem isIdle_iff (s : State) (t : Nat) : isIdle s t = true ↔ curPc s t = .idle := by
  unfold isIdle curPc
  cases s.thr[t]? <;> simp

structure SeqInv (cfg : Cfg) (s : State) (t : Nat) : Prop where
  others : ∀ (i : Nat) (th : Thread), i ≠ t → s.thr[i]? = some th → th.pc = .idle
  rel : pcRel cfg.maxRel s.released s.cache.length (curPc s t)

theorem curPc_step {cfg : Cfg} {s : State} {t : Nat} {th : Thread} (ht : s.thr[t]? = some th) :
    curPc (step cfg s t) t = (localStep cfg s t th).th.pc := by
  unfold curPc Arena.step
  rw [ht]
  simp [Arena.apply, (List.getElem?_eq_some_iff.1 ht).1]

theorem SeqInv.step {cfg : Cfg} (hne : cfg.maxRel ≠ INF) {s : State} {t : Nat} (h : SeqInv cfg s t) :
    SeqInv cfg (step cfg s t) t := by
  cases ht : s.thr[t]? with
  | none => rw [show Arena.step cfg s t = s by simp only [Arena.step, ht]]; exact h
  | some th =>
    refine ⟨fun i thi hi hti => h.others i thi hi ?_, ?_⟩
    · simpa [Arena.step, ht, Arena.apply, List.getElem?_set_ne (Ne.symm hi)] using hti
    · have hr := h.rel
      rw [curPc_step ht]
      simp only [curPc, ht] at hr
      simpa [Arena.step, ht, Arena.apply] using pcRel_local cfg hne s t th hr

theorem dist_step {cfg : Cfg} {s : State} {t : Nat} (h : curPc s t ≠ .idle) :
    dist (curPc (step cfg s t) t) < dist (curPc s t) := by
  cases ht : s.thr[t]? with
  | none => simp [curPc, ht] at h
  | some th =>
    rw [curPc_step ht]
    simp only [curPc, ht] at h ⊢
    exact dist_local cfg s t th h

theorem SeqInv.finishOp {cfg : Cfg} (hne : cfg.maxRel ≠ INF) (t : Nat) :
    ∀ (k : Nat) (s : State), SeqInv cfg s t → dist (curPc s t) ≤ k →
      SeqInv cfg (finishOp cfg k s t) t ∧ curPc (finishOp cfg k s t) t = .idle
  | 0, _, h, hd => ⟨h, dist_zero hd⟩
  | k + 1, s, h, hd => by
    unfold Arena.finishOp
    split
    · next hi => exact ⟨h, (isIdle_iff s t).1 hi⟩
    · next hi =>
      have := dist_step (cfg := cfg) (mt (isIdle_iff s t).2 hi)
      exact SeqInv.finishOp hne t k _ (h.step hne) (by omega)

structure Quiet (cfg : Cfg) (s : State) : Prop where
  idle : ∀ (i : Nat) (th : Thread), s.thr[i]? = some th → th.pc = .idle
  rel : s.released = s.cache.length ∧ s.released ≤ cfg.maxRel

theorem Quiet.doOp {cfg : Cfg} (hne : cfg.maxRel ≠ INF) {s : State} (h : Quiet cfg s) (t : Nat) : Quiet cfg (doOp cfg s t) := by
  have hc : curPc s t = .idle := by
    unfold curPc
    cases ht : s.thr[t]? with
    | none => rfl
    | some th => exact h.idle t th ht
  have h0 : SeqInv cfg s t := ⟨fun i th _ hi => h.idle i th hi, by rw [hc]; exact h.rel⟩
  -- after its first step an operation has at most 2 steps left (as in `idle → a2 → a3 → idle`); `doOp` allows 3
  have h2 := SeqInv.finishOp hne t 3 _ (h0.step hne) (Nat.le_succ_of_le (dist_le_two _))
  unfold Arena.doOp
  refine ⟨fun i th hi => ?_, (h2.2 ▸ h2.1.rel : pcRel _ _ _ .idle)⟩
  by_cases hit : i = t
  · subst hit
    simpa only [curPc, hi] using h2.2
  · exact h2.1.others i th hit hi

theorem Quiet.init (cfg : Cfg) (progs : List (List Op)) : Quiet cfg (init progs) := by
  refine ⟨fun i th hi => ?_, rfl, Int.natCast_nonneg _⟩
  obtain ⟨p, _, rfl⟩ := List.mem_map.1 (List.mem_of_getElem? hi)
  rfl

theorem Quiet.runOps {cfg : Cfg} (hne : cfg.maxRel ≠ INF) (ts : List Nat) {s : State} (h : Quiet cfg s) :
    Quiet cfg (runOps cfg s ts) :=
  Interleave.foldl_inv (fun _ t h => h.doOp hne t) ts h

theorem finishOp_sched (cfg : Cfg) (t : Nat) : ∀ (k : Nat) (s : State), ∃ l : List Nat, finishOp cfg k s t = l.foldl (step cfg) s
  | 0, _ => ⟨[], rfl⟩
  | k + 1, s => by
    unfold Arena.finishOp
    split
    · exact ⟨[], rfl⟩
    · obtain ⟨l, hl⟩ := finishOp_sched cfg t k (step cfg s t)
      exact ⟨t :: l, hl⟩

theorem runOps_sched (cfg : Cfg) (ts : List Nat) (s : State) : ∃ l : List Nat, runOps cfg s ts = l.foldl (step cfg) s :=
  Interleave.foldl_inv (P := fun s' => ∃ l : List Nat, s' = l.foldl (step cfg) s) (fun s' t ⟨l, hl⟩ => by
    obtain ⟨l1, h1⟩ := finishOp_sched cfg t 3 (step cfg s' t)
    exact ⟨l ++ t :: l1, by rw [List.foldl_append, ← hl]; exact h1⟩) ts ⟨[], rfl⟩

end ParsecVerif.Arena
