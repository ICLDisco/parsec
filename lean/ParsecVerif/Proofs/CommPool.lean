/-
  C14 — one tag pool (persistent receives + tested window): its invariant at the stages of a pass and of `refill`, and
  where the rotation scan of `refill` stops (`scan_stop`), which is all the second layer uses of the scan.
-/
import ParsecVerif.Model.CommWindow
import ParsecVerif.Proofs.CommList

namespace ParsecVerif.CommEngine
open ParsecVerif.Interleave (lt_of_getElem? forall_getElem?_set)

theorem succ_mod_eq {r n : Nat} (h : r < n) : (r + 1) % n = if r + 1 = n then 0 else r + 1 := by
  split
  · simp [*]
  · exact Nat.mod_eq_of_lt (by omega)

theorem cd_lt {n a b : Nat} (hb : b < n) : cd n a b < n := by
  unfold cd; split <;> omega

theorem cd_step {n a b : Nat} (ha : a < n) (hb : b < n) (hab : a ≠ b) :
    cd n ((a + 1) % n) b + 1 = cd n a b := by
  rw [succ_mod_eq ha]
  unfold cd
  by_cases hle : a ≤ b
  · rw [if_neg (show ¬ a + 1 = n by omega), if_pos hle, if_pos (show a + 1 ≤ b by omega)]; omega
  · rw [if_neg hle]
    split
    · rw [if_pos (Nat.zero_le b)]; omega
    · rw [if_neg (show ¬ a + 1 ≤ b by omega)]; omega

/-- The fields `Pool.init` sets and no operation writes. -/
def Pool.shape (p : Pool) : Nat × Nat × Nat × Nat := (p.id, p.n, p.t, p.base)

def Slot.amR (sl : Slot) : Option Nat :=
  match sl.req with
  | some (.am _ r) => some r
  | _ => none

def winReqs (w : List Slot) : List Nat := w.filterMap Slot.amR

@[simp] theorem amR_amSlot (tag r a : Nat) : (amSlot tag r a).amR = some r := rfl

theorem amR_none {sl : Slot} (h : sl.req = none) : sl.amR = none := by
  simp [Slot.amR, h]

theorem winReqs_append (a b : List Slot) : winReqs (a ++ b) = winReqs a ++ winReqs b := by
  simp [winReqs, List.filterMap_append]

theorem winReqs_length_le (w : List Slot) : (winReqs w).length ≤ w.length :=
  List.length_filterMap_le _ _

theorem mem_winReqs_of_slot {w : List Slot} {j tag r a : Nat} (h : w[j]? = some (amSlot tag r a)) : r ∈ winReqs w :=
  List.mem_filterMap.mpr ⟨_, List.mem_of_getElem? h, rfl⟩

/-- Core invariant of a pool (holds also in the middle of `refill`, where the window is short).  `inw_iff`: the flag
    `reqs_in_testsome[r]` is set exactly for the receives sitting in a window slot; `act_in`: a receive that MPI
    reported complete and that was not restarted yet still sits in its slot. -/
structure PCore (p : Pool) : Prop where
  t_pos : 1 ≤ p.t
  t_le : p.t ≤ p.n
  ridx_lt : p.ridx < p.n
  inw_len : p.inw.length = p.n
  act_len : p.act.length = p.n
  slots : ∀ j sl, p.win[j]? = some sl → sl.req = none ∨ ∃ r, r < p.n ∧ sl = amSlot p.id r (p.base + j)
  nodup : (winReqs p.win).Nodup
  inw_iff : ∀ r, r < p.n → (p.inw.getD r false = true ↔ r ∈ winReqs p.win)
  act_in : ∀ r, r < p.n → p.act.getD r true = false → r ∈ winReqs p.win

/-- What `complete`, `restart` and `refill` start from and end in. -/
structure PInv (p : Pool) : Prop where
  core : PCore p
  win_len : p.win.length = p.t

/-- Between two calls of `progress`. -/
structure PQuiet (p : Pool) : Prop where
  inv : PInv p
  full : ∀ sl, sl ∈ p.win → sl.req ≠ none
  active : ∀ r, r < p.n → p.act.getD r true = true

theorem PCore.slot_of_mem {p : Pool} (h : PCore p) {r : Nat} (hr : r ∈ winReqs p.win) :
    ∃ j, r < p.n ∧ p.win[j]? = some (amSlot p.id r (p.base + j)) := by
  obtain ⟨sl, hsl, hsr⟩ := List.mem_filterMap.mp hr
  obtain ⟨j, hj⟩ := List.getElem?_of_mem hsl
  rcases h.slots j sl hj with h0 | ⟨r', hr', rfl⟩
  · rw [amR_none h0] at hsr; cases hsr
  · obtain rfl : r' = r := by simpa using hsr
    exact ⟨j, hr', hj⟩

theorem mem_winReqs_lt {p : Pool} (h : PCore p) {r : Nat} (hr : r ∈ winReqs p.win) : r < p.n :=
  let ⟨_, h1, _⟩ := h.slot_of_mem hr; h1

theorem PQuiet.slot {p : Pool} (h : PQuiet p) {j : Nat} (hj : j < p.t) :
    ∃ r, r < p.n ∧ p.win[j]? = some (amSlot p.id r (p.base + j)) := by
  have hjl : j < p.win.length := h.inv.win_len ▸ hj
  have hsl := List.getElem?_eq_getElem hjl
  obtain ⟨r, hr, he⟩ := (h.inv.core.slots j _ hsl).resolve_left (h.full _ (List.getElem_mem hjl))
  exact ⟨r, hr, he ▸ hsl⟩

theorem winReqs_set_none {w : List Slot} {j tag r a : Nat} (hj : w[j]? = some (amSlot tag r a))
    (hn : (winReqs w).Nodup) : winReqs (w.set j (amSlot tag r a).clear) = (winReqs w).erase r := by
  obtain ⟨L, R, e1, e2⟩ := set_split hj (amSlot tag r a).clear
  have hc : (amSlot tag r a).clear.amR = none := rfl
  rw [e2]
  rw [e1] at hn ⊢
  simp only [winReqs, List.filterMap_append, List.filterMap_cons, amR_amSlot, hc] at hn ⊢
  have hnot : r ∉ L.filterMap Slot.amR := fun hm => (List.nodup_append.mp hn).2.2 r hm r List.mem_cons_self rfl
  rw [List.erase_append_right _ hnot, List.erase_cons_head]

theorem win_inj {p : Pool} (h : PCore p) {j j' r : Nat} {a a' : Nat}
    (h1 : p.win[j]? = some (amSlot p.id r a)) (h2 : p.win[j']? = some (amSlot p.id r a')) : j = j' := by
  apply Classical.byContradiction
  intro hne
  have hm : r ∈ winReqs (p.win.set j (amSlot p.id r a).clear) :=
    mem_winReqs_of_slot ((List.getElem?_set_ne hne).trans h2)
  rw [winReqs_set_none h1 h.nodup] at hm
  exact (h.nodup.mem_erase_iff.mp hm).1 rfl

theorem winReqs_init (id base t : Nat) :
    winReqs ((List.range t).map (fun j => amSlot id j (base + j))) = List.range t := by
  rw [winReqs, List.filterMap_map]
  exact List.filterMap_some

theorem PQuiet_init (id n t base : Nat) (h1 : 1 ≤ t) (h2 : t ≤ n) : PQuiet (Pool.init id n t base) := by
  have hact : ∀ r, r < n → (List.replicate n true).getD r true = true := by
    intro r hr; simp [List.getD_eq_getElem?_getD, hr]
  refine ⟨⟨⟨h1, h2, Nat.mod_lt _ (by omega), by simp [Pool.init], by simp [Pool.init], ?_, ?_, ?_, ?_⟩, by simp [Pool.init]⟩,
    ?_, hact⟩
  · intro j sl hj
    have hjt : j < t := by simpa [Pool.init] using lt_of_getElem? hj
    rw [Pool.init, List.getElem?_map, List.getElem?_range hjt] at hj
    exact Or.inr ⟨j, Nat.lt_of_lt_of_le hjt h2, (Option.some.inj hj).symm⟩
  · rw [Pool.init, winReqs_init]
    exact List.nodup_range
  · intro r (hr : r < n)
    rw [Pool.init, winReqs_init, List.getD_eq_getElem?_getD, List.getElem?_map, List.getElem?_range hr, List.mem_range]
    simp
  · intro r hr (h : (List.replicate n true).getD r true = false)
    rw [hact r hr] at h; cases h
  · intro sl hsl
    obtain ⟨j, _, rfl⟩ := List.mem_map.mp hsl
    simp [amSlot]

/-- One pool inside a pass of the progress loop.  `T j`: window offset `j` was reported by `MPI_Testsome` and its
    callback has not run yet. -/
structure PMid (p : Pool) (T : Nat → Prop) : Prop where
  inv : PInv p
  pending_inactive : ∀ j, T j → ∃ r, r < p.n ∧ p.win[j]? = some (amSlot p.id r (p.base + j)) ∧ p.act.getD r true = false
  inactive_pending : ∀ r, r < p.n → p.act.getD r true = false → ∃ j, T j ∧ p.win[j]? = some (amSlot p.id r (p.base + j))

theorem PMid.congr {p : Pool} {T T' : Nat → Prop} (h : PMid p T) (he : ∀ j, T j ↔ T' j) : PMid p T' :=
  ⟨h.inv, fun j hj => h.pending_inactive j ((he j).mpr hj),
    fun r hr ha => (h.inactive_pending r hr ha).imp fun j hj => ⟨(he j).mp hj.1, hj.2⟩⟩

theorem PQuiet.toMid {p : Pool} (h : PQuiet p) {T : Nat → Prop} (hT : ∀ j, ¬ T j) : PMid p T :=
  ⟨h.inv, fun j hj => (hT j hj).elim, fun r hr ha => by rw [h.active r hr] at ha; cases ha⟩

theorem complete_act {p : Pool} {j tg r a : Nat} (hw : p.win[j]? = some (amSlot tg r a)) :
    p.complete j = { p with act := p.act.set r false } := by
  rw [Pool.complete, hw]
  rfl

theorem PMid.complete {p : Pool} {T : Nat → Prop} (h : PMid p T) {j r : Nat} (hr : r < p.n)
    (hw : p.win[j]? = some (amSlot p.id r (p.base + j))) : PMid (p.complete j) (fun j' => T j' ∨ j' = j) := by
  have hc := h.inv.core
  have hact := fun x => getD_set_flip p.act r x true
  rw [complete_act hw]
  refine ⟨⟨⟨hc.t_pos, hc.t_le, hc.ridx_lt, hc.inw_len, by simp [hc.act_len], hc.slots, hc.nodup, hc.inw_iff, ?_⟩,
    h.inv.win_len⟩, ?_, ?_⟩
  · intro x hx hxa
    rcases (hact x).mp hxa with ⟨rfl, _⟩ | hxa
    · exact mem_winReqs_of_slot hw
    · exact hc.act_in x hx hxa
  · rintro j' (hj' | rfl)
    · obtain ⟨r', h1, h2, h3⟩ := h.pending_inactive j' hj'
      exact ⟨r', h1, h2, (hact r').mpr (Or.inr h3)⟩
    · exact ⟨r, hr, hw, (hact r).mpr (Or.inl ⟨rfl, hc.act_len ▸ hr⟩)⟩
  · intro x hx hxa
    rcases (hact x).mp hxa with ⟨rfl, _⟩ | hxa
    · exact ⟨j, Or.inr rfl, hw⟩
    · exact (h.inactive_pending x hx hxa).imp fun j' hj' => ⟨Or.inl hj'.1, hj'.2⟩

theorem done_eq {p : Pool} {j r : Nat} (hr : r < p.n) (hsl : p.win[j]? = some (amSlot p.id r (p.base + j)))
    (hact : p.act.getD r true = false) : p.done j = (p.restart j r (amSlot p.id r (p.base + j)), true) := by
  rw [Pool.done, hsl]
  exact if_pos ⟨rfl, rfl, hr, hact⟩

theorem winReqs_restart {p : Pool} (h : PCore p) {j r : Nat} (hsl : p.win[j]? = some (amSlot p.id r (p.base + j))) :
    winReqs (p.restart j r (amSlot p.id r (p.base + j))).win = (winReqs p.win).erase r :=
  winReqs_set_none hsl h.nodup

theorem PMid.restart {p : Pool} {T : Nat → Prop} {j r : Nat} (h : PMid p (fun j' => j' = j ∨ T j')) (hj : ¬ T j)
    (hsl : p.win[j]? = some (amSlot p.id r (p.base + j))) : PMid (p.restart j r (amSlot p.id r (p.base + j))) T := by
  have hc := h.inv.core
  have hw := winReqs_restart hc hsl
  have hact := fun x => getD_set_default p.act r x true
  unfold Pool.restart at hw ⊢
  refine ⟨⟨⟨hc.t_pos, hc.t_le, hc.ridx_lt, by simp [hc.inw_len], by simp [hc.act_len], ?_, ?_, ?_, ?_⟩,
    by simp [h.inv.win_len]⟩, ?_, ?_⟩
  · exact forall_getElem?_set (Or.inl rfl) fun i sl _ => hc.slots i sl
  · exact hw ▸ hc.nodup.erase r
  · intro x hx
    rw [hw, hc.nodup.mem_erase_iff, ← hc.inw_iff x hx]
    exact getD_set_default p.inw r x false
  · intro x hx hxa
    obtain ⟨hne, hxa⟩ := (hact x).mp hxa
    exact hw ▸ (List.mem_erase_of_ne hne).mpr (hc.act_in x hx hxa)
  · intro j' hj'
    have hne : j' ≠ j := fun e => hj (e ▸ hj')
    obtain ⟨r', h1, h2, h3⟩ := h.pending_inactive j' (Or.inr hj')
    exact ⟨r', h1, (List.getElem?_set_ne (Ne.symm hne)).trans h2,
      (hact r').mpr ⟨fun e => hne (win_inj hc (e ▸ h2) hsl), h3⟩⟩
  · intro x hx hxa
    obtain ⟨hne, hxa⟩ := (hact x).mp hxa
    obtain ⟨j', h1, h2⟩ := h.inactive_pending x hx hxa
    have hjj : j' ≠ j := by
      rintro rfl
      exact hne (show r = x by simpa [amSlot] using hsl.symm.trans h2).symm
    exact ⟨j', h1.resolve_left hjj, (List.getElem?_set_ne (Ne.symm hjj)).trans h2⟩

/-- The pool between the two loops of `refill`. -/
def Pool.compacted (p : Pool) : Pool := { p with win := compact p.base p.win 0 0 }

theorem refill_eq (p : Pool) : p.refill = Pool.fillN (p.t - p.compacted.win.length) p.compacted := rfl

theorem winReqs_compact (base : Nat) (w : List Slot) (rd wr : Nat) :
    winReqs (compact base w rd wr) = winReqs w := by
  induction w generalizing rd wr with
  | nil => rfl
  | cons sl rest ih =>
    unfold compact
    split
    · rw [ih]; simp [winReqs, amR_none (Option.isNone_iff_eq_none.mp ‹_›)]
    · have hamr : (if wr = rd then sl else { sl with st1 := base + wr }).amR = sl.amR := by split <;> rfl
      simp only [winReqs, List.filterMap_cons, hamr] at ih ⊢
      rw [ih]

theorem compact_slots (id n base : Nat) (w : List Slot) (rd wr : Nat)
    (hw : ∀ j sl, w[j]? = some sl → sl.req = none ∨ ∃ r, r < n ∧ sl = amSlot id r (base + (rd + j))) :
    ∀ j sl, (compact base w rd wr)[j]? = some sl → ∃ r, r < n ∧ sl = amSlot id r (base + (wr + j)) := by
  induction w generalizing rd wr with
  | nil => intro j sl h; simp [compact] at h
  | cons s rest ih =>
    have hrest := fun wr' => ih (rd + 1) wr' fun j sl hj => by
      simpa [Nat.add_assoc, Nat.add_comm 1] using hw (j + 1) sl hj
    unfold compact
    rcases hw 0 s rfl with h0 | ⟨r, hr, rfl⟩
    · rw [h0]; exact hrest wr
    · rintro (_ | j) sl h
      · obtain rfl := Option.some.inj h
        refine ⟨r, hr, ?_⟩
        split
        · subst_vars; rfl
        · rfl
      · simpa [Nat.add_assoc, Nat.add_comm 1] using hrest (wr + 1) j sl h

theorem PCore.length_full {p : Pool} (h : PCore p) (hf : ∀ sl, sl ∈ p.win → sl.req ≠ none) :
    (winReqs p.win).length = p.win.length :=
  List.filterMap_length_eq_length.mpr fun sl hsl => by
    obtain ⟨j, hj⟩ := List.getElem?_of_mem hsl
    obtain ⟨r, _, rfl⟩ := (h.slots j sl hj).resolve_left (hf sl hsl)
    rfl

theorem PQuiet.winReqs_length {p : Pool} (h : PQuiet p) : (winReqs p.win).length = p.t :=
  (h.inv.core.length_full h.full).trans h.inv.win_len

theorem PCore_compacted {p : Pool} (h : PInv p) :
    PCore p.compacted ∧ (∀ sl, sl ∈ p.compacted.win → sl.req ≠ none) ∧ p.compacted.win.length ≤ p.t := by
  have hslots : ∀ j sl, (compact p.base p.win 0 0)[j]? = some sl → ∃ r, r < p.n ∧ sl = amSlot p.id r (p.base + j) := by
    simpa using compact_slots p.id p.n p.base p.win 0 0 (by simpa using h.core.slots)
  have hwk : winReqs p.compacted.win = winReqs p.win := winReqs_compact p.base p.win 0 0
  have hc : PCore p.compacted :=
    ⟨h.core.t_pos, h.core.t_le, h.core.ridx_lt, h.core.inw_len, h.core.act_len, fun j sl hj => Or.inr (hslots j sl hj),
      hwk ▸ h.core.nodup, hwk ▸ h.core.inw_iff, hwk ▸ h.core.act_in⟩
  have hfull : ∀ sl, sl ∈ p.compacted.win → sl.req ≠ none := fun sl hsl => by
    obtain ⟨j, hj⟩ := List.getElem?_of_mem hsl
    obtain ⟨r, _, rfl⟩ := hslots j sl hj
    exact Option.some_ne_none _
  exact ⟨hc, hfull, by rw [← hc.length_full hfull, hwk, ← h.win_len]; exact winReqs_length_le p.win⟩

/-- The measure is the distance `cd` from `req_idx` to a receive `x` outside the window: with that much fuel the scan
    stops on a receive outside the window, `x` or one strictly before it. -/
theorem scan_stop (inw : List Bool) {n x : Nat} (hx : x < n) (hxf : inw.getD x false = false) (f r : Nat) (hr : r < n)
    (hf : cd n r x < f) :
    scan inw n f r < n ∧ inw.getD (scan inw n f r) false = false ∧
    (scan inw n f r = x ∨ cd n ((scan inw n f r + 1) % n) x + 1 ≤ cd n r x) := by
  induction f generalizing r with
  | zero => exact absurd hf (Nat.not_lt_zero _)
  | succ f ih =>
    unfold scan
    split
    · rename_i hb
      have hstep := cd_step hr hx (by rintro rfl; rw [hb] at hxf; cases hxf)
      obtain ⟨a, b, c⟩ := ih ((r + 1) % n) (Nat.mod_lt _ (Nat.zero_lt_of_lt hr)) (by omega)
      exact ⟨a, b, c.imp_right fun h => by omega⟩
    · exact ⟨hr, Bool.eq_false_iff.mpr ‹_›, (Decidable.em (r = x)).imp_right fun h => Nat.le_of_eq (cd_step hr hx h)⟩

/-- Pigeonhole. -/
theorem exists_lt_not_mem {m : Nat} {l : List Nat} (hlen : l.length < m) : ∃ x, x < m ∧ x ∉ l := by
  apply Classical.byContradiction
  intro hno
  have hsub : List.range m ⊆ l := fun x hx =>
    Classical.not_not.mp fun hxl => hno ⟨x, List.mem_range.mp hx, hxl⟩
  have := List.nodup_range.length_le_of_subset hsub
  rw [List.length_range] at this
  omega

theorem scan_outside {p : Pool} (h : PCore p) (hlt : (winReqs p.win).length < p.n) :
    scan p.inw p.n p.n p.ridx < p.n ∧ p.inw.getD (scan p.inw p.n p.n p.ridx) false = false := by
  obtain ⟨x, hx, hxn⟩ := exists_lt_not_mem hlt
  have hxf : p.inw.getD x false = false := by rw [← Bool.not_eq_true, h.inw_iff x hx]; exact hxn
  obtain ⟨h1, h2, _⟩ := scan_stop p.inw hx hxf p.n p.ridx h.ridx_lt (cd_lt hx)
  exact ⟨h1, h2⟩

theorem PCore_fill1 {p : Pool} (h : PCore p) (hfull : ∀ sl, sl ∈ p.win → sl.req ≠ none)
    (hlt : p.win.length < p.t) : PCore p.fill1 ∧ (∀ sl, sl ∈ p.fill1.win → sl.req ≠ none) := by
  obtain ⟨hq, hqf⟩ := scan_outside h (by have := winReqs_length_le p.win; have := h.t_le; omega)
  unfold Pool.fill1
  generalize scan p.inw p.n p.n p.ridx = s at hq hqf
  have hqn : s ∉ winReqs p.win := fun hm => by rw [(h.inw_iff _ hq).mpr hm] at hqf; cases hqf
  have hwr : winReqs (p.win ++ [amSlot p.id s (p.base + p.win.length)]) = winReqs p.win ++ [s] := winReqs_append _ _
  refine ⟨⟨h.t_pos, h.t_le, Nat.mod_lt _ (Nat.zero_lt_of_lt hq), by simp [h.inw_len], h.act_len, ?_, ?_, ?_, ?_⟩, ?_⟩
  · intro j sl hj
    rcases getElem?_concat_cases hj with hj | ⟨rfl, rfl⟩
    · exact h.slots j sl hj
    · exact Or.inr ⟨s, hq, rfl⟩
  · rw [hwr]
    exact nodup_concat.mpr ⟨hqn, h.nodup⟩
  · intro r hr
    rw [hwr, List.mem_append, List.mem_singleton, ← h.inw_iff r hr]
    exact (getD_set_flip p.inw s r false).trans (by rw [h.inw_len, and_iff_left hq]; exact Or.comm)
  · intro r hr hra
    rw [hwr]
    exact List.mem_append_left _ (h.act_in r hr hra)
  · intro sl hsl
    rcases List.mem_append.mp hsl with hsl | hsl
    · exact hfull sl hsl
    · rw [List.mem_singleton.mp hsl]; simp [amSlot]

theorem fill1_win_length (p : Pool) : p.fill1.win.length = p.win.length + 1 := by simp [Pool.fill1]

theorem fillN_frame : ∀ (m : Nat) (p : Pool), (Pool.fillN m p).shape = p.shape ∧ (Pool.fillN m p).act = p.act
  | 0, _ => ⟨rfl, rfl⟩
  | m + 1, p => fillN_frame m p.fill1

theorem PCore_fillN (m : Nat) {p : Pool} (h : PCore p) (hf : ∀ sl, sl ∈ p.win → sl.req ≠ none)
    (hl : p.win.length + m = p.t) :
    PInv (Pool.fillN m p) ∧ ∀ sl, sl ∈ (Pool.fillN m p).win → sl.req ≠ none := by
  induction m generalizing p with
  | zero => exact ⟨⟨h, hl⟩, hf⟩
  | succ m ih =>
    obtain ⟨h1, hf1⟩ := PCore_fill1 h hf (by omega)
    exact ih h1 hf1 (by rw [fill1_win_length]; show _ = p.t; omega)

theorem refill_frame (p : Pool) : p.refill.shape = p.shape ∧ p.refill.act = p.act :=
  refill_eq p ▸ fillN_frame _ p.compacted

/-- `mpi_funnelled_refill_am_requests` on one tag re-establishes a full window. -/
theorem PQuiet_refill {p : Pool} (h : PInv p) (hact : ∀ r, r < p.n → p.act.getD r true = true) : PQuiet p.refill := by
  obtain ⟨hc, hfull, hlen⟩ := PCore_compacted h
  obtain ⟨g1, g2⟩ := PCore_fillN (p.t - p.compacted.win.length) hc hfull (by show _ = p.t; omega)
  rw [← refill_eq p] at g1 g2
  obtain ⟨e1, e2⟩ := refill_frame p
  have en : p.refill.n = p.n := congrArg (·.2.1) e1
  exact ⟨g1, g2, fun r hr => by rw [e2]; exact hact r (en ▸ hr)⟩

theorem PMid.refill {p : Pool} {T : Nat → Prop} (h : PMid p T) (hT : ∀ j, ¬ T j) : PQuiet p.refill :=
  PQuiet_refill h.inv fun r hr => Bool.of_not_eq_false fun ha => let ⟨j, hj, _⟩ := h.inactive_pending r hr ha; hT j hj

theorem compact_id_of_full (base : Nat) (w : List Slot) (rd : Nat) (hf : ∀ sl, sl ∈ w → sl.req ≠ none) :
    compact base w rd rd = w := by
  induction w generalizing rd with
  | nil => rfl
  | cons s rest ih =>
    unfold compact
    rw [if_neg fun e => hf s List.mem_cons_self (Option.isNone_iff_eq_none.mp e), if_pos rfl,
      ih (rd + 1) (fun sl hsl => hf sl (List.mem_cons_of_mem _ hsl))]

/-- The C loop skips `refill` when `MPI_Testsome` reported nothing (`if(0 == outcount) goto feed_more_work`);
    `St.iterL []` calls it all the same, which by this lemma is no difference. -/
theorem refill_of_quiet {p : Pool} (h : PQuiet p) : p.refill = p := by
  rw [Pool.refill, compact_id_of_full p.base p.win 0 h.full, h.inv.win_len, Nat.sub_self]
  rfl

end ParsecVerif.CommEngine
