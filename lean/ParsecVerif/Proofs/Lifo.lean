/-
  Invariants of the lock-free LIFO model (Model/Lifo.lean), rely/guarantee style: `GInv` global, `TInv` per thread and
  program point (what the thread knows about its saved values), `Stable u` what thread `u` relies on from a step of
  ANOTHER thread, `Guar t` what a step of `t` ITSELF does to memory (own write of `list_next`, the CAS of push/chain,
  the CAS of pop): `GInv` again, and `Stable` for everybody else.
-/
import ParsecVerif.Model.Lifo

namespace ParsecVerif.Lifo

theorem upd_same (f : Nat → Nat) (a v : Nat) : upd f a v a = v := by simp [upd]
theorem upd_ne (f : Nat → Nat) (a v x : Nat) (h : x ≠ a) : upd f a v x = f x := by simp [upd, h]

theorem IsSeg.congr {f g : Nat → Nat} : ∀ {l : List Nat} {h e : Nat},
    (∀ x ∈ l, f x = g x) → IsSeg f h l e → IsSeg g h l e
  | [], _, _, _, hs => hs
  | x :: _, _, _, hfg, hs =>
    ⟨hs.1, hs.2.1, hfg x (List.mem_cons_self ..) ▸ IsSeg.congr (fun y hy => hfg y (List.mem_cons_of_mem _ hy)) hs.2.2⟩

theorem IsSeg.upd_notin {f : Nat → Nat} {l : List Nat} {h e a v : Nat} (ha : a ∉ l)
    (hs : IsSeg f h l e) : IsSeg (upd f a v) h l e :=
  hs.congr fun x hx => (upd_ne f a v x (fun hxa => ha (hxa ▸ hx))).symm

theorem IsSeg.append {f : Nat → Nat} : ∀ {l1 l2 : List Nat} {h m e : Nat},
    IsSeg f h l1 m → IsSeg f m l2 e → IsSeg f h (l1 ++ l2) e
  | [], _, _, _, _, h1, h2 => h1 ▸ h2
  | _ :: _, _, _, _, _, h1, h2 => ⟨h1.1, h1.2.1, IsSeg.append h1.2.2 h2⟩

theorem IsSeg.snoc {f : Nat → Nat} {pre : List Nat} {h tl e : Nat} (hs : IsSeg f h pre tl)
    (h0 : tl ≠ 0) (hn : f tl = e) : IsSeg f h (pre ++ [tl]) e :=
  hs.append ⟨rfl, h0, hn⟩

theorem IsSeg.unsnoc {f : Nat → Nat} {tl e : Nat} : ∀ {pre : List Nat} {h : Nat},
    IsSeg f h (pre ++ [tl]) e → IsSeg f h pre tl
  | [], _, hs => hs.1
  | _ :: _, _, hs => ⟨hs.1, hs.2.1, IsSeg.unsnoc hs.2.2⟩

theorem IsSeg.hd_ring {f : Nat → Nat} {pre : List Nat} {h tl e : Nat} (hs : IsSeg f h (pre ++ [tl]) e) :
    h = ringHd pre tl := by
  cases pre <;> exact hs.1

theorem IsSeg.nil_of_zero {f : Nat → Nat} {l : List Nat} {e : Nat} (hs : IsSeg f 0 l e) : l = [] := by
  cases l with
  | nil => rfl
  | cons x xs => exact absurd hs.1.symm hs.2.1

structure GInv (m : Mem) : Prop where
  seg : IsSeg m.next m.top m.abs 0
  nodup : m.abs.Nodup
  who0 : ∀ x, m.who x = 0 ↔ (x = 0 ∨ x ∈ m.abs)

def Owns (m : Mem) (t : Nat) (l : List Nat) : Prop := ∀ x ∈ l, m.who x = t + 1

def TInv (m : Mem) (t : Nat) : Pc → Prop
  | .idle => True
  | .pushRd pre tl => PushPre m t pre tl
  | .pushWr pre tl _ => PushPre m t pre tl
  | .pushFence pre tl nxt =>
    Owns m t (pre ++ [tl]) ∧ (pre ++ [tl]).Nodup ∧ IsSeg m.next (ringHd pre tl) (pre ++ [tl]) nxt
  | .pushCas pre tl nxt =>
    Owns m t (pre ++ [tl]) ∧ (pre ++ [tl]).Nodup ∧ IsSeg m.next (ringHd pre tl) (pre ++ [tl]) nxt
  | .popRdC _ => True
  | .popFence _ c => c ≤ m.ctr
  | .popRdI _ c => c ≤ m.ctr
  | .popRdN _ c it => c ≤ m.ctr ∧ it ≠ 0 ∧ (c = m.ctr → it ∈ m.abs)
  | .popCas _ c it n => c ≤ m.ctr ∧ it ≠ 0 ∧ (c = m.ctr → it ∈ m.abs ∧ m.next it = n)
  | .popWmb _ it => m.who it = t + 1
  | .popClr _ it => m.who it = t + 1
  | .setNx x _ => m.who x = t + 1

structure Stable (u : Nat) (m m' : Mem) : Prop where
  ctr : m.ctr ≤ m'.ctr
  abs : m'.ctr = m.ctr → ∀ x ∈ m.abs, x ∈ m'.abs ∧ m'.next x = m.next x
  own : ∀ x, m.who x = u + 1 → m'.who x = u + 1 ∧ m'.next x = m.next x

theorem Stable.refl (u : Nat) (m : Mem) : Stable u m m :=
  ⟨Nat.le_refl _, fun _ _ hx => ⟨hx, rfl⟩, fun _ hx => ⟨hx, rfl⟩⟩

theorem GInv.of_owned {m : Mem} (hG : GInv m) {x t : Nat} (hx : m.who x = t + 1) : x ≠ 0 ∧ x ∉ m.abs :=
  not_or.1 fun h => by have := (hG.who0 x).2 h; omega

theorem Owns.seg {m m' : Mem} {u : Nat} {l : List Nat} (ho : Owns m u l) (hs : Stable u m m') {h e : Nat}
    (hseg : IsSeg m.next h l e) : IsSeg m'.next h l e :=
  hseg.congr fun x hx => ((hs.own x (ho x hx)).2).symm

theorem Owns.stable {m m' : Mem} {u : Nat} {l : List Nat} (ho : Owns m u l) (hs : Stable u m m') : Owns m' u l :=
  fun x hx => (hs.own x (ho x hx)).1

theorem TInv.stable {m m' : Mem} {u : Nat} {pc : Pc} (hT : TInv m u pc) (hs : Stable u m m') : TInv m' u pc := by
  have hc := hs.ctr
  cases pc with
  | idle | popRdC tr => trivial
  | pushRd pre tl | pushWr pre tl nxt =>
    exact ⟨Owns.stable hT.1 hs, hT.2.1, Owns.seg (fun x hx => hT.1 x (List.mem_append_left _ hx)) hs hT.2.2⟩
  | pushFence pre tl nxt | pushCas pre tl nxt => exact ⟨hT.1.stable hs, hT.2.1, hT.1.seg hs hT.2.2⟩
  | popFence tr c | popRdI tr c => exact Nat.le_trans hT hc
  | popRdN tr c it =>
    have := hT.1
    exact ⟨Nat.le_trans hT.1 hc, hT.2.1, fun _ => (hs.abs (by omega) it (hT.2.2 (by omega))).1⟩
  | popCas tr c it n =>
    have := hT.1
    refine ⟨Nat.le_trans hT.1 hc, hT.2.1, fun _ => ?_⟩
    have h := hs.abs (by omega) it (hT.2.2 (by omega)).1
    exact ⟨h.1, h.2.trans (hT.2.2 (by omega)).2⟩
  | popWmb tr it | popClr tr it | setNx it v => exact (hs.own it hT).1

theorem GInv.abs_of_top {m : Mem} (hG : GInv m) {it : Nat} (htop : m.top = it) (hit : it ≠ 0) :
    ∃ rest, m.abs = it :: rest ∧ IsSeg m.next (m.next it) rest 0 := by
  have hs := hG.seg
  cases habs : m.abs with
  | nil => rw [habs] at hs; exact absurd (htop.symm.trans hs) hit
  | cons x rest =>
    rw [habs] at hs
    obtain rfl : x = it := hs.1.symm.trans htop
    exact ⟨rest, rfl, hs.2.2⟩

/-- The ABA argument: with the counter unchanged the saved `next` is still the item's (the `popCas` clause of `TInv`,
    kept by `Stable.abs`). -/
theorem TInv.cas_sound {m : Mem} (hG : GInv m) {t c it n : Nat} {tr : Bool} (hT : TInv m t (.popCas tr c it n))
    (hc : m.ctr = c) (htop : m.top = it) : ∃ rest, m.abs = it :: rest ∧ IsSeg m.next n rest 0 := by
  obtain ⟨rest, habs, hseg⟩ := hG.abs_of_top htop hT.2.1
  exact ⟨rest, habs, (hT.2.2 hc.symm).2 ▸ hseg⟩

structure Guar (t : Nat) (m m' : Mem) : Prop where
  g : GInv m'
  stable : ∀ u, u ≠ t → Stable u m m'

theorem Guar.refl {t : Nat} {m : Mem} (hG : GInv m) : Guar t m m := ⟨hG, fun u _ => .refl u m⟩

theorem Guar.ownWrite {m : Mem} (hG : GInv m) {x t v : Nat} (hx : m.who x = t + 1) :
    Guar t m { m with next := upd m.next x v } := by
  have hn := (hG.of_owned hx).2
  refine ⟨⟨hG.seg.upd_notin hn, hG.nodup, hG.who0⟩, fun u hu =>
    ⟨Nat.le_refl _, fun _ y hy => ⟨hy, upd_ne _ _ _ _ fun h => hn (h ▸ hy)⟩, fun y hy => ⟨hy, upd_ne _ _ _ _ fun h => ?_⟩⟩⟩
  subst h; rw [hx] at hy; omega

theorem Guar.pushCommit {m : Mem} (hG : GInv m) {t : Nat} {pre : List Nat} {tl nxt : Nat}
    (hT : TInv m t (.pushCas pre tl nxt)) (htop : m.top = nxt) : Guar t m (pushCommit m pre tl) := by
  obtain ⟨ho, hn, hseg⟩ := hT
  subst htop
  refine ⟨⟨hseg.append hG.seg, ?_, fun x => ?_⟩,
    fun u hu => ⟨Nat.le_refl _, fun _ y hy => ⟨List.mem_append_right _ hy, rfl⟩, fun y hy => ⟨?_, rfl⟩⟩⟩
  · exact List.nodup_append.2 ⟨hn, hG.nodup, fun a ha b hb hab => (hG.of_owned (ho a ha)).2 (hab ▸ hb)⟩
  · show (if x ∈ pre ++ [tl] then 0 else m.who x) = 0 ↔ (x = 0 ∨ x ∈ pre ++ [tl] ++ m.abs)
    by_cases hx : x ∈ pre ++ [tl]
    · simp only [hx, ite_true, true_iff]; exact Or.inr (List.mem_append_left _ hx)
    · simp only [hx, ite_false, hG.who0 x, List.mem_append, false_or] at *
  · show (if y ∈ pre ++ [tl] then 0 else m.who y) = u + 1
    by_cases hy' : y ∈ pre ++ [tl]
    · have := ho y hy'; omega
    · simp only [hy', ite_false]; exact hy

theorem Guar.popCommit {m : Mem} (hG : GInv m) {t it n : Nat} {rest : List Nat} (habs : m.abs = it :: rest)
    (hseg : IsSeg m.next n rest 0) : Guar t m (popCommit m t it n) := by
  have hit : it ≠ 0 := (habs ▸ hG.seg).2.1
  have hnd := List.nodup_cons.1 (habs ▸ hG.nodup)
  refine ⟨⟨?_, ?_, fun x => ?_⟩, fun u _ => ⟨Nat.le_succ _, fun h => ?_, fun y hy => ⟨?_, rfl⟩⟩⟩
  · show IsSeg m.next n m.abs.tail 0
    rw [habs]; exact hseg
  · show m.abs.tail.Nodup
    rw [habs]; exact hnd.2
  · show upd m.who it (t + 1) x = 0 ↔ (x = 0 ∨ x ∈ m.abs.tail)
    by_cases hx : x = it
    · subst hx; simp [upd, habs, hit, hnd.1]
    · simp [upd, hx, hG.who0 x, habs]
  · exact absurd h (by show m.ctr + 1 ≠ m.ctr; omega)
  · show upd m.who it (t + 1) y = u + 1
    rw [upd_ne _ _ _ _ fun h => ?_]; exact hy
    subst h
    have := (hG.who0 y).2 (.inr (habs ▸ List.mem_cons_self ..)); omega

end ParsecVerif.Lifo
