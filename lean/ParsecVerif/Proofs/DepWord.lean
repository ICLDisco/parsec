import ParsecVerif.Model.DepWord
import ParsecVerif.Base.Interleave
/-!
  What the two modes of the dependency word have in common.  In both, every releasing call ends by one atomic
  operation on the word and returns a flag computed from the value it produced; `dn b` is the program point
  "returned `b`".  C07 is the statement `Once` about the list of program points; each mode proves, from what its
  invariant says about the word, the one hypothesis `hy` of `Once.set`.
-/
namespace ParsecVerif.DepWord
open ParsecVerif.Interleave

variable {α : Type} [DecidableEq α] {dn : Bool → α} {l : List α} {t : Nat} {x : α}

/-- at most one call has been told "ready", and one has exactly when all calls have returned -/
def Once (dn : Bool → α) (l : List α) : Prop :=
  l.count (dn true) ≤ 1 ∧ (l.count (dn true) = 1 ↔ ∀ x ∈ l, ∃ b, x = dn b)

theorem Once.set (h : Once dn l) (hx : l[t]? = some x) (hxd : ∀ b, x ≠ dn b) (y : α)
    (hy : y = dn true ↔ ∀ z ∈ l.set t y, ∃ b, z = dn b) : Once dn (l.set t y) := by
  have hc := count_set_of_getElem? hx y (dn true)
  rw [if_neg (hxd true)] at hc
  -- `t` had not returned, so nobody had been told "ready"
  have h0 : l.count (dn true) = 0 := by
    have := h.1
    have := mt h.2.1 fun hall => (hall x (List.mem_of_getElem? hx)).elim hxd
    omega
  by_cases e : y = dn true
  · rw [if_pos e] at hc; exact ⟨by omega, fun _ => hy.1 e, fun _ => by omega⟩
  · rw [if_neg e] at hc; exact ⟨by omega, fun h1 => by omega, fun hall => absurd (hy.2 hall) e⟩

theorem Once.set_move (h : Once dn l) (hx : l[t]? = some x) (hxd : ∀ b, x ≠ dn b) (y : α) (hyd : ∀ b, y ≠ dn b) :
    Once dn (l.set t y) :=
  h.set hx hxd y ⟨fun e => absurd e (hyd true), fun hall =>
    (hall y (List.mem_set (List.getElem?_eq_some_iff.1 hx).1 y)).elim fun b hb => absurd hb (hyd b)⟩

theorem Once.replicate (hxd : ∀ b, x ≠ dn b) {n : Nat} (hn : 1 ≤ n) : Once dn (List.replicate n x) := by
  have h0 : (List.replicate n x).count (dn true) = 0 := by simp [List.count_replicate, hxd true]
  exact ⟨by omega, fun h => by omega, fun hall =>
    (hall x (List.mem_replicate.2 ⟨by omega, rfl⟩)).elim fun b hb => absurd hb (hxd b)⟩

end ParsecVerif.DepWord
