import ParsecVerif.Model.MaxHeap
/-!
  Arithmetic behind the bit navigation of parsec/maxheap.c: the loops and shift cascades of the model
  (`prime`, `dirsLoop`, `hiBit`, `andNot32`, `splitSizes`) compute `2 ^ log2 n`, the binary digits of `n`
  and the sizes `lsz n` / `rsz n` of the subtrees of the left-complete tree with `n` nodes.
-/
namespace ParsecVerif.MaxHeap

def hb (n : Nat) : Nat := 2 ^ n.log2

/-- number of nodes of the left (`rsz`: right) subtree of the left-complete binary tree with `n` nodes -/
def lsz (n : Nat) : Nat := if n - hb n < hb n / 2 then hb n / 2 + (n - hb n) else hb n - 1
def rsz (n : Nat) : Nat := if n - hb n < hb n / 2 then hb n / 2 - 1 else n - hb n

def bitsDown (s : Nat) : Nat → List Bool
  | 0 => []
  | k + 1 => s.testBit k :: bitsDown s k

/-- the digits of `s` below its leading one: the path from the root to heap position `s` -/
def pathOf (s : Nat) : List Bool := bitsDown s s.log2

theorem log2_of_bounds {j n : Nat} (h1 : 2 ^ j ≤ n) (h2 : n < 2 ^ (j + 1)) : n.log2 = j :=
  (Nat.log2_eq_iff (by have := Nat.two_pow_pos j; omega)).2 ⟨h1, h2⟩

theorem log2_eq (j ρ : Nat) (h : ρ < 2 ^ j) : (2 ^ j + ρ).log2 = j :=
  log2_of_bounds (Nat.le_add_right ..) (by omega)

theorem hb_eq (j ρ : Nat) (h : ρ < 2 ^ j) : hb (2 ^ j + ρ) = 2 ^ j := by
  unfold hb; rw [log2_eq j ρ h]

/-- `j + 1` full levels and `ρ + 1` nodes on the last one: `ρ` is the place of the last node on its level, from 0 -/
theorem decomp2 (n : Nat) (h : 2 ≤ n) : ∃ j ρ, n = 2 ^ (j + 1) + ρ ∧ ρ < 2 ^ (j + 1) := by
  have h0 : n ≠ 0 := by omega
  obtain ⟨j, hj⟩ := Nat.exists_eq_succ_of_ne_zero (Nat.ne_of_gt ((Nat.le_log2 h0).2 h))
  have h1 := Nat.log2_self_le h0
  have h2 := @Nat.lt_log2_self n
  rw [hj] at h1 h2
  exact ⟨j, n - 2 ^ (j + 1), (Nat.add_sub_cancel' h1).symm, by omega⟩

theorem lsz_one : lsz 1 = 0 := by simp [lsz, hb_eq 0 0]
theorem rsz_one : rsz 1 = 0 := by simp [rsz, hb_eq 0 0]

/-- of the `ρ + 1` nodes of the last level the first `2^j` are in the left subtree -/
theorem lsz_rsz_val (j ρ : Nat) (h : ρ < 2 ^ (j + 1)) :
    lsz (2 ^ (j + 1) + ρ) = (if 2 ^ j ≤ ρ then 2 ^ (j + 1) - 1 else 2 ^ j + ρ) ∧
    rsz (2 ^ (j + 1) + ρ) = (if 2 ^ j ≤ ρ then ρ else 2 ^ j - 1) := by
  unfold lsz rsz
  rw [hb_eq _ _ h, Nat.add_sub_cancel_left, Nat.pow_succ, Nat.mul_div_cancel _ (by decide)]
  simp only [← Nat.not_le, ite_not, and_self]

theorem lsz_rsz_perfect (j : Nat) :
    lsz (2 ^ (j + 1) - 1) = 2 ^ j - 1 ∧ rsz (2 ^ (j + 1) - 1) = 2 ^ j - 1 := by
  cases j with
  | zero => exact ⟨lsz_one, rsz_one⟩
  | succ j =>
    have hc : 2 ^ j ≤ 2 ^ (j + 1) - 1 := by have := Nat.two_pow_pos j; omega
    rw [Nat.pow_succ 2 (j + 1), Nat.mul_two, Nat.add_sub_assoc (Nat.two_pow_pos _)]
    simpa only [hc, if_true] using lsz_rsz_val j (2 ^ (j + 1) - 1) (Nat.sub_lt (Nat.two_pow_pos _) Nat.one_pos)

theorem lsz_add_rsz (n : Nat) (h : n ≠ 0) :
    lsz n + rsz n + 1 = n ∧ rsz n ≤ lsz n := by
  by_cases h1 : n = 1
  · subst h1; rw [lsz_one, rsz_one]; omega
  · obtain ⟨j, ρ, e, hρ⟩ := decomp2 n (by omega)
    subst e
    rw [(lsz_rsz_val j ρ hρ).1, (lsz_rsz_val j ρ hρ).2]
    have := Nat.two_pow_pos j
    by_cases hc : 2 ^ j ≤ ρ
    · simp only [hc, if_true]; omega
    · simp only [hc, if_false]; omega

theorem bitsDown_congr (s s' : Nat) (m : Nat) (h : ∀ i, i < m → s.testBit i = s'.testBit i) :
    bitsDown s m = bitsDown s' m := by
  induction m with
  | zero => rfl
  | succ k ih =>
    simp only [bitsDown]
    rw [h k (by omega), ih (fun i hi => h i (by omega))]

theorem testBit_top (j ρ : Nat) (h : ρ < 2 ^ (j + 1)) :
    (2 ^ (j + 1) + ρ).testBit j = decide (2 ^ j ≤ ρ) := by
  rw [Nat.testBit_two_pow_add_gt (Nat.lt_succ_self j)]
  by_cases hc : 2 ^ j ≤ ρ
  · rw [Nat.testBit_of_two_pow_le_and_two_pow_add_one_gt hc h, decide_eq_true hc]
  · rw [Nat.testBit_lt_two_pow (Nat.lt_of_not_le hc), decide_eq_false hc]

theorem pathOf_step (j ρ : Nat) (h : ρ < 2 ^ (j + 1)) :
    pathOf (2 ^ (j + 1) + ρ) =
      decide (2 ^ j ≤ ρ) :: pathOf (if 2 ^ j ≤ ρ then ρ else 2 ^ j + ρ) := by
  unfold pathOf
  rw [log2_eq (j + 1) ρ h, bitsDown, testBit_top j ρ h]
  congr 1
  split
  · rename_i hc
    rw [log2_of_bounds hc h]
    exact bitsDown_congr _ _ _ (fun i hi => Nat.testBit_two_pow_add_gt (by omega) ρ)
  · rw [log2_eq j ρ (by omega)]
    exact bitsDown_congr _ _ _ fun i hi => by
      rw [Nat.testBit_two_pow_add_gt (by omega), Nat.testBit_two_pow_add_gt hi]

theorem pathOf_one : pathOf 1 = [] := congrArg (bitsDown 1) (Nat.log2_two_pow (n := 0))

theorem lsz_rsz_pred (j ρ : Nat) (h : ρ < 2 ^ (j + 1)) :
    lsz (2 ^ (j + 1) + ρ - 1) = (if 2 ^ j < ρ then 2 ^ (j + 1) - 1 else 2 ^ j + ρ - 1) ∧
    rsz (2 ^ (j + 1) + ρ - 1) = (if 2 ^ j < ρ then ρ - 1 else 2 ^ j - 1) := by
  cases ρ with
  | zero => simpa only [Nat.add_zero, Nat.not_lt_zero, if_false] using lsz_rsz_perfect j
  | succ ρ =>
    simpa only [Nat.lt_succ_iff, Nat.add_succ_sub_one, Nat.add_zero] using lsz_rsz_val j ρ (Nat.lt_of_succ_lt h)

/-- the next free position of the tree with `n` nodes is the next free position of the subtree that grows.  Read from
    `n + 1` to `n` it is what heap_remove walks: the last node is the last node of the subtree that shrinks. -/
theorem next_free (n : Nat) (h : n ≠ 0) :
    (pathOf (n + 1) = false :: pathOf (lsz n + 1) ∧ lsz (n + 1) = lsz n + 1 ∧ rsz (n + 1) = rsz n) ∨
    (pathOf (n + 1) = true :: pathOf (rsz n + 1) ∧ lsz (n + 1) = lsz n ∧ rsz (n + 1) = rsz n + 1) := by
  obtain ⟨j, ρ, e, hρ⟩ := decomp2 (n + 1) (by omega)
  obtain rfl : n = 2 ^ (j + 1) + ρ - 1 := Nat.eq_sub_of_add_eq e
  rw [e, pathOf_step j ρ hρ, (lsz_rsz_val j ρ hρ).1, (lsz_rsz_val j ρ hρ).2,
    (lsz_rsz_pred j ρ hρ).1, (lsz_rsz_pred j ρ hρ).2]
  clear e h
  have hp := Nat.two_pow_pos j
  rw [Nat.pow_succ] at *
  generalize 2 ^ j = P at *
  by_cases hc : P ≤ ρ
  · right
    by_cases hd : P < ρ
    · simp only [hc, hd, decide_true, if_true, Nat.sub_add_cancel (Nat.zero_lt_of_lt hd), and_self]
    · obtain rfl : ρ = P := by omega
      simp only [hc, hd, decide_true, if_true, if_false, Nat.sub_add_cancel hp, Nat.mul_two, and_self]
  · left
    have hd : ¬ P < ρ := by omega
    simp only [hc, hd, decide_false, if_false, Nat.sub_add_cancel (Nat.le_add_right_of_le hp), and_self]

theorem two_pow_and (a x : Nat) : 2 ^ a &&& x = if x.testBit a then 2 ^ a else 0 :=
  Nat.eq_of_testBit_eq fun i => by
    rw [Nat.testBit_and, Nat.testBit_two_pow]
    by_cases hi : a = i
    · subst hi
      cases x.testBit a <;> simp
    · cases x.testBit a <;> simp [hi]

theorem two_pow_and_ne_zero (a x : Nat) : (2 ^ a &&& x != 0) = x.testBit a := by
  rw [two_pow_and]
  cases x.testBit a
  · rfl
  · simp

theorem primeLoop_eq (size : Nat) (hs : size ≠ 0) :
    ∀ (f a : Nat), a ≤ size.log2 + 1 → size.log2 + 1 ≤ a + f →
      primeLoop f (2 ^ a) size = 2 ^ (size.log2 + 1) := by
  intro f
  induction f with
  | zero => exact fun a h1 h2 => congrArg (2 ^ ·) (Nat.le_antisymm h1 h2)
  | succ f ih =>
    intro a h1 h2
    rw [primeLoop]
    by_cases hc : 2 ^ a ≤ size
    · have := (Nat.le_log2 hs).2 hc
      rw [if_pos hc, ← Nat.pow_succ]
      exact ih (a + 1) (by omega) (by omega)
    · have := mt (Nat.le_log2 hs).1 hc
      rw [if_neg hc]
      congr 1
      omega

theorem prime_eq (size : Nat) (hs : size ≠ 0) : prime size = 2 ^ (size.log2 + 1) := by
  have := Nat.log2_le_self size
  exact primeLoop_eq size hs (size + 1) 0 (Nat.zero_le _) (by omega)

theorem two_pow_shiftRight (a k : Nat) : 2 ^ (a + k) >>> k = 2 ^ a := by
  rw [Nat.shiftRight_eq_div_pow, Nat.pow_add, Nat.mul_div_cancel _ (Nat.two_pow_pos k)]

theorem dirsLoop_eq (size : Nat) : ∀ (f a : Nat), a + 1 ≤ f →
    dirsLoop size f (2 ^ a) = bitsDown size (a + 1)
  | f + 1, 0, _ => by rw [dirsLoop, if_neg (by decide), two_pow_and_ne_zero]; rfl
  | f + 1, a + 1, h => by
    rw [dirsLoop, if_pos (Nat.one_lt_two_pow (Nat.succ_ne_zero a)), two_pow_and_ne_zero, two_pow_shiftRight a 1,
      dirsLoop_eq size f a (Nat.le_of_succ_le_succ h)]
    rfl

theorem pathBits_eq (s : Nat) (h : 2 ≤ s) : pathBits s = pathOf s := by
  obtain ⟨j, ρ, e, hρ⟩ := decomp2 s h
  have hl : s.log2 = j + 1 := e ▸ log2_eq (j + 1) ρ hρ
  have := Nat.log2_le_self s
  rw [pathBits, pathOf, prime_eq s (by omega), hl, two_pow_shiftRight j 2]
  exact dirsLoop_eq s (s + 1) j (by omega)

/-- invariant of the or/shift cascade of `hiBit` on a number whose highest bit is at place `L`: the `m` places from
    it downwards are ones -/
def TopOnes (L m a : Nat) : Prop := a < 2 ^ (L + 1) ∧ ∀ i, i ≤ L → L < i + m → a.testBit i = true

theorem smear_step {L m a : Nat} (h : TopOnes L m a) : TopOnes L (2 * m) (a ||| a >>> m) :=
  ⟨Nat.or_lt_two_pow h.1 (Nat.lt_of_le_of_lt (Nat.shiftRight_le ..) h.1), fun i hi hm => by
    rw [Nat.testBit_or, Nat.testBit_shiftRight, Bool.or_eq_true]
    by_cases hc : L < i + m
    · exact .inl (h.2 i hi hc)
    · exact .inr (h.2 (m + i) (by omega) (by omega))⟩

/-- once the ones reach place 0, `a = 2^(L+1) - 1`, and `a - a >>> 1` is its highest bit -/
theorem smear_top {L m a : Nat} (h : TopOnes L m a) (hm : L < m) : a - a >>> 1 = 2 ^ L := by
  have hp := Nat.two_pow_pos L
  rw [Nat.le_antisymm (Nat.le_sub_one_of_lt h.1) (Nat.le_of_testBit fun i hi => by
    rw [Nat.testBit_two_pow_sub_one, decide_eq_true_iff] at hi
    exact h.2 i (Nat.le_of_lt_succ hi) (Nat.lt_of_lt_of_le hm (Nat.le_add_left ..))),
    Nat.shiftRight_eq_div_pow, Nat.pow_succ]
  omega

theorem hiBit_eq (n : Nat) (h0 : n ≠ 0) (h32 : n < 2 ^ 32) : hiBit n = 2 ^ n.log2 :=
  smear_top (m := 32) (smear_step (smear_step (smear_step (smear_step (smear_step (m := 1)
    ⟨Nat.lt_log2_self, fun i hi hm => by rw [Nat.le_antisymm hi (by omega)]; exact Nat.testBit_log2 h0⟩)))))
    ((Nat.log2_lt h0).2 h32)

/-- `~2^k & (2^k + ρ)` on `w` bits: distribute over `2^k + ρ = ρ ||| 2^k`; `2^k` cancels, `ρ` stays -/
theorem andNot_eq (w k ρ : Nat) (hk : k < w) (h : ρ < 2 ^ k) : (2 ^ k ^^^ (2 ^ w - 1)) &&& (2 ^ k + ρ) = ρ := by
  have hw := Nat.pow_lt_pow_right (a := 2) (by decide) hk
  rw [Nat.add_comm, ← Nat.or_two_pow_eq_add_of_lt h, Nat.and_or_distrib_left, Nat.and_xor_distrib_right,
    Nat.and_xor_distrib_right, Nat.and_self, Nat.and_comm (2 ^ w - 1), Nat.and_comm (2 ^ w - 1),
    Nat.and_two_pow_sub_one_of_lt_two_pow hw, Nat.and_two_pow_sub_one_of_lt_two_pow (Nat.lt_trans h hw),
    Nat.xor_self, Nat.or_zero, two_pow_and, Nat.testBit_lt_two_pow h, if_neg Bool.false_ne_true, Nat.zero_xor]

theorem andNot32_eq (k ρ : Nat) (hk : k < 32) (h : ρ < 2 ^ k) : andNot32 (2 ^ k) (2 ^ k + ρ) = ρ :=
  andNot_eq 32 k ρ hk h

theorem splitSizes_eq (n : Nat) (h3 : 2 ≤ n) (h32 : n < 2 ^ 32) : splitSizes n = (lsz n, rsz n) := by
  obtain ⟨j, ρ, rfl, hρ⟩ := decomp2 n h3
  have hl := log2_eq (j + 1) ρ hρ
  have hj : j + 1 < 32 := hl ▸ (Nat.log2_lt (by omega)).2 h32
  simp only [splitSizes]
  rw [hiBit_eq _ (by omega) h32, hl, two_pow_shiftRight j 1, two_pow_and_ne_zero, testBit_top j ρ hρ,
    andNot32_eq (j + 1) ρ hj hρ, (lsz_rsz_val j ρ hρ).1, (lsz_rsz_val j ρ hρ).2]
  clear h3 h32 hl hj
  by_cases hc : 2 ^ j ≤ ρ
  · simp only [hc, decide_true, if_true, Nat.add_sub_cancel]
  · simp only [hc, decide_false, Bool.false_eq_true, if_false]
    congr 1 <;> omega

end ParsecVerif.MaxHeap
