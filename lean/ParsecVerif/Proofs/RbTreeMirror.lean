import ParsecVerif.Model.RbTree
/-! The right-hand fix-up functions of the red-black tree model are the mirror images of the left-hand ones:
    whatever is proved about those transfers through `mirror`. -/
namespace ParsecVerif.RbTree
open Tree

def mirror : Tree → Tree
  | nil => nil
  | node c l k i r => node c (mirror r) k i (mirror l)

theorem mirror_mirror : ∀ t, mirror (mirror t) = t
  | nil => rfl
  | node c l k i r => by rw [mirror, mirror, mirror_mirror l, mirror_mirror r]

theorem isRed_mirror (t : Tree) : isRed (mirror t) = isRed t := by
  cases t with
  | nil => rfl
  | node c l k i r => cases c <;> rfl

theorem setColor_mirror (c : Color) (t : Tree) : mirror (setColor c t) = setColor c (mirror t) := by
  cases t <;> rfl

theorem mirror_rotL (t : Tree) : mirror (rotL t) = rotR (mirror t) := by
  cases t with
  | nil => rfl
  | node c l k i r => cases r <;> rfl

theorem mirror_rotR (t : Tree) : mirror (rotR t) = rotL (mirror t) := by
  cases t with
  | nil => rfl
  | node c l k i r => cases l <;> rfl

def IStat.swap : IStat → IStat
  | .zLeft => .zRight
  | .zRight => .zLeft
  | st => st

theorem insFixR_mirror (gc : Color) (y : Tree) (gk : Int) (gi : Nat) (p : Tree) (st : IStat) :
    insFixR gc y gk gi p st = (insFixL gc (mirror p) gk gi (mirror y) st.swap).map mirror IStat.swap := by
  cases st <;> simp only [insFixR, insFixL, IStat.swap, isRed_mirror, Prod.map]
  · simp only [mirror, mirror_mirror]
  · cases gc <;> simp [mirror, mirror_mirror]
  · split <;> simp [mirror, mirror_mirror, setColor_mirror, mirror_rotR, mirror_rotL]
  · split <;> simp [mirror, mirror_mirror, setColor_mirror, mirror_rotR]

theorem delFixR2_mirror (pc : Color) (pk : Int) (pi : Nat) (x w : Tree) :
    delFixR2 pc pk pi x w = (delFixL2 pc (mirror x) pk pi (mirror w)).map mirror id := by
  cases w with
  | nil => simp [delFixR2, delFixL2, mirror, mirror_mirror]
  | node wc wl wk wi wr =>
    simp only [delFixR2, mirror, delFixL2, isRed_mirror]
    split
    · simp [mirror, mirror_mirror]
    · split
      · cases wr <;> simp [mirror, mirror_mirror]
      · simp [mirror, mirror_mirror, setColor_mirror]

theorem delFixR_mirror (pc : Color) (pk : Int) (pi : Nat) (x w : Tree) :
    delFixR pc pk pi x w = (delFixL pc (mirror x) pk pi (mirror w)).map mirror id := by
  cases w with
  | nil => exact delFixR2_mirror pc pk pi x nil
  | node wc wl wk wi wr =>
    cases wc with
    | red => simp [delFixR, mirror, delFixL, delFixR2_mirror, mirror_mirror]
    | black => exact delFixR2_mirror pc pk pi x (node .black wl wk wi wr)

theorem upR_mirror (c : Color) (l : Tree) (k : Int) (i : Nat) (res : Tree × DStat) :
    upR c l k i res = (upL c (res.map mirror id) k i (mirror l)).map mirror id := by
  obtain ⟨t, st⟩ := res
  cases st <;> simp [upR, upL, delFixR_mirror, mirror, mirror_mirror]

end ParsecVerif.RbTree
