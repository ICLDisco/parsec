/-
  One dimension of a redistribution (C21).  An interval is cut into blocks of size `b` (`Cut`); `getsize` (target
  side) and the `TL`/`BR` chain of `CORE_redistribute_update` (source side) both compute the `Piece` of a block,
  so the segment of an `Update` copies exactly the window coordinates that lie in its target tile and its source
  tile (`Dim.Sound`).  The arithmetic is `omega` over the products `b * q` as atoms; the facts about `/` and `%`
  by a variable divisor are supplied explicitly.
-/
import ParsecVerif.Model.Redistribute
namespace ParsecVerif.Redistribute

theorem div_hi (b x : Nat) (hb : 0 < b) : x < b * (x / b) + b := Nat.lt_mul_div_succ x hb

theorem mul_lt_step {b q q' : Nat} (h : q < q') : b * q + b ≤ b * q' := Nat.mul_le_mul_left b h

theorem div_eq_of_bounds {b q x : Nat} (h1 : b * q ≤ x) (h2 : x < b * q + b) : x / b = q := by
  rw [Nat.mul_comm] at h1 h2
  exact Nat.div_eq_of_lt_le h1 (Nat.succ_mul q b ▸ h2)

theorem sub_mul_comm (y q b : Nat) : (y - q) * b = b * y - b * q := by
  rw [Nat.sub_mul, Nat.mul_comm y, Nat.mul_comm q]

structure Cut (b s len qS r qE : Nat) : Prop where
  start : b * qS + r = s
  off : r < b
  pos : 0 < len
  lastLo : b * qE < s + len
  lastHi : s + len ≤ b * qE + b

theorem Cut.of_div {b : Nat} (s : Nat) {len : Nat} (hb : 0 < b) (hl : 0 < len) :
    Cut b s len (s / b) (s % b) ((s + len - 1) / b) := by
  have a3 := Nat.mul_div_le (s + len - 1) b
  have a4 := div_hi b (s + len - 1) hb
  exact ⟨Nat.div_add_mod s b, Nat.mod_lt _ hb, hl, by omega, by omega⟩

/-- Block `q` meets `[s, s+len)` in the `n` elements that start at offset `o` of the block and at offset `a`
    of the interval. -/
structure Piece (b s len q o a n : Nat) : Prop where
  start : b * q + o = s + a
  inLen : a + n ≤ len
  inBlock : o + n ≤ b
  pos : 1 ≤ n
  cover : ∀ x, s ≤ x → x < s + len → x / b = q → s + a ≤ x ∧ x < s + a + n

theorem Cut.meets {b s len qS r qE q : Nat} (c : Cut b s len qS r qE) (h1 : qS ≤ q) (h2 : q ≤ qE) :
    s < b * q + b ∧ b * q < s + len :=
  ⟨c.start ▸ Nat.add_lt_add_of_le_of_lt (Nat.mul_le_mul_left b h1) c.off,
    Nat.lt_of_le_of_lt (Nat.mul_le_mul_left b h2) c.lastLo⟩

/-- `h0` (the piece starts the block or the interval) is what gives `pos` and `cover`. -/
theorem Piece.of_ends {b s len qS r qE q o a n : Nat} (c : Cut b s len qS r qE) (hq1 : qS ≤ q) (hq2 : q ≤ qE)
    (h0 : o = 0 ∨ a = 0) (h1 : b * q + o = s + a) (h2 : s + a + n = min (s + len) (b * q + b)) :
    Piece b s len q o a n := by
  obtain ⟨hlo, hhi⟩ := c.meets hq1 hq2
  have hl := c.pos
  have hb := Nat.zero_lt_of_lt c.off
  refine ⟨h1, by omega, by omega, by omega, ?_⟩
  intro x x1 x2 hx
  have x3 := Nat.mul_div_le x b
  have x4 := div_hi b x hb
  rw [hx] at x3 x4
  omega

/-- One dimension of a block copy: `len` elements from offset `src` of the source tile to offset `dst` of the target
    tile. -/
structure Seg where
  len : Nat
  src : Nat
  dst : Nat

/-- the one-dimensional projection of the `if / else if` chain of `CORE_redistribute_update` -/
def seg1 (tl br ys ye y istart bY off : Nat) : Option Seg :=
  if y = ys then some ⟨tl, istart, off⟩
  else if y > ys ∧ y < ye then some ⟨bY, 0, off + tl + (y - ys - 1) * bY⟩
  else if y = ye ∧ ys ≠ ye then some ⟨br, 0, off + tl + (ye - ys - 1) * bY⟩
  else none

def View.seg (v : View) : Option Seg := seg1 v.tl v.br v.ys v.ye v.y v.istart v.bY v.off

/-- `getsize`, `sizei_T`, `offset_row` yield, for block `t`, exactly `[s,s+len) ∩ [b*t, b*t+b)`. -/
theorem getsize_piece {b s len qS r qE t : Nat} (c : Cut b s len qS r qE) (h1 : qS ≤ t) (h2 : t ≤ qE) :
    Piece b s len t (if t = qS then r else 0) (if t = qS then 0 else (t - qS) * b - r)
      (getsize t qS qE b len r) := by
  have := c.start
  have := c.off
  have := c.lastLo
  have := c.lastHi
  have m1 := Nat.mul_le_mul_left b h1
  have m2 := Nat.mul_le_mul_left b h2
  have l2 : t ≠ qE → b * t + b ≤ b * qE := fun c => mul_lt_step (Nat.lt_of_le_of_ne h2 c)
  unfold getsize
  rcases Nat.eq_or_lt_of_le h1 with rfl | c1
  · simp only [↓reduceIte]
    refine .of_ends c h1 h2 (.inr rfl) c.start ?_
    split
    · rename_i c2; subst c2; omega
    · omega
  · have l1 := mul_lt_step (b := b) c1
    have c1' := Nat.ne_of_gt c1
    rw [if_neg c1', if_neg c1', if_neg (Nat.ne_of_lt (Nat.lt_of_lt_of_le c1 h2)), if_neg c1', sub_mul_comm]
    refine .of_ends c h1 h2 (.inl rfl) (by omega) ?_
    split
    · rename_i c2; subst c2; rw [sub_mul_comm]; omega
    · omega

/-- The first two arguments are the JDF's `TL` and `BR`: `TL`, `mb_Y_INNER`, `BR` are `getsize` of the first, of a
    middle and of the last block. -/
theorem seg1_eq {b s len qS r qE : Nat} (off y : Nat) (c : Cut b s len qS r qE) (h1 : qS ≤ y) (h2 : y ≤ qE) :
    seg1 (min len (b - r)) ((r + len - 1) % b + 1) qS qE y r b off =
      some ⟨getsize y qS qE b len r, if y = qS then r else 0, off + if y = qS then 0 else (y - qS) * b - r⟩ := by
  have := c.start
  have := c.off
  have := c.lastLo
  have := c.lastHi
  have m1 := Nat.mul_le_mul_left b h1
  have m2 := Nat.mul_le_mul_left b h2
  have l2 : y ≠ qE → b * y + b ≤ b * qE := fun c => mul_lt_step (Nat.lt_of_le_of_ne h2 c)
  unfold seg1 getsize
  rcases Nat.eq_or_lt_of_le h1 with rfl | c1
  · rw [if_pos rfl, if_pos rfl, if_pos rfl, if_pos rfl, Option.some.injEq, Seg.mk.injEq]
    refine ⟨?_, rfl, rfl⟩
    split
    · rename_i c2; subst c2; omega
    · omega
  · have l1 := mul_lt_step (b := b) c1
    have c1' := Nat.ne_of_gt c1
    have hq : qS ≠ qE := Nat.ne_of_lt (Nat.lt_of_lt_of_le c1 h2)
    -- a later block starts `b*y - s` after `s`: the first block contributes `TL = b - r`
    have hP : min len (b - r) + (y - qS - 1) * b = (y - qS) * b - r := by
      rw [Nat.sub_sub, sub_mul_comm, sub_mul_comm, Nat.mul_add, Nat.mul_one]; omega
    rw [if_neg c1', if_neg hq, if_neg c1', if_neg c1', if_neg c1']
    rcases Nat.eq_or_lt_of_le h2 with rfl | c2
    · -- `BR` is the part of `[s, s+len)` that lies in its last block
      have hbr : (r + len - 1) % b + 1 = len + r - (y - qS) * b := by
        rw [show r + len - 1 = b * (y - qS) + (s + len - 1 - b * y) by rw [Nat.mul_sub]; omega,
          Nat.mul_add_mod, Nat.mod_eq_of_lt (by omega), sub_mul_comm]
        omega
      rw [if_neg fun h => Nat.lt_irrefl _ h.2, if_pos ⟨rfl, hq⟩, if_pos rfl, Nat.add_assoc, hP, hbr]
    · rw [if_pos ⟨c1, c2⟩, if_neg (Nat.ne_of_lt c2), Nat.add_assoc, hP]

/-- The left side is `mb` of the reshuffle JDF (`Dim.lenR`). -/
theorem lenR_eq_getsize {b s len qS qE t : Nat} (c : Cut b s len qS 0 qE) (h1 : qS ≤ t) (h2 : t ≤ qE) :
    (if t = qE then min b (len - (qE - qS) * b) else b) = getsize t qS qE b len 0 := by
  have := c.start
  have := c.lastHi
  have m1 := Nat.mul_le_mul_left b h1
  unfold getsize
  by_cases c : t = qE
  · subst c
    rw [if_pos rfl, sub_mul_comm]
    by_cases c1 : qS = t
    · subst c1; rw [if_pos rfl]; omega
    · rw [if_neg c1, if_neg (Ne.symm c1), if_pos rfl]; omega
  · rw [if_neg c, if_neg (show ¬ qS = qE by omega), if_neg c]
    split <;> rfl

/-- window coordinate at which the part of target tile `t` starts -/
def Dim.aT (d : Dim) (t : Nat) : Nat := if t = d.tStart then 0 else d.sizeT t
/-- source element coordinate at which it starts (the common sub-expression of `i_start`, `m_Y_start`, `m_Y_end`) -/
def Dim.srcPos (d : Dim) (t : Nat) : Nat := if t = d.tStart then d.dY else d.sizeT t + d.dY

structure Dim.Valid (d : Dim) : Prop where
  bY : 0 < d.bY
  bT : 0 < d.bT
  size : 0 < d.size

theorem Dim.srcPos_eq (d : Dim) (t : Nat) : d.srcPos t = d.dY + d.aT t := by
  unfold Dim.srcPos Dim.aT; split <;> omega
theorem Dim.iStart_eq (d : Dim) (t : Nat) : d.iStart t = d.srcPos t % d.bY := by
  unfold Dim.iStart Dim.srcPos; split <;> rfl
theorem Dim.yStart_eq (d : Dim) (t : Nat) : d.yStart t = d.srcPos t / d.bY := by
  unfold Dim.yStart Dim.srcPos; split <;> rfl
theorem Dim.yEnd_eq (d : Dim) (t : Nat) : d.yEnd t = (d.srcPos t + d.tInner t - 1) / d.bY := by
  unfold Dim.yEnd Dim.srcPos; split <;> rfl

theorem Dim.tEndR_eq (d : Dim) : d.tEndR = d.tEnd := by
  unfold Dim.tEndR Dim.tEnd; rw [Nat.add_comm]

theorem tside (d : Dim) (hb : 0 < d.bT) (hs : 0 < d.size) (t : Nat) (h1 : d.tStart ≤ t) (h2 : t ≤ d.tEnd) :
    Piece d.bT d.dT d.size t (d.offT t) (d.aT t) (d.tInner t) := by
  simp only [Dim.tInner, Dim.tEnd, Nat.add_comm d.size] at h2 ⊢
  exact getsize_piece (.of_div d.dT hb hs) h1 h2

theorem yseg (d : Dim) (hb : 0 < d.bY) (t y : Nat) (hl : 0 < d.tInner t) (hy1 : d.yStart t ≤ y) (hy2 : y ≤ d.yEnd t) :
    ∃ n o P, (d.view t y).seg = some ⟨n, o, d.offT t + P⟩ ∧ Piece d.bY (d.srcPos t) (d.tInner t) y o P n := by
  unfold Dim.view View.seg Dim.tl Dim.br
  rw [Dim.iStart_eq, Dim.yStart_eq, Dim.yEnd_eq] at *
  have c := Cut.of_div (d.srcPos t) hb hl
  exact ⟨_, _, _, seg1_eq _ y c hy1 hy2, getsize_piece c hy1 hy2⟩

structure Dim.Hits (d : Dim) (t y w : Nat) : Prop where
  lt : w < d.size
  tgt : (d.dT + w) / d.bT = t
  src : (d.dY + w) / d.bY = y

structure Dim.Sound (d : Dim) (t y : Nat) (sg : Seg) (w0 : Nat) : Prop where
  dst : d.bT * t + sg.dst = d.dT + w0
  src : d.bY * y + sg.src = d.dY + w0
  inWin : w0 + sg.len ≤ d.size
  inT : sg.dst + sg.len ≤ d.bT
  inY : sg.src + sg.len ≤ d.bY
  pos : 1 ≤ sg.len
  cover : ∀ w, d.Hits t y w → w0 ≤ w ∧ w < w0 + sg.len

theorem dim_sound (d : Dim) (hv : d.Valid) (t y : Nat) (ht1 : d.tStart ≤ t) (ht2 : t ≤ d.tEnd)
    (hy1 : d.yStart t ≤ y) (hy2 : y ≤ d.yEnd t) : ∃ sg w0, (d.view t y).seg = some sg ∧ d.Sound t y sg w0 := by
  have pT := tside d hv.bT hv.size t ht1 ht2
  obtain ⟨n, o, P, hsg, pY⟩ := yseg d hv.bY t y pT.pos hy1 hy2
  have es := d.srcPos_eq t
  -- the source piece lies in the part of the target tile (`pY.inLen`), which lies in the window and in the tile
  have := pY.inLen
  refine ⟨_, d.aT t + P, hsg, ?_⟩
  constructor <;> dsimp only
  case dst => rw [← Nat.add_assoc, pT.start, Nat.add_assoc]
  case src => rw [pY.start, es, Nat.add_assoc]
  case inWin => have := pT.inLen; omega
  case inT => have := pT.inBlock; omega
  case inY => exact pY.inBlock
  case pos => exact pY.pos
  case cover =>
    intro w h
    obtain ⟨c1, c2⟩ := pT.cover _ (Nat.le_add_right ..) (Nat.add_lt_add_left h.lt _) h.tgt
    obtain ⟨c3, c4⟩ := pY.cover (d.dY + w) (by omega) (by omega) h.src
    omega

theorem Dim.Sound.pairs {d : Dim} {t y w0 : Nat} {sg : Seg} (h : d.Sound t y sg w0) (T S : Nat) :
    (∃ k, k < sg.len ∧ T = d.bT * t + sg.dst + k ∧ S = d.bY * y + sg.src + k) ↔
      ∃ w, d.Hits t y w ∧ T = d.dT + w ∧ S = d.dY + w := by
  have := h.dst
  have := h.src
  have := h.inWin
  have := h.inT
  have := h.inY
  constructor
  · rintro ⟨k, hk, rfl, rfl⟩
    exact ⟨w0 + k, ⟨by omega, div_eq_of_bounds (by omega) (by omega), div_eq_of_bounds (by omega) (by omega)⟩,
      by omega, by omega⟩
  · rintro ⟨w, hw, rfl, rfl⟩
    obtain ⟨c1, c2⟩ := h.cover w hw
    exact ⟨w - w0, by omega, by omega, by omega⟩

theorem dim_hit (d : Dim) (hv : d.Valid) {t y w : Nat} (h : d.Hits t y w) :
    (d.tStart ≤ t ∧ t ≤ d.tEnd) ∧ d.yStart t ≤ y ∧ y ≤ d.yEnd t := by
  have hw := h.lt
  have ht' : d.tStart ≤ t ∧ t ≤ d.tEnd :=
    h.tgt ▸ ⟨Nat.div_le_div_right (Nat.le_add_right ..), Nat.div_le_div_right (by omega)⟩
  obtain ⟨t7, t8⟩ :=
    (tside d hv.bT hv.size t ht'.1 ht'.2).cover _ (Nat.le_add_right ..) (Nat.add_lt_add_left hw _) h.tgt
  have es := d.srcPos_eq t
  rw [d.yStart_eq, d.yEnd_eq, ← h.src]
  exact ⟨ht', Nat.div_le_div_right (by omega), Nat.div_le_div_right (by omega)⟩

theorem Dim.Sound.tiles {d : Dim} {t y w0 : Nat} {sg : Seg} (h : d.Sound t y sg w0) {lT lY : Nat}
    (hT : d.dT + d.size ≤ lT * d.bT) (hY : d.dY + d.size ≤ lY * d.bY) : t < lT ∧ y < lY := by
  have := h.dst
  have := h.src
  have := h.inWin
  have := h.pos
  rw [Nat.mul_comm] at hT hY
  exact ⟨Nat.lt_of_mul_lt_mul_left (a := d.bT) (by omega), Nat.lt_of_mul_lt_mul_left (a := d.bY) (by omega)⟩

/-- What `Params.optimized`, the wrapper's test for the reshuffle taskpool, asks of one dimension. -/
structure Dim.Aligned (d : Dim) : Prop where
  same : d.bY = d.bT
  y : d.dY % d.bY = 0
  t : d.dT % d.bT = 0

/-- `t - tStart + yStartR` is the derived `m_Y` of the reshuffle JDF: the part of `t` in the window starts a source
    tile (`es`) and is no longer than a tile (`ib`). -/
theorem aligned_view (d : Dim) (hv : d.Valid) (ha : d.Aligned) (t : Nat) (h1 : d.tStart ≤ t) (h2 : t ≤ d.tEnd) :
    d.yStart t = t - d.tStart + d.yStartR ∧ d.yEnd t = t - d.tStart + d.yStartR ∧
      (d.view t (t - d.tStart + d.yStartR)).seg = some ⟨d.lenR t, 0, 0⟩ := by
  obtain ⟨hs, hy, ht⟩ := ha
  have pT := tside d hv.bT hv.size t h1 h2
  have st := pT.start
  have pos := pT.pos
  have ib := pT.inBlock
  have e0 : d.offT t = 0 := by rw [Dim.offT, ht, ite_self]
  rw [e0, Nat.zero_add, ← hs] at ib
  have e : d.lenR t = d.tInner t := by
    have c := Cut.of_div d.dT hv.bT hv.size
    rw [ht] at c
    rw [Dim.lenR, Dim.tInner, ← d.tEndR_eq, ht]
    exact lenR_eq_getsize c h1 (d.tEndR_eq ▸ h2)
  have es : d.srcPos t = d.bY * (t - d.tStart + d.yStartR) := by
    have eT : d.bT * d.tStart = d.dT := Nat.mul_div_cancel' (Nat.dvd_of_mod_eq_zero ht)
    have eY : d.bY * d.yStartR = d.dY := Nat.mul_div_cancel' (Nat.dvd_of_mod_eq_zero hy)
    have l0 := Nat.mul_le_mul_left d.bT h1
    rw [d.srcPos_eq, Nat.mul_add, eY, hs, Nat.mul_sub]; omega
  have ey : d.yStart t = t - d.tStart + d.yStartR := by rw [d.yStart_eq, es, Nat.mul_div_cancel_left _ hv.bY]
  refine ⟨ey, ?_, ?_⟩
  · rw [d.yEnd_eq, es]; exact div_eq_of_bounds (by omega) (by omega)
  · unfold Dim.view View.seg seg1
    simp only
    rw [if_pos ey.symm, Dim.tl, d.iStart_eq, es, Nat.mul_mod_right, e0, e, Nat.sub_zero, Nat.min_eq_left ib]

theorem aligned_span (d : Dim) (hv : d.Valid) (ha : d.Aligned) :
    d.yEndR + d.tStart = d.tEnd + d.yStartR := by
  have hs := hv.size
  -- the last window coordinate lies in the last tile of both ranges
  have h : d.Hits d.tEnd d.yEndR (d.size - 1) :=
    ⟨by omega, by rw [← d.tEndR_eq, ← Nat.add_sub_assoc hs]; rfl, by rw [← Nat.add_sub_assoc hs]; rfl⟩
  obtain ⟨⟨h1, h2⟩, y1, y2⟩ := dim_hit d hv h
  obtain ⟨r1, r2, -⟩ := aligned_view d hv ha _ h1 h2
  omega

/-- Each `Nat` subtraction in the per-dimension quantities of the general path, on the branch where the code
    evaluates it, has a non-negative exact value, so `Nat` and C `int` arithmetic agree there.  Listed by the C
    expression. -/
theorem no_underflow (d : Dim) (hv : d.Valid) (t : Nat) (ht1 : d.tStart ≤ t) (ht2 : t ≤ d.tEnd) :
    1 ≤ d.size + d.dT ∧                                          -- m_T_END: size + dis - 1
    d.tStart ≤ d.tEnd ∧                                          -- NT: n_T_END - n_T_START
    d.dT % d.bT ≤ d.bT ∧                                         -- getsize: mb - dis
    (d.tEnd - d.tStart) * d.bT ≤ d.size + d.dT % d.bT ∧          -- getsize: size + dis - (end-start)*mb
    (t ≠ d.tStart → d.dT % d.bT ≤ (t - d.tStart) * d.bT) ∧       -- sizei_T where it is used
    1 ≤ d.srcPos t + d.tInner t ∧                                -- m_Y_end: … + mb_T_inner - 1
    d.iStart t ≤ d.bY ∧                                          -- TL: mb_Y_INNER - i_start
    1 ≤ d.iStart t + d.tInner t ∧                                -- BR: i_start + mb_T_inner - 1
    d.yStart t ≤ d.yEnd t := by                                  -- m_Y_end - m_Y_start - 1 where m_Y_start ≠ m_Y_end
  have hp := (tside d hv.bT hv.size t ht1 ht2).pos
  have hsz := hv.size
  have c := Cut.of_div d.dT hv.bT hv.size
  have := c.start
  have := c.off
  have := c.lastLo
  have hm := Nat.mod_lt (d.srcPos t) hv.bY
  rw [Dim.iStart_eq, Dim.yStart_eq, Dim.yEnd_eq]
  refine ⟨by omega, Nat.le_trans ht1 ht2, by omega, ?_, ?_, by omega, by omega, by omega,
    Nat.div_le_div_right (by omega)⟩
  · rw [← d.tEndR_eq, sub_mul_comm]; unfold Dim.tEndR Dim.tStart; omega
  · intro hne
    have l1 := mul_lt_step (b := d.bT) (show d.tStart < t by omega)
    rw [sub_mul_comm]; unfold Dim.tStart at *; omega

end ParsecVerif.Redistribute
