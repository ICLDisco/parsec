import ParsecVerif.Model.Future
import ParsecVerif.Base.Interleave
/-!
  Invariant `DInv` of the data-copy future machine (C29).  Its clause `nodup` (the classes of all futures, base and
  nested, are pairwise distinct) is the property; the rest makes it inductive.  `PcOk` records per park point what the
  parked thread has already established: inside the scan (`lockScan i r`, `unlockScan i r`) that none of the first
  `i + 1` shapes matches `r` (`NoMatch`, hence stated on `take k`), at `punlockRet v r` that `v` is already an admissible
  answer (`ValOk`).  A nested future is appended only when the scan has reached the end of the list under the base lock,
  so that `NoMatch` then covers every shape.  The list of futures only grows at its end and a completed future stays
  completed (`Ext`); every clause survives that.
-/
namespace ParsecVerif.FutureDC
open ParsecVerif.Future

def shapes (s : DState) : List Nat := s.futs.map (·.shape)

/-- the fulfilment callback ran iff the future is TRIGGERED (so at most once); a completed future holds the value of its
    first fulfilment -/
def FutOk (fu : Fut) : Prop := fu.cb = (if fu.trig then 1 else 0) ∧ (fu.compl = true → fu.data = valOf 1 fu.shape)

/-- `v` is an admissible answer to request `r`: NULL, or the value of a COMPLETED future of `r`'s class (the base future
    for a NULL spec) -/
def ValOk (cfg : Cfg) (s : DState) (r v : Nat) : Prop :=
  v = 0 ∨ ∃ f x, (shapes s)[f]? = some x ∧ complOf s f = true ∧ v = valOf 1 x ∧ (r = 0 → f = 0) ∧ (r ≠ 0 → cfg.cls x = cfg.cls r)

def Ans (cfg : Cfg) (sh : List Nat) (r f : Nat) : Prop :=
  ∃ x, sh[f]? = some x ∧ (r = 0 → f = 0) ∧ (r ≠ 0 → cfg.cls x = cfg.cls r)

def NoMatch (cfg : Cfg) (sh : List Nat) (k r : Nat) : Prop := ∀ x ∈ sh.take k, cfg.cls x ≠ cfg.cls r

def PcOk (cfg : Cfg) (s : DState) : DPc → Prop
  | .idle | .done => True
  | .lockTop f r | .unlockTop f r => Ans cfg (shapes s) r f
  | .plock r => r ≠ 0 ∧ NoMatch cfg (shapes s) 1 r
  | .lockScan i r | .unlockScan i r => r ≠ 0 ∧ i + 1 < (shapes s).length ∧ NoMatch cfg (shapes s) (i + 1) r
  | .punlockRet v r => r ≠ 0 ∧ ValOk cfg s r v
  | .punlockNew j r => r ≠ 0 ∧ (shapes s)[j]? = some r

def ResOk (cfg : Cfg) (s : DState) (res : List (DOp × Nat)) : Prop :=
  ∀ r v, (DOp.trig r, v) ∈ res → ValOk cfg s r v

def PendOk (sh : List Nat) (p : Nat × Nat) : Prop := ∃ x, sh[p.1]? = some x ∧ p.2 = valOf 1 x

structure DInv (cfg : Cfg) (s : DState) : Prop where
  ne : s.futs ≠ []
  futs : ∀ fu ∈ s.futs, FutOk fu
  nodup : ((shapes s).map cfg.cls).Nodup
  pend : ∀ p ∈ s.pending, PendOk (shapes s) p
  thr : ∀ th ∈ s.thr, PcOk cfg s th.pc ∧ ResOk cfg s th.res

/-- `sh <+: sh'`, held as the three consequences the proofs use -/
structure Mono (sh sh' : List Nat) : Prop where
  get : ∀ (f x : Nat), sh[f]? = some x → sh'[f]? = some x
  take : ∀ k, k ≤ sh.length → sh'.take k = sh.take k
  len : sh.length ≤ sh'.length

theorem mono_refl (sh : List Nat) : Mono sh sh := ⟨fun _ _ h => h, fun _ _ => rfl, Nat.le_refl _⟩

theorem mono_of_prefix {sh sh' : List Nat} (h : sh <+: sh') : Mono sh sh' := by
  obtain ⟨t, rfl⟩ := h
  exact ⟨fun f x hx => by rw [List.getElem?_append_left (Interleave.lt_of_getElem? hx)]; exact hx,
    fun k hk => List.take_append_of_le_length hk, by simp⟩

theorem nomatch_mono {cfg sh sh' k r} (m : Mono sh sh') (hk : k ≤ sh.length) (h : NoMatch cfg sh k r) : NoMatch cfg sh' k r := by
  unfold NoMatch; rw [m.take k hk]; exact h

structure Ext (s s' : DState) : Prop where
  sh : Mono (shapes s) (shapes s')
  compl : ∀ f, complOf s f = true → complOf s' f = true

theorem valok_ext {cfg s s' r v} (e : Ext s s') (h : ValOk cfg s r v) : ValOk cfg s' r v :=
  h.imp id fun ⟨f, x, hx, hc, hr⟩ => ⟨f, x, e.sh.get f x hx, e.compl f hc, hr⟩

theorem pcok_ext {cfg s s' pc} (e : Ext s s') (hne : 1 ≤ (shapes s).length) (h : PcOk cfg s pc) : PcOk cfg s' pc := by
  have m := e.sh
  cases pc with
  | idle | done => trivial
  | lockTop f r | unlockTop f r => exact h.imp fun x hx => ⟨m.get f x hx.1, hx.2⟩
  | plock r => exact ⟨h.1, nomatch_mono m hne h.2⟩
  | lockScan i r | unlockScan i r =>
    exact ⟨h.1, Nat.lt_of_lt_of_le h.2.1 m.len, nomatch_mono m (Nat.le_of_lt h.2.1) h.2.2⟩
  | punlockRet v r => exact ⟨h.1, valok_ext e h.2⟩
  | punlockNew j r => exact ⟨h.1, m.get j r h.2⟩

theorem resok_ext {cfg s s' res} (e : Ext s s') (h : ResOk cfg s res) : ResOk cfg s' res :=
  fun r v hm => valok_ext e (h r v hm)

theorem resok_fin {cfg s} (th : DThread) (op : DOp) (v : Nat) (h : ResOk cfg s th.res)
    (hv : match op with | .trig r => ValOk cfg s r v | .fulfil => True) : ResOk cfg s (dfin th op v).res := by
  intro r' v' hm
  rcases List.mem_append.1 hm with hm | hm
  · exact h r' v' hm
  · cases List.mem_singleton.1 hm; exact hv

theorem dfin_pc (th : DThread) (op : DOp) (v : Nat) : (dfin th op v).pc = .done ∨ (dfin th op v).pc = .idle := by
  unfold dfin; cases th.todo.tail <;> simp

theorem pcok_fin {cfg s} (th : DThread) (op : DOp) (v : Nat) : PcOk cfg s (dfin th op v).pc := by
  rcases dfin_pc th op v with h | h <;> rw [h] <;> trivial

/-- `s'` is `s` with fields of futures other than the shape, and the deferred-set queue, changed -/
structure Same (s s' : DState) : Prop where
  ne : s'.futs ≠ []
  futs : ∀ fu ∈ s'.futs, FutOk fu
  sh : shapes s' = shapes s
  pend : ∀ p ∈ s'.pending, PendOk (shapes s) p
  thr : s'.thr = s.thr
  compl : ∀ f, complOf s f = true → complOf s' f = true

theorem same_refl {cfg s} (h : DInv cfg s) : Same s s := ⟨h.ne, h.futs, rfl, h.pend, rfl, fun _ h => h⟩

theorem Same.ext {s s0 : DState} (h : Same s s0) : Ext s s0 := ⟨h.sh ▸ mono_refl _, h.compl⟩

theorem futok_lock (fu : Fut) (b : Bool) (h : FutOk fu) : FutOk { fu with lock := b } := h

theorem shapes_getElem? {s : DState} {f : Nat} {fu : Fut} (h : s.futs[f]? = some fu) : (shapes s)[f]? = some fu.shape := by
  simp [shapes, h]

theorem same_set {s s0 : DState} {f : Nat} {fu fu' : Fut} (h : Same s s0) (hf : s0.futs[f]? = some fu)
    (hs : fu'.shape = fu.shape) (hok : FutOk fu') (hk : fu.compl = true → fu'.compl = true) :
    Same s { s0 with futs := s0.futs.set f fu' } := by
  refine ⟨mt (List.set_eq_nil_iff f fu').1 h.ne,
   fun x hx => (List.mem_or_eq_of_mem_set hx).elim (h.futs x) (fun e => e ▸ hok),
   (Interleave.map_set_of_eq hf hs).trans h.sh, h.pend, h.thr, fun g hg => ?_⟩
  have hg0 := h.compl g hg
  unfold complOf at hg0 ⊢
  by_cases e : f = g
  · subst e
    rw [hf] at hg0
    simpa [Interleave.lt_of_getElem? hf] using hk hg0
  · rwa [List.getElem?_set_ne e]

theorem same_modFut {s s0 : DState} (f : Nat) (g : Fut → Fut) (h : Same s s0)
    (hs : ∀ fu, (g fu).shape = fu.shape) (hg : ∀ fu, s0.futs[f]? = some fu → FutOk fu → FutOk (g fu))
    (hk : ∀ fu, fu.compl = true → (g fu).compl = true) : Same s (modFut s0 f g) := by
  unfold modFut
  split
  next fu hf => exact same_set h hf (hs fu) (hg fu hf (h.futs fu (List.mem_of_getElem? hf))) (hk fu)
  · exact h

/-- the model's `lockF` (`b = true`) / `unlockF` unfold to this function -/
theorem same_setLock {s s0 : DState} (f : Nat) (b : Bool) (h : Same s s0) : Same s (modFut s0 f fun fu => { fu with lock := b }) :=
  same_modFut f _ h (fun _ => rfl) (fun fu _ => futok_lock fu b) (fun _ h => h)

theorem same_trigger {cfg : Cfg} {s s0 : DState} (f : Nat) (h : Same s s0) : Same s (trigger cfg s0 f) := by
  unfold trigger
  split
  · exact h
  next fu hf =>
    have hfu := h.futs fu (List.mem_of_getElem? hf)
    split
    · exact same_set h hf rfl hfu id
    next ht =>
      -- first trigger: the callback has not run yet
      have hcb : fu.cb = 0 := by simpa [ht] using hfu.1
      split
      · have h' := same_set (fu' := trigAsync fu) h hf rfl ⟨by simp [trigAsync, hcb], hfu.2⟩ id
        exact { h' with pend := List.forall_mem_append.2 ⟨h.pend, List.forall_mem_singleton.2
          ⟨fu.shape, h.sh ▸ shapes_getElem? hf, by simp [hcb]⟩⟩ }
      · exact same_set h hf rfl ⟨by simp [trigSync, hcb], fun _ => by simp [trigSync, hcb]⟩ (fun _ => rfl)

theorem DInv.len {cfg s} (h : DInv cfg s) : 1 ≤ (shapes s).length := by
  rw [shapes, List.length_map]; exact List.length_pos_iff.2 h.ne

theorem Same.dinv {cfg : Cfg} {s s0 : DState} (hs : Same s s0) (h : DInv cfg s) : DInv cfg s0 := by
  refine ⟨hs.ne, hs.futs, hs.sh ▸ h.nodup, hs.sh ▸ hs.pend, fun th hth => ?_⟩
  have hth := h.thr th (hs.thr ▸ hth)
  exact ⟨pcok_ext hs.ext h.len hth.1, resok_ext hs.ext hth.2⟩

theorem dinv_setThr {cfg : Cfg} {s : DState} (t : Nat) (th' : DThread) (h : DInv cfg s)
    (hpc : PcOk cfg s th'.pc) (hres : ResOk cfg s th'.res) : DInv cfg (setThr s t th') := by
  refine ⟨h.ne, h.futs, h.nodup, h.pend, fun th hth => ?_⟩
  rcases List.mem_or_eq_of_mem_set hth with hm | rfl
  · exact h.thr th hm
  · exact ⟨hpc, hres⟩

theorem dinv_same {cfg : Cfg} {s s0 : DState} (t : Nat) (th' : DThread) (h : DInv cfg s) (hs : Same s s0)
    (hpc : PcOk cfg s th'.pc) (hres : ResOk cfg s th'.res) : DInv cfg (setThr s0 t th') :=
  dinv_setThr t th' (hs.dinv h) (pcok_ext hs.ext h.len hpc) (resok_ext hs.ext hres)

theorem scanList_spec (cls : Nat → Nat) (r : Nat) (l : List Fut) (i : Nat) :
    match scanList cls r l i with
    | .needLock j => ∃ k, j = i + k ∧ k < l.length ∧ ∀ x ∈ (l.map (·.shape)).take k, cls x ≠ cls r
    | .ret v => v = 0 ∨ ∃ fu ∈ l, fu.compl = true ∧ cls fu.shape = cls r ∧ fu.data = v
    | .atEnd => ∀ x ∈ l.map (·.shape), cls x ≠ cls r := by
  fun_induction scanList cls r l i
  · nofun
  · exact ⟨0, rfl, Nat.zero_lt_succ _, nofun⟩
  next fu rest i hc hm => exact hm.imp id fun hm => ⟨fu, List.mem_cons_self, by simpa using hc, hm, rfl⟩
  next fu rest i _ hm ih =>
    split at ih
    · obtain ⟨k, rfl, hk, hall⟩ := ih
      exact ⟨k + 1, by omega, Nat.succ_lt_succ hk, List.forall_mem_cons.2 ⟨(not_or.1 hm).2, hall⟩⟩
    · exact ih.imp id fun ⟨fu, hfu, hr⟩ => ⟨fu, List.mem_cons_of_mem _ hfu, hr⟩
    · exact List.forall_mem_cons.2 ⟨(not_or.1 hm).2, ih⟩

theorem nomatch_succ {cfg : Cfg} {sh : List Nat} {k r x : Nat} (h : NoMatch cfg sh k r) (hx : sh[k]? = some x)
    (hc : cfg.cls x ≠ cfg.cls r) : NoMatch cfg sh (k + 1) r := by
  unfold NoMatch
  rw [List.take_add_one, hx, List.forall_mem_append]
  exact ⟨h, List.forall_mem_singleton.2 hc⟩

theorem nomatch_extend {cfg : Cfg} {sh : List Nat} {k n r : Nat} (h : NoMatch cfg sh k r)
    (hn : ∀ x ∈ (sh.drop k).take n, cfg.cls x ≠ cfg.cls r) : NoMatch cfg sh (k + n) r := by
  unfold NoMatch
  rw [List.take_add, List.forall_mem_append]
  exact ⟨h, hn⟩

theorem valok_of_fut {cfg : Cfg} {s : DState} {f r : Nat} {fu : Fut} (hs : ∀ fu ∈ s.futs, FutOk fu) (hf : s.futs[f]? = some fu)
    (hc : fu.compl = true) (h0 : r = 0 → f = 0) (h1 : r ≠ 0 → cfg.cls fu.shape = cfg.cls r) : ValOk cfg s r fu.data :=
  Or.inr ⟨f, fu.shape, shapes_getElem? hf, by simp [complOf, hf, hc], (hs fu (List.mem_of_getElem? hf)).2 hc, h0, h1⟩

theorem valok_fut {cfg : Cfg} {s : DState} {r v : Nat} (h : DInv cfg s) (hv : ValOk cfg s r v) (h0 : v ≠ 0) :
    ∃ f fu, s.futs[f]? = some fu ∧ fu.compl = true ∧ v = valOf 1 fu.shape ∧ fu.data = v ∧
      (r = 0 → f = 0) ∧ (r ≠ 0 → cfg.cls fu.shape = cfg.cls r) := by
  obtain ⟨f, x, hx, hc, rfl, hr⟩ := hv.resolve_left h0
  simp only [shapes, List.getElem?_map, Option.map_eq_some_iff] at hx
  obtain ⟨fu, hfu, rfl⟩ := hx
  have hcf : fu.compl = true := by simpa [complOf, hfu] using hc
  exact ⟨f, fu, hfu, hcf, rfl, (h.futs fu (List.mem_of_getElem? hfu)).2 hcf, hr⟩

theorem dinv_append {cfg : Cfg} {s : DState} (r : Nat) (h : DInv cfg s) (hall : ∀ x ∈ shapes s, cfg.cls x ≠ cfg.cls r) :
    DInv cfg { s with futs := s.futs ++ [newFut r] } := by
  have hsh : shapes { s with futs := s.futs ++ [newFut r] } = shapes s ++ [r] := List.map_append
  have e : Ext s { s with futs := s.futs ++ [newFut r] } := by
    refine ⟨hsh ▸ mono_of_prefix (List.prefix_append _ _), fun f hf => ?_⟩
    unfold complOf at hf ⊢
    split at hf
    next fu hfu => rwa [List.getElem?_append_left (Interleave.lt_of_getElem? hfu), hfu]
    · cases hf
  refine ⟨by simp, ?_, ?_, fun p hp => (h.pend p hp).imp fun x hx => ⟨e.sh.get _ x hx.1, hx.2⟩,
    fun o ho => ⟨pcok_ext e h.len (h.thr o ho).1, resok_ext e (h.thr o ho).2⟩⟩
  · exact List.forall_mem_append.2 ⟨h.futs, List.forall_mem_singleton.2 ⟨rfl, nofun⟩⟩
  · rw [hsh, List.map_append, List.nodup_append]
    exact ⟨h.nodup, by simp, List.forall_mem_map.2 fun x hx => List.forall_mem_singleton.2 (hall x hx)⟩

theorem dinv_applyScan {cfg : Cfg} {s : DState} (t : Nat) (th : DThread) (r i : Nat) (h : DInv cfg s)
    (hth : th ∈ s.thr) (hr : r ≠ 0) (hnm : NoMatch cfg (shapes s) (i + 1) r) :
    DInv cfg (applyScan cfg s t th r i) := by
  have hres := (h.thr th hth).2
  have hlen : (shapes s).length = s.futs.length := List.length_map _
  have hsp := scanList_spec cfg.cls r (s.futs.drop (i + 1)) i
  unfold applyScan
  split at hsp <;> rename_i heq <;> rw [heq] <;> dsimp only
  · obtain ⟨k, rfl, hk, hall⟩ := hsp
    rw [List.length_drop] at hk
    rw [List.map_drop] at hall
    refine dinv_setThr t _ h ⟨hr, by omega, ?_⟩ hres
    rw [Nat.add_right_comm]
    exact nomatch_extend hnm hall
  · refine dinv_setThr t _ h ⟨hr, ?_⟩ hres
    rcases hsp with rfl | ⟨fu, hfu, hc, hcls, rfl⟩
    · exact Or.inl rfl
    · obtain ⟨f, hf⟩ := List.mem_iff_getElem?.1 (List.mem_of_mem_drop hfu)
      exact valok_of_fut h.futs hf hc (fun h0 => absurd h0 hr) fun _ => hcls
  · -- every existing future is of another class: append the new nested future
    have hall : ∀ x ∈ shapes s, cfg.cls x ≠ cfg.cls r := by
      rw [← List.take_append_drop (i + 1) (shapes s), List.forall_mem_append]
      exact ⟨hnm, List.map_drop ▸ hsp⟩
    have h' := dinv_append r h hall
    exact dinv_setThr (s := { s with futs := s.futs ++ [newFut r] }) t _ h' ⟨hr, by simp [shapes, newFut]⟩ (h'.thr th hth).2

theorem valok_readFut {cfg : Cfg} {s : DState} (f r : Nat) (hs : ∀ fu ∈ s.futs, FutOk fu) (ha : Ans cfg (shapes s) r f) :
    ValOk cfg s r (readFut s f) := by
  unfold readFut
  split
  next fu hf =>
    split
    next hc =>
      obtain ⟨x, hx, h0, h1⟩ := ha
      cases (shapes_getElem? hf).symm.trans hx
      exact valok_of_fut hs hf hc h0 h1
    · exact Or.inl rfl
  · exact Or.inl rfl

theorem dinv_enterTop {cfg : Cfg} {s : DState} (t : Nat) (th : DThread) (f r : Nat) (h : DInv cfg s)
    (hth : th ∈ s.thr) (ha : Ans cfg (shapes s) r f) : DInv cfg (enterTop s t th f r) := by
  have hres := (h.thr th hth).2
  unfold enterTop
  split
  · exact dinv_setThr t _ h (pcok_fin th _ _) (resok_fin th (.trig r) _ hres (valok_readFut f r h.futs ha))
  · exact dinv_setThr t _ h ha hres

theorem shapes_zero {s : DState} (hne : s.futs ≠ []) : (shapes s)[0]? = some (baseShape s) := by
  unfold baseShape shapes
  cases hf : s.futs with
  | nil => exact absurd hf hne
  | cons a r => rfl

theorem dinv_step (cfg : Cfg) (s : DState) (t : Nat) (h : DInv cfg s) : DInv cfg (dstep cfg s t) := by
  unfold dstep
  split
  · exact h
  next th ht =>
  have hS := same_refl h
  have hm := List.mem_of_getElem? ht
  obtain ⟨hpc, hres⟩ := h.thr th hm
  generalize th.pc = pc at hpc ⊢
  cases pc with dsimp only
  | idle =>
    fun_cases didle cfg s t th
    · exact dinv_setThr t _ h trivial hres
    next r _ _ hc =>
      exact dinv_enterTop t th 0 r h hm ⟨baseShape s, shapes_zero h.ne, fun _ => rfl, hc.resolve_left⟩
    next r _ _ hc =>
      exact dinv_setThr t _ h ⟨(not_or.1 hc).1,
        nomatch_succ (k := 0) nofun (shapes_zero h.ne) (not_or.1 hc).2⟩ hres
    · exact dinv_setThr t _ h (pcok_fin th _ _) (resok_fin th .fulfil _ hres trivial)
    next f v prest hpend =>
      obtain ⟨x, hx, hv⟩ := h.pend (f, v) (hpend ▸ List.mem_cons_self)
      have hS1 : Same s { s with pending := prest } :=
        { hS with pend := fun p hp => h.pend p (hpend ▸ List.mem_cons_of_mem _ hp) }
      refine dinv_same t _ h (same_modFut f _ hS1 (fun _ => rfl) ?_ (fun _ _ => rfl)) (pcok_fin th _ _) (resok_fin th .fulfil _ hres trivial)
      intro fu hf hfu
      cases (shapes_getElem? hf).symm.trans hx
      exact ⟨hfu.1, fun _ => hv⟩
  | lockTop f r =>
    split
    · exact h
    · exact dinv_same t _ h (same_trigger f hS) hpc hres
  | unlockTop f r =>
    exact dinv_same t _ h (same_setLock f false hS) (pcok_fin th _ _) (resok_fin th (.trig r) _ hres (valok_readFut f r h.futs hpc))
  | plock r =>
    have hs := same_setLock 0 true hS
    split
    · exact h
    · exact dinv_applyScan t th r 0 (hs.dinv h) (hs.thr ▸ hm) hpc.1 (hs.sh ▸ hpc.2)
  | lockScan i r =>
    split
    · exact h
    · exact dinv_same t _ h (same_trigger (i + 1) hS) hpc hres
  | unlockScan i r =>
    have hs := same_setLock (i + 1) false hS
    split
    · exact h
    next fu hf =>
    split
    next hc =>
      exact dinv_same t _ h hs ⟨hpc.1, hc.elim Or.inl fun hcls =>
        valok_readFut (i + 1) r h.futs ⟨fu.shape, shapes_getElem? hf, fun h0 => absurd h0 hpc.1, fun _ => hcls⟩⟩ hres
    next hc =>
      exact dinv_applyScan t th r (i + 1) (hs.dinv h) (hs.thr ▸ hm) hpc.1
        (hs.sh ▸ nomatch_succ hpc.2.2 (shapes_getElem? hf) (not_or.1 hc).2)
  | punlockRet v r => exact dinv_same t _ h (same_setLock 0 false hS) (pcok_fin th _ _) (resok_fin th (.trig r) _ hres hpc.2)
  | punlockNew j r =>
    have hs := same_setLock 0 false hS
    exact dinv_enterTop t th j r (hs.dinv h) (hs.thr ▸ hm) (hs.sh ▸ ⟨r, hpc.2, fun h0 => absurd h0 hpc.1, fun _ => rfl⟩)
  | done => exact h

theorem dinv_init (cfg : Cfg) (b : Nat) (pre : Bool) (progs : List (List DOp)) : DInv cfg (dinit b pre progs) := by
  refine ⟨by simp [dinit], List.forall_mem_singleton.2 ?_, by simp [shapes, dinit], nofun,
    List.forall_mem_map.2 fun p _ => ⟨trivial, nofun⟩⟩
  cases pre
  · exact ⟨rfl, nofun⟩
  · exact ⟨rfl, fun _ => rfl⟩

end ParsecVerif.FutureDC
