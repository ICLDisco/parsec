/-
  C14, second layer: conservation of messages, and "the oldest posted receive is always tested".
-/
import ParsecVerif.Model.CommWindow
import ParsecVerif.Proofs.CommPool

namespace ParsecVerif.CommEngine

theorem idxOf_erase_ge (l : List Nat) (x r : Nat) : List.idxOf x l ≤ List.idxOf x (l.erase r) + 1 := by
  induction l with
  | nil => simp
  | cons a rest ih =>
    rw [List.erase_cons]
    split
    · rw [List.idxOf_cons]
      cases a == x
      · exact Nat.le_refl _
      · exact Nat.zero_le _
    · rw [List.idxOf_cons, List.idxOf_cons]
      cases a == x
      · exact Nat.succ_le_succ ih
      · exact Nat.zero_le _

theorem idxOf_move_last (l : List Nat) (r : Nat) (hnd : l.Nodup) (hr : r ∈ l) :
    List.idxOf r (l.erase r ++ [r]) = l.length - 1 := by
  rw [List.idxOf_append, if_neg fun h => (hnd.mem_erase_iff.mp h).1 rfl, List.length_erase_of_mem hr]
  simp

theorem idxOf_move_other (l : List Nat) (x r : Nat) (hxr : x ≠ r) (hx : x ∈ l) :
    List.idxOf x (l.erase r ++ [r]) + 1 ≥ List.idxOf x l := by
  rw [List.idxOf_append, if_pos ((List.mem_erase_of_ne hxr).mpr hx)]
  exact idxOf_erase_ge l x r

theorem idxOf_range (n x : Nat) (hx : x < n) : List.idxOf x (List.range n) = x := by
  have := List.nodup_range.idxOf_getElem x (by rw [List.length_range]; exact hx)
  rwa [List.getElem_range] at this

/-- Potential argument: a receive outside the window is at least as many places from the front of the posted
    order as `req_idx` is rotation steps away from it (counting the refills still owed by the current pass). -/
def OInv (p : Pool) (posted : List Nat) : Prop :=
  ∀ x, x < p.n → p.inw.getD x false = false →
    cd p.n p.ridx x + 1 ≤ List.idxOf x posted + (p.t - (winReqs p.win).length)

structure GCore (g : GPool) : Prop where
  posted_perm : g.posted.Perm (List.range g.p.n)
  /-- non-overtaking matching: the receives holding a message are the oldest posted ones, in posted order -/
  keys_pre : g.keys <+: g.posted
  /-- a message waits in the unexpected queue only if every receive holds one -/
  full : g.unexp ≠ [] → g.keys = g.posted
  conserve : (g.delivered ++ g.held.map (·.2) ++ g.unexp).Perm g.arrived
  pot : OInv g.p g.posted

theorem GCore.posted_nodup {g : GPool} (h : GCore g) : g.posted.Nodup := h.posted_perm.nodup_iff.mpr List.nodup_range

theorem GCore.posted_mem {g : GPool} (h : GCore g) {r : Nat} : r ∈ g.posted ↔ r < g.p.n :=
  h.posted_perm.mem_iff.trans List.mem_range

theorem GCore.keys_nodup {g : GPool} (h : GCore g) : g.keys.Nodup := h.keys_pre.sublist.nodup h.posted_nodup

theorem GCore.with_pool {g : GPool} (h : GCore g) {q : Pool} (hn : q.n = g.p.n) (hpot : OInv q g.posted) :
    GCore { g with p := q } :=
  ⟨hn ▸ h.posted_perm, h.keys_pre, h.full, h.conserve, hpot⟩

/-- Between passes. -/
structure GInv (g : GPool) : Prop where
  quiet : PQuiet g.p
  core : GCore g

/-- Inside a pass; `todo` = reported offsets not yet served.  The inactive receives (those sitting at the offsets in
    `todo`) hold a message. -/
structure GMid (g : GPool) (todo : List Nat) : Prop where
  pmid : PMid g.p (· ∈ todo)
  core : GCore g
  keys : ∀ r, r < g.p.n → g.p.act.getD r true = false → r ∈ g.keys

theorem keys_append (g : GPool) (r m : Nat) :
    ({ g with held := g.held ++ [(r, m)] } : GPool).keys = g.keys ++ [r] := by
  simp [GPool.keys]

theorem GInv_arrive {g : GPool} (hi : GInv g) (m : Nat) : GInv (g.arrive m) := by
  have h := hi.core
  obtain ⟨rest, hp⟩ := h.keys_pre
  have hnd := h.posted_nodup
  rw [← hp] at hnd
  -- the search skips the receives that hold a message and stops at the first one after them
  have hf : g.posted.find? (fun r => decide (r ∉ g.keys)) = rest.head? := by
    rw [← hp, List.find?_append, List.find?_eq_none.mpr fun r hr => by simpa using hr, Option.none_or]
    cases rest with
    | nil => rfl
    | cons r bs =>
      exact List.find?_cons_of_pos (by simpa using fun hr => (List.nodup_append.mp hnd).2.2 r hr r List.mem_cons_self rfl)
  unfold GPool.arrive
  rw [hf]
  cases rest with
  | nil =>
    refine ⟨hi.quiet, h.posted_perm, h.keys_pre, fun _ => (List.append_nil _).symm.trans hp, ?_, h.pot⟩
    show (g.delivered ++ g.held.map (·.2) ++ (g.unexp ++ [m])).Perm (g.arrived ++ [m])
    rw [← List.append_assoc]
    exact h.conserve.append_right _
  | cons r bs =>
    refine ⟨hi.quiet, h.posted_perm, ?_, fun hu => ?_, ?_, h.pot⟩
    · show ({ g with held := g.held ++ [(r, m)] } : GPool).keys <+: g.posted
      rw [keys_append, ← hp]
      exact ⟨bs, List.append_assoc ..⟩
    · exact absurd ((h.full hu).trans hp.symm) (by simp)
    · show (g.delivered ++ (g.held ++ [(r, m)]).map (·.2) ++ g.unexp).Perm (g.arrived ++ [m])
      refine .trans ?_ (h.conserve.append_right [m])
      simp only [List.map_append, List.map_cons, List.map_nil, List.append_assoc]
      exact .append_left _ (.append_left _ List.perm_append_comm)

theorem GMid_report {g : GPool} {todo : List Nat} (h : GMid g todo) {j r : Nat} (hr : r < g.p.n)
    (hw : g.p.win[j]? = some (amSlot g.p.id r (g.p.base + j))) (hk : r ∈ g.keys) :
    GMid (g.report j) (todo ++ [j]) := by
  have hq := (h.pmid.complete hr hw).congr (T' := (· ∈ todo ++ [j])) (by simp)
  unfold GPool.report
  rw [complete_act hw] at hq ⊢
  refine ⟨hq, h.core.with_pool rfl h.core.pot, fun x hx hxa => ?_⟩
  rcases (getD_set_flip g.p.act r x true).mp hxa with ⟨rfl, _⟩ | hxa
  · exact hk
  · exact h.keys x hx hxa

theorem held_extract {L : List (Nat × Nat)} {r : Nat} (hnd : (L.map (·.1)).Nodup) (hr : r ∈ L.map (·.1)) :
    ∃ e, L.find? (fun e => e.1 == r) = some e ∧ L.Perm (e :: L.filter (fun e => e.1 != r)) := by
  obtain ⟨e0, he0, her⟩ := List.mem_map.mp hr
  obtain ⟨e, hf⟩ := Option.isSome_iff_exists.mp
    (List.find?_isSome (p := fun e => e.1 == r) |>.mpr ⟨e0, he0, by simp [her]⟩)
  refine ⟨e, hf, ?_⟩
  -- `L = as ++ e :: bs`, no key `r` in `as` (first hit) nor in `bs` (keys are distinct)
  obtain ⟨he, as, bs, rfl, has⟩ := List.find?_eq_some_iff_append.mp hf
  have he : e.1 = r := by simpa using he
  rw [List.map_append, List.map_cons, List.nodup_append] at hnd
  rw [List.filter_append, List.filter_cons_of_neg (by simp [he]), List.filter_eq_self.mpr, List.filter_eq_self.mpr]
  · exact List.perm_middle
  · intro b hb
    simp only [bne_iff_ne, ne_eq]
    exact fun e2 => (List.nodup_cons.mp hnd.2.1).1 (by rw [he, ← e2]; exact List.mem_map_of_mem hb)
  · intro a ha; simpa using has a ha

/-- The restarted receive leaves the window and becomes the youngest posted one: one more refill is owed, and no
    other receive moves forward by more than one place. -/
theorem OInv_restart {p : Pool} {posted : List Nat} {j r : Nat} (h : PInv p) (hp : posted.Perm (List.range p.n))
    (hr : r < p.n) (hw : p.win[j]? = some (amSlot p.id r (p.base + j))) (ho : OInv p posted) :
    OInv (p.restart j r (amSlot p.id r (p.base + j))) (posted.erase r ++ [r]) := by
  have hmem : ∀ x, x < p.n → x ∈ posted := fun x hx => hp.mem_iff.mpr (List.mem_range.mpr hx)
  have hrw : r ∈ winReqs p.win := mem_winReqs_of_slot hw
  have hwle : (winReqs p.win).length ≤ p.t := h.win_len ▸ winReqs_length_le p.win
  have := List.length_pos_of_mem hrw
  intro x (hx : x < p.n) (hxf : (p.inw.set r false).getD x false = false)
  show cd p.n p.ridx x + 1 ≤ _ + (p.t - (winReqs (p.restart j r _).win).length)
  rw [winReqs_restart h.core hw, List.length_erase_of_mem hrw]
  by_cases hrx : r = x
  · subst hrx
    rw [idxOf_move_last _ _ (hp.nodup_iff.mpr List.nodup_range) (hmem r hr), hp.length_eq, List.length_range]
    have := cd_lt (a := p.ridx) hr
    omega
  · rw [getD_set_ne hrx] at hxf
    have h1 := ho x hx hxf
    have h2 := idxOf_move_other posted x r (Ne.symm hrx) (hmem x hx)
    omega

theorem GMid_serve {g : GPool} {j : Nat} {rest : List Nat} (h : GMid g (j :: rest)) (hj : j ∉ rest) :
    GMid (g.serve j) rest := by
  obtain ⟨r, hr, hw, ha⟩ := h.pmid.pending_inactive j List.mem_cons_self
  have hc := h.core
  obtain ⟨e, hfe, hperm⟩ := held_extract hc.keys_nodup (h.keys r hr ha)
  rw [show g.serve j = (g.deliver j r e).restart r by simp only [GPool.serve, hw, amSlot, hfe]]
  unfold GPool.deliver
  rw [done_eq hr hw ha]
  have hq : PMid (g.p.restart j r (amSlot g.p.id r (g.p.base + j))) (· ∈ rest) :=
    (h.pmid.congr fun _ => List.mem_cons).restart hj hw
  have hpot := OInv_restart h.pmid.inv hc.posted_perm hr hw hc.pot
  have hpp : (g.posted.erase r ++ [r]).Perm (List.range g.p.n) :=
    ((List.perm_append_singleton r _).trans (List.perm_cons_erase (hc.posted_mem.mpr hr)).symm).trans hc.posted_perm
  -- the other receives keep their messages, in the same order
  have hk : (g.held.filter (fun e => e.1 != r)).map (·.1) = g.keys.filter (· != r) := by
    rw [GPool.keys, List.filter_map]; rfl
  have hpre : (g.held.filter (fun e => e.1 != r)).map (·.1) <+: g.posted.erase r := by
    rw [hk, hc.posted_nodup.erase_eq_filter]; exact hc.keys_pre.filter _
  have hcons : (g.delivered ++ [e.2] ++ (g.held.filter (fun e => e.1 != r)).map (·.2) ++ g.unexp).Perm g.arrived := by
    refine .trans ?_ hc.conserve
    simp only [List.append_assoc]
    exact .append_left _ (.append_right _ (hperm.map (·.2)).symm)
  have hkeep : ∀ tl x, x < g.p.n → (g.p.act.set r true).getD x true = false →
      x ∈ (g.held.filter (fun e => e.1 != r) ++ tl).map (·.1) := fun tl x hx hxa => by
    have ⟨hne, hxa⟩ := (getD_set_default g.p.act r x true).mp hxa
    rw [List.map_append, hk]
    exact List.mem_append_left _ (List.mem_filter.mpr ⟨h.keys x hx hxa, by simpa using hne⟩)
  unfold GPool.restart
  cases hu : g.unexp with
  | nil =>
    rw [hu] at hcons
    exact ⟨hq, ⟨hpp, hpre.trans (List.prefix_append _ _), fun hne => absurd rfl hne, hcons, hpot⟩,
      fun x hx hxa => by have := hkeep [] x hx hxa; rwa [List.append_nil] at this⟩
  | cons m' urest =>
    rw [hu] at hcons
    -- every receive held a message, and `r` takes the oldest unexpected one: again every receive holds one
    have hk' : ((g.held.filter (fun e => e.1 != r)) ++ [(r, m')]).map (·.1) = g.posted.erase r ++ [r] := by
      rw [List.map_append, hk, hc.full (by rw [hu]; simp), hc.posted_nodup.erase_eq_filter]; rfl
    exact ⟨hq, ⟨hpp, hk' ▸ List.prefix_rfl, fun _ => hk', by simpa using hcons, hpot⟩, hkeep _⟩

/-- Taking the next receive into the window pays one owed refill; the scan moves `req_idx` only over receives inside
    the window, so it comes closer to every other receive outside.  Nothing of the pool invariant is needed beyond
    the two bounds. -/
theorem OInv_fill1 {p : Pool} {posted : List Nat} (hlen : p.inw.length = p.n) (hr : p.ridx < p.n)
    (ho : OInv p posted) : OInv p.fill1 posted := by
  intro x (hx : x < p.n) (hxf : (p.inw.set (scan p.inw p.n p.n p.ridx) true).getD x false = false)
  show cd p.n ((scan p.inw p.n p.n p.ridx + 1) % p.n) x + 1 ≤ _ + (p.t - (winReqs (p.win ++ [_])).length)
  rw [winReqs_append, List.length_append]
  have hsx : scan p.inw p.n p.n p.ridx ≠ x := by
    rintro rfl
    rw [getD_set_self (by rw [hlen]; exact hx)] at hxf; cases hxf
  rw [getD_set_ne hsx] at hxf
  have h1 := ho x hx hxf
  have h2 := (scan_stop p.inw hx hxf p.n p.ridx hr (cd_lt hx)).2.2.resolve_left hsx
  show _ ≤ _ + (p.t - ((winReqs p.win).length + 1))
  omega

theorem OInv_fillN {posted : List Nat} (m : Nat) {p : Pool} (hlen : p.inw.length = p.n) (hr : p.ridx < p.n)
    (ho : OInv p posted) : OInv (Pool.fillN m p) posted := by
  induction m generalizing p with
  | zero => exact ho
  | succ m ih =>
    exact ih ((List.length_set ..).trans hlen) (Nat.mod_lt _ (Nat.zero_lt_of_lt hr)) (OInv_fill1 hlen hr ho)

theorem OInv_refill {p : Pool} {posted : List Nat} (h : PCore p) (ho : OInv p posted) : OInv p.refill posted :=
  refill_eq p ▸ OInv_fillN (p := p.compacted) _ h.inw_len h.ridx_lt fun x hx hxf => by
    show _ ≤ _ + (p.t - (winReqs p.compacted.win).length)
    rw [show winReqs p.compacted.win = _ from winReqs_compact p.base p.win 0 0]; exact ho x hx hxf

theorem GInv_refill {g : GPool} (h : GMid g []) : GInv g.refill :=
  ⟨h.pmid.refill (by simp),
    h.core.with_pool (congrArg (·.2.1) (refill_frame g.p).1) (OInv_refill h.pmid.inv.core h.core.pot)⟩

/-- What `MPI_Testsome` may report for this tag: a window offset whose receive holds a message. -/
def GReportable (g : GPool) (j : Nat) : Prop :=
  ∃ r, r < g.p.n ∧ g.p.win[j]? = some (amSlot g.p.id r (g.p.base + j)) ∧ r ∈ g.keys

instance (g : GPool) (j : Nat) : Decidable (GReportable g j) := by unfold GReportable; infer_instance

theorem GMid_reports (js : List Nat) {g : GPool} {todo : List Nat} (h : GMid g todo)
    (hrep : ∀ j, j ∈ js → GReportable g j) : GMid (js.foldl GPool.report g) (todo ++ js) := by
  induction js generalizing g todo with
  | nil => exact (List.append_nil _).symm ▸ h
  | cons j rest ih =>
    obtain ⟨r, hr, hw, hk⟩ := hrep j List.mem_cons_self
    exact List.append_assoc todo [j] rest ▸ ih (GMid_report h hr hw hk) fun j' hj' => by
      obtain ⟨r', h1, h2, h3⟩ := hrep j' (List.mem_cons_of_mem _ hj')
      unfold GPool.report
      rw [complete_act hw]
      exact ⟨r', h1, h2, h3⟩

theorem GMid_serves : ∀ (js : List Nat) (g : GPool), GMid g js → js.Nodup → GMid (js.foldl GPool.serve g) [] := by
  intro js
  induction js with
  | nil => intro g h _; exact h
  | cons j rest ih =>
    intro g h hnd
    rw [List.nodup_cons] at hnd
    exact ih (g.serve j) (GMid_serve h hnd.1) hnd.2

theorem GInv_pass {g : GPool} (h : GInv g) (js : List Nat) (hnd : js.Nodup) (hrep : ∀ j, j ∈ js → GReportable g j) :
    GInv (g.pass js) := by
  have h1 := GMid_reports js (todo := []) ⟨h.quiet.toMid (by simp), h.core,
    fun r hr ha => by rw [h.quiet.active r hr] at ha; cases ha⟩ hrep
  exact GInv_refill (GMid_serves js _ h1 hnd)

theorem GInv_init (id n t base : Nat) (h1 : 1 ≤ t) (h2 : t ≤ n) : GInv (GPool.init id n t base) := by
  refine ⟨PQuiet_init id n t base h1 h2, ⟨List.Perm.refl _, List.nil_prefix, fun hu => absurd rfl hu, List.Perm.refl _, ?_⟩⟩
  intro x (hx : x < n) (hxf : ((List.range n).map (fun r => decide (r < t))).getD x false = false)
  rw [List.getD_eq_getElem?_getD, List.getElem?_map, List.getElem?_range hx] at hxf
  have hxt : ¬ x < t := by simpa using hxf
  show cd n (t % n) x + 1 ≤ List.idxOf x (List.range n) + (t - (winReqs ((List.range t).map _)).length)
  rw [winReqs_init, idxOf_range n x hx, Nat.mod_eq_of_lt (by omega), List.length_range]
  unfold cd
  split <;> omega

inductive GReach (id n t base : Nat) : GPool → Prop
  | init : GReach id n t base (GPool.init id n t base)
  | arrive {g : GPool} (m : Nat) : GReach id n t base g → GReach id n t base (g.arrive m)
  | pass {g : GPool} (js : List Nat) : GReach id n t base g → js.Nodup → (∀ j, j ∈ js → GReportable g j) →
      GReach id n t base (g.pass js)

theorem greach_inv {id n t base : Nat} (h1 : 1 ≤ t) (h2 : t ≤ n) {g : GPool} (h : GReach id n t base g) : GInv g := by
  induction h with
  | init => exact GInv_init id n t base h1 h2
  | arrive m _ ih => exact GInv_arrive ih m
  | pass js _ hnd hrep ih => exact GInv_pass ih js hnd hrep

theorem GInv.oldest_in_window {g : GPool} (h : GInv g) : ∃ r, g.posted.head? = some r ∧ r ∈ winReqs g.p.win := by
  have hc := h.quiet.inv.core
  obtain ⟨r, rest, hp⟩ := List.exists_cons_of_length_pos (l := g.posted) (by
    rw [h.core.posted_perm.length_eq, List.length_range]; exact Nat.lt_of_lt_of_le hc.t_pos hc.t_le)
  have hr : r < g.p.n := h.core.posted_mem.mp (by rw [hp]; exact List.mem_cons_self)
  refine ⟨r, by rw [hp]; rfl, (hc.inw_iff r hr).mp (Bool.of_not_eq_false fun hw => ?_)⟩
  have := h.core.pot r hr hw
  rw [hp, h.quiet.winReqs_length] at this
  simp at this

theorem GInv.no_starvation {g : GPool} (h : GInv g) (hh : g.held ≠ []) :
    ∃ j r m, g.p.win[j]? = some (amSlot g.p.id r (g.p.base + j)) ∧ (r, m) ∈ g.held := by
  obtain ⟨r, hhead, hrw⟩ := h.oldest_in_window
  -- a non-empty prefix of the posted order starts with its head
  obtain ⟨e, rest, he⟩ := List.exists_cons_of_ne_nil hh
  obtain ⟨tl, hp⟩ := h.core.keys_pre
  rw [← hp, GPool.keys, he] at hhead
  obtain rfl : e.1 = r := Option.some.inj hhead
  obtain ⟨j, _, hj⟩ := h.quiet.inv.core.slot_of_mem hrw
  exact ⟨j, e.1, e.2, hj, he ▸ List.mem_cons_self⟩

end ParsecVerif.CommEngine
