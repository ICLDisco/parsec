import ParsecVerif.Model.HbBuffer
import ParsecVerif.Base.Interleave
/-!
  Conservation for the hierarchical bounded buffer: every micro step of every thread keeps, for every
  task `a`,   #(a in the slots) + #(a in the parent store) + Σ_threads #(a held by the thread)
  where a thread holds the locals of its running operation (`held`) and its `hand`.
-/
namespace ParsecVerif.HbBuffer
open ParsecVerif.MaxHeap (Task)

/-- the tasks that are only in a thread's locals at a program point.  The candidates of the scans (`bc`, `best`, the
    `t` of `poCas`) are left out: they stay in their slot until the CAS has succeeded, and only then does the thread
    own them. -/
def held : Pc → List Task
  | .idle => []
  | .paRd e n _ _ => e :: n
  | .paCas e n _ _ => e :: n
  | .bpRd t l ej _ _ _ _ => t :: (l ++ ej)
  | .bpCas t l ej _ _ _ => t :: (l ++ ej)
  | .up ring _ => ring
  | .poRd _ _ => []
  | .poCas _ _ => []

def own (a : Task) (th : Thread) : Nat := (held th.pc).count a + th.hand.count a

def memCount (a : Task) (m : Mem) : Nat := m.slots.count (some a) + m.parent.count a

def total (a : Task) (s : State) : Nat := memCount a s.mem + (s.thr.map (own a)).sum

theorem takeOut_count (a : Task) : ∀ (ring hand : List Task),
    (takeOut hand ring).count a = hand.count a - ring.count a
  | [], _ => rfl
  | x :: xs, hand => by
    rw [takeOut, takeOut_count a xs, List.count_erase, List.count_cons, Nat.sub_sub, Nat.add_comm]

theorem PushPre.count_le {hand ring : List Task} (h : PushPre hand ring) (a : Task) :
    ring.count a ≤ hand.count a := by
  rw [h.1.count]
  split
  · next hm => exact List.count_pos_iff.2 (h.2 a hm)
  · exact Nat.zero_le _

theorem own_mk (a : Task) (pc : Pc) (todo : List Op) (hand : List Task) (rets : List Res) :
    own a ⟨pc, todo, hand, rets⟩ = (held pc).count a + hand.count a := rfl

theorem own_goto (a : Task) (th : Thread) (pc : Pc) :
    own a (th.goto pc) = (held pc).count a + th.hand.count a := rfl

theorem own_finish (a : Task) (th : Thread) (r : Res) : own a (th.finish r) = th.hand.count a :=
  Nat.zero_add _

theorem invoke_own (a : Task) (todo : List Op) (hand : List Task) (rets : List Res) :
    own a (invoke ⟨.idle, todo, hand, rets⟩) = hand.count a := by
  -- an accepted push: what leaves the hand is the ring, which every program point entered holds
  have hpre : ∀ {ring : List Task} {q : Prop}, ¬ (¬ PushPre hand ring ∨ q) →
      ring.count a + (takeOut hand ring).count a = hand.count a :=
    fun h => by
      have := (Decidable.not_not.1 fun hn => h (.inl hn)).count_le a
      rw [takeOut_count]
      omega
  cases todo with
  | nil => exact Nat.zero_add _
  | cons op rest =>
    cases op with
    | pushAll ring d =>
      simp only [invoke]
      split
      · exact own_finish ..
      · next h =>
        split
        · exact hpre h
        · cases ring <;> exact hpre h
    | pushPrio ring d =>
      simp only [invoke]
      split
      · exact own_finish ..
      · next h =>
        cases ring with
        | nil => exact hpre h
        | cons e l =>
          simp only
          split
          · exact hpre h
          · rw [own_goto, held, List.append_nil]; exact hpre h
    | pop => exact Nat.zero_add _

theorem cas_conserve (a : Task) {m : Mem} {i : Nat} {old : Option Task} (h : m.slots[i]? = some old)
    (new : Option Task) {th th' : Thread}
    (hown : own a th' + new.toList.count a = own a th + old.toList.count a) :
    memCount a { m with slots := m.slots.set i new } + own a th' = memCount a m + own a th := by
  have ht : ∀ o : Option Task, o.toList.count a = if o = some a then 1 else 0 := by
    rintro (_ | x) <;> simp [List.count_cons]
  have := Interleave.count_set_of_getElem? h new (some a)
  rw [ht, ht] at hown
  simp only [memCount]
  omega

theorem stepTh_conserve (m : Mem) (th : Thread) (a : Task) :
    memCount a (stepTh m th).1 + own a (stepTh m th).2 = memCount a m + own a th := by
  obtain ⟨pc, todo, hand, rets⟩ := th
  cases pc with
  | idle => exact congrArg _ ((invoke_own a todo hand rets).trans (Nat.zero_add _).symm)
  | paRd elt next i d =>
    simp only [stepTh, stepPc]
    split
    · rfl
    · split <;> rfl
  | paCas elt next i d =>
    simp only [stepTh, stepPc]
    split
    · next hs =>
      refine cas_conserve a hs (some elt) ?_
      cases next <;> simp only [own_finish, own_goto, own_mk, held, Option.toList, List.count_cons, List.count_nil] <;>
        omega
    · rfl
  | bpRd topush list ej i bi bc d =>
    simp only [stepTh, stepPc]
    split
    · cases bi <;> simp only [bpDecide, own_goto, own_mk, held, List.count_cons, List.count_append]
      omega
    · split
      · split <;> rfl
      · rfl
  | bpCas topush list ej k bc d =>
    simp only [stepTh, stepPc]
    split
    · next hs =>
      -- the replaced task joins `ej`, and every way of going on holds `list` and that
      refine cas_conserve a hs (some topush) ?_
      cases bc <;> cases list <;> simp only [reduceCtorEq, ↓reduceIte] <;> (try split) <;>
        simp only [*, own_finish, own_goto, own_mk, held, Option.toList, List.count_cons, List.count_append,
          List.count_nil] <;> omega
    · rfl
  | up ring d =>
    simp only [stepTh, stepPc, own_finish, own_mk, held, memCount, List.count_append]
    omega
  | poRd i best =>
    simp only [stepTh, stepPc]
    split
    · split <;> rfl
    · split
      · split
        · rfl
        · split <;> rfl
      · rfl
  | poCas t k =>
    simp only [stepTh, stepPc]
    split
    · next hs =>
      refine cas_conserve a hs none ?_
      simp only [own_mk, held, Option.toList, List.count_cons, List.count_nil]
      omega
    · rfl

theorem step_total (s : State) (t : Nat) (a : Task) : total a (step s t) = total a s := by
  unfold step
  cases ht : s.thr[t]? with
  | none => rfl
  | some th =>
    have h1 := Interleave.sum_map_set (own a) s.thr t th (stepTh s.mem th).2 ht
    have h2 := stepTh_conserve s.mem th a
    simp only [total]
    omega

theorem run_total (sched : List Nat) (s : State) (a : Task) : total a (run s sched) = total a s :=
  Interleave.foldl_inv (P := fun s' => total a s' = total a s) (fun s' t h => (step_total s' t a).trans h) sched rfl

theorem total_idle (a : Task) {s : State} (hq : ∀ th ∈ s.thr, th.pc = .idle) :
    total a s = s.mem.slots.count (some a) + s.mem.parent.count a + (s.thr.map fun th => th.hand.count a).sum :=
  congrArg (_ + List.sum ·) (List.map_congr_left fun th hth => by rw [own, hq th hth]; exact Nat.zero_add _)

theorem total_init (slots0 : List (Option Task)) (thr0 : List (List Task × List Op)) (a : Task) :
    total a (init slots0 thr0) = slots0.count (some a) + (thr0.map (fun p => p.1.count a)).sum := by
  rw [total_idle a fun th hth => by obtain ⟨_, -, rfl⟩ := List.mem_map.1 hth; rfl]
  unfold init
  rw [List.map_map]
  rfl

end ParsecVerif.HbBuffer
