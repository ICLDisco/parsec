import ParsecVerif.Proofs.VpMap
/-! Decimal rendering of naturals, its round trip through the strtol model, and the bind_map loop on
    rendered core lists. -/
namespace ParsecVerif.VpMap

/-- total: every `d ≥ 9` gives '9', so the lemmas ask for `d < 10` -/
def digitChar (d : Nat) : Char :=
  match d with
  | 0 => '0' | 1 => '1' | 2 => '2' | 3 => '3' | 4 => '4'
  | 5 => '5' | 6 => '6' | 7 => '7' | 8 => '8' | _ => '9'

/-- what `printf("%d")` writes for `n ≥ 0` -/
def render (n : Nat) : Str :=
  if _h : n < 10 then [digitChar n] else render (n / 10) ++ [digitChar (n % 10)]
termination_by n
decreasing_by omega

def renderList : List Nat → Str
  | [] => []
  | [c] => render c
  | c :: d :: t => render c ++ ',' :: renderList (d :: t)

theorem digitChar_facts : ∀ d < 10,
    digitVal (digitChar d) = some d ∧ isSpace (digitChar d) = false ∧ digitChar d ≠ '-' ∧ digitChar d ≠ '+'
    ∧ digitChar d ≠ 'x' ∧ digitChar d ≠ ':' := by
  decide +kernel

theorem isDigitIn_digitChar (d : Nat) (h : d < 10) : isDigitIn 10 (digitChar d) = true := by
  unfold isDigitIn
  rw [(digitChar_facts d h).1]
  simp [h]

theorem render_allDigits (n : Nat) : ∀ c ∈ render n, ∃ d, d < 10 ∧ c = digitChar d := by
  fun_induction render n with
  | case1 n h => exact List.forall_mem_singleton.2 ⟨n, h, rfl⟩
  | case2 n h ih =>
    exact List.forall_mem_append.2 ⟨ih, List.forall_mem_singleton.2 ⟨n % 10, by omega, rfl⟩⟩

theorem render_ne_nil (n : Nat) : render n ≠ [] := by
  unfold render
  split <;> simp

/-- The text behind is general (the induction hypothesis is used with one more digit in front of it), so the
    accumulator can start at 0 and the step is `n / 10 * 10 + n % 10 = n`. -/
theorem digitsVal_render (n : Nat) : ∀ rest, digitsVal 10 (render n ++ rest) 0 = digitsVal 10 rest n ∧
    dropDigits 10 (render n ++ rest) = dropDigits 10 rest := by
  fun_induction render n with
  | case1 n h => simp [digitsVal, dropDigits, isDigitIn_digitChar n h, (digitChar_facts n h).1]
  | case2 n h ih =>
    intro rest
    have hm : n % 10 < 10 := by omega
    rw [List.append_assoc, (ih _).1, (ih _).2]
    simp only [List.singleton_append, digitsVal, dropDigits, isDigitIn_digitChar _ hm, (digitChar_facts _ hm).1, if_true,
      Option.getD_some, Nat.div_add_mod' n 10, and_self]

theorem digitsVal_render_append (n : Nat) {rest : Str} (hr : hasDigit 10 rest = false) :
    digitsVal 10 (render n ++ rest) 0 = n ∧ dropDigits 10 (render n ++ rest) = rest := by
  rw [(digitsVal_render n rest).1, (digitsVal_render n rest).2]
  cases rest with
  | nil => exact ⟨rfl, rfl⟩
  | cons c t => simp only [hasDigit] at hr; simp [digitsVal, dropDigits, hr]

theorem render_cons (c : Nat) : ∃ d t, d < 10 ∧ render c = digitChar d :: t := by
  cases h : render c with
  | nil => exact absurd h (render_ne_nil c)
  | cons ch t =>
    obtain ⟨d, hd, rfl⟩ := render_allDigits c ch (by rw [h]; exact List.mem_cons_self ..)
    exact ⟨d, t, hd, rfl⟩

theorem strtol_of_digit {d : Nat} (hd : d < 10) (t : Str) :
    strtolVal 10 (digitChar d :: t) = clampLong (digitsVal 10 (digitChar d :: t) 0) ∧
    strtolRest 10 (digitChar d :: t) = dropDigits 10 (digitChar d :: t) ∧
    strtolConv 10 (digitChar d :: t) = true := by
  obtain ⟨-, hsp, hm, hp, -⟩ := digitChar_facts d hd
  have e1 : skipSpace (digitChar d :: t) = digitChar d :: t := by simp [skipSpace, hsp]
  have e2 : signRest (digitChar d :: t) = digitChar d :: t := by simp [signRest, hm, hp]
  have e3 : signNeg (digitChar d :: t) = false := by simp [signNeg, hm]
  simp [strtolVal, strtolRest, strtolConv, e1, e2, e3, effBase, effDigits, hasDigit, isDigitIn_digitChar d hd]

theorem strtol_render (c : Nat) (hc : c < 2147483648) (rest : Str) (hr : hasDigit 10 rest = false) :
    atoiVal (render c ++ rest) = c ∧ strtolRest 10 (render c ++ rest) = rest := by
  obtain ⟨d, t, hd, ht⟩ := render_cons c
  obtain ⟨hv, hrest, -⟩ := strtol_of_digit hd (t ++ rest)
  obtain ⟨h1, h2⟩ := digitsVal_render_append c hr
  rw [ht, List.cons_append] at h1 h2 ⊢
  refine ⟨?_, hrest.trans h2⟩
  rw [atoiVal, hv, h1]
  unfold clampLong wrap32 LONG_MAX LONG_MIN
  rw [if_neg (by omega), if_neg (by omega)]
  omega

theorem strchr_none_of_not_mem (c : Char) : ∀ (s : Str), c ∉ s → strchr c s = none := by
  intro s
  induction s with
  | nil => intro _; rfl
  | cons d t ih =>
    intro h
    unfold strchr
    rw [if_neg (by intro e; exact h (by rw [e]; exact List.mem_cons_self ..))]
    exact ih (fun hm => h (List.mem_cons_of_mem _ hm))

theorem renderList_cons (c : Nat) (t : List Nat) :
    renderList (c :: t) = render c ++ if t = [] then [] else ',' :: renderList t := by
  cases t <;> simp [renderList]

theorem renderList_chars : ∀ (cs : List Nat), ∀ ch ∈ renderList cs, ch = ',' ∨ ∃ d, d < 10 ∧ ch = digitChar d
  | [] => nofun
  | c :: t => by
    rw [renderList_cons]
    refine List.forall_mem_append.2 ⟨fun ch h => .inr (render_allDigits c ch h), ?_⟩
    split
    · nofun
    · exact List.forall_mem_cons.2 ⟨.inl rfl, renderList_chars t⟩

theorem renderList_no (cs : List Nat) (c : Char) (h1 : c ≠ ',') (h2 : ∀ d, d < 10 → c ≠ digitChar d) :
    afterChar c (renderList cs) = none := by
  unfold afterChar
  rw [strchr_none_of_not_mem c _ (by
    intro hm
    rcases renderList_chars cs c hm with e | ⟨d, hd, e⟩
    · exact h1 e
    · exact h2 d hd e)]
  rfl

theorem renderList_no_x (cs : List Nat) : afterChar 'x' (renderList cs) = none :=
  renderList_no cs 'x' (by decide) (fun d hd e => (digitChar_facts d hd).2.2.2.2.1 e.symm)

theorem renderList_no_colon (cs : List Nat) : afterChar ':' (renderList cs) = none :=
  renderList_no cs ':' (by decide) (fun d hd e => (digitChar_facts d hd).2.2.2.2.2 e.symm)

def placeAll (allowed : List Nat) : List Nat → BM → Option BM
  | [], st => some st
  | c :: cs, st =>
    match setLoc allowed st c with
    | none => none
    | some st' => placeAll allowed cs st'

theorem bmLoop_renderList (R : Nat) (hR : R ≤ 2147483648) (allowed : List Nat) :
    ∀ (cs : List Nat), cs ≠ [] → (∀ c ∈ cs, c < R) → ∀ (f : Nat), cs.length ≤ f → ∀ (st : BM),
      bmLoop R allowed f (renderList cs) st = placeAll allowed cs st := by
  intro cs
  induction cs with
  | nil => intro h; exact absurd rfl h
  | cons c t ih =>
    intro _ hlt f hf st
    have hc : c < R := hlt c (List.mem_cons_self ..)
    obtain ⟨f, rfl⟩ : ∃ k, f = k + 1 := ⟨f - 1, by simp at hf; omega⟩
    have hr : hasDigit 10 (if t = [] then [] else ',' :: renderList t) = false := by split <;> rfl
    have hs := strtol_render c (by omega) _ hr
    have hin : inRange R (c : Int) = true := (inRange_iff R c).2 ⟨by omega, by omega⟩
    unfold bmLoop
    rw [renderList_no_x, renderList_no_colon]
    simp only [renderList_cons, hs.1, hs.2, hin, if_true, placeAll]
    cases setLoc allowed st (c : Int) with
    | none => rfl
    | some st' =>
      by_cases ht : t = []
      · subst ht; rfl
      · simp only [if_neg ht, afterChar, strchr, if_true, Option.map_some, List.tail_cons]
        exact ih ht (fun x hx => hlt x (List.mem_cons_of_mem _ hx)) f (by simpa using hf) st'

theorem set_at_boundary (pre : List Int) (m : Nat) (v : Int) :
    (pre ++ List.replicate (m + 1) (-1 : Int)).set pre.length v = (pre ++ [v]) ++ List.replicate m (-1) := by
  rw [List.set_append]
  simp [List.replicate_succ]

theorem placeAll_spec (allowed : List Nat) : ∀ (cs : List Nat) (pre : List Int) (m : Nat) (used : List Nat),
    (cs.length ≤ m → ∃ used', placeAll allowed cs ⟨pre ++ List.replicate m (-1), pre.length, used⟩
      = some ⟨pre ++ cs.map (fun (c : Nat) => findCore allowed (c : Int)) ++ List.replicate (m - cs.length) (-1),
              pre.length + cs.length, used'⟩) ∧
    (m < cs.length → placeAll allowed cs ⟨pre ++ List.replicate m (-1), pre.length, used⟩ = none) := by
  intro cs
  induction cs with
  | nil => intro pre m used; exact ⟨fun _ => ⟨used, by simp [placeAll]⟩, fun h => by simp at h⟩
  | cons c t ih =>
    intro pre m used
    cases m with
    | zero => exact ⟨fun h => by simp at h, fun _ => by simp [placeAll, setLoc]⟩
    | succ m =>
      have hstep : placeAll allowed (c :: t) ⟨pre ++ List.replicate (m + 1) (-1), pre.length, used⟩ =
          placeAll allowed t ⟨(pre ++ [findCore allowed c]) ++ List.replicate m (-1),
            (pre ++ [findCore allowed c]).length,
            if findCore allowed c < 0 then used else insertSorted (findCore allowed c).toNat used⟩ := by
        have hlt : ¬ (pre.length ≥ (pre ++ List.replicate (m + 1) (-1 : Int)).length) := by simp
        simp only [placeAll, setLoc, hlt, if_false, set_at_boundary]
        simp only [List.length_append, List.length_singleton]
      rw [hstep]
      obtain ⟨hfit, hov⟩ := ih (pre ++ [findCore allowed c]) m
        (if findCore allowed c < 0 then used else insertSorted (findCore allowed c).toNat used)
      refine ⟨fun h => ?_, fun h => hov (by simpa using h)⟩
      obtain ⟨u', hu⟩ := hfit (by simpa using h)
      exact ⟨u', by simpa [Nat.add_assoc, Nat.add_comm 1] using hu⟩

theorem renderList_length_ge : ∀ (cs : List Nat), cs.length ≤ (renderList cs).length
  | [] => Nat.le_refl 0
  | c :: t => by
    have ih := renderList_length_ge t
    have := List.length_pos_iff.2 (render_ne_nil c)
    rw [renderList_cons, List.length_append]
    split
    · simp_all; omega
    · simp only [List.length_cons]; omega

theorem renderList_plus (cs : List Nat) (comm : Int) : plusPrefix comm (renderList cs) = false := by
  cases cs with
  | nil => rfl
  | cons c t =>
    obtain ⟨d, tl, hd, ht⟩ := render_cons c
    rw [renderList_cons, ht, List.cons_append]
    unfold plusPrefix
    split
    · rename_i heq; injection heq with h1 _; exact absurd h1 (digitChar_facts d hd).2.2.2.1
    · rfl

end ParsecVerif.VpMap
