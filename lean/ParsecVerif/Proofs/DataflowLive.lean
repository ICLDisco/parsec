import ParsecVerif.Proofs.Dataflow
/-! Progress and termination of the generic dataflow machine, and uniqueness of the values it computes. -/
namespace ParsecVerif.Dataflow
open ParsecVerif.Interleave

def weight : Status → Nat
  | .waiting => 2 | .ready => 2 | .running => 1 | .ended => 0

/-- counts the transitions to come: one per pending release, two (start, finish) per waiting or ready node, one (finish)
    per running node, two (again, start) per AGAIN answer in stock (whether or not it will be asked for) -/
def mu (s : St) : Nat := s.pending.length + (s.status.map weight).sum + 2 * s.again.sum

theorem mu_of_deltas {s s' : St} (dp wo wn da : Nat) (hp : s'.pending.length + dp = s.pending.length)
    (hs : (s'.status.map weight).sum + wo = (s.status.map weight).sum + wn) (ha : s'.again.sum + da = s.again.sum)
    (h : dp + wo + 2 * da = wn + 1) : mu s' + 1 = mu s := by
  unfold mu; omega

theorem mu_step (g : Graph) (F) (s : St) (t : Tr) (hen : enabled s t = true)
    (hw : ∀ a b, t = .release a b → s.status[b]? = some .waiting) :
    mu (step g F s t) + 1 = mu s := by
  refine step_cases (P := fun t s' => enabled s t = true →
      (∀ a b, t = .release a b → s.status[b]? = some .waiting) →
      mu s' + 1 = mu s) g F s (fun t h h' => by rw [h] at h'; cases h') ?_ ?_ ?_ ?_ t hen hw
  · exact fun i hst _ _ => mu_of_deltas 0 2 1 0 rfl (sum_map_set weight s.status i _ _ hst) rfl rfl
  · intro i hst hpos _ _
    refine mu_of_deltas 0 1 2 1 rfl (sum_map_set weight s.status i _ _ hst) ?_ rfl
    cases ha : s.again[i]? with
    | none => simp [ha] at hpos
    | some x =>
      obtain ⟨hi, hx⟩ := List.getElem?_eq_some_iff.1 ha
      have h2 := sum_set s.again i (x - 1) hi
      simp only [ha, Option.getD_some] at hpos ⊢
      omega
  · exact fun i hst _ _ _ => mu_of_deltas 0 1 0 0 rfl (sum_map_set weight s.status i _ _ hst) rfl rfl
  · intro a b _ hp _ hw
    have hl : (s.pending.erase (a, b)).length + 1 = s.pending.length := by
      rw [List.length_erase_of_mem hp]; exact Nat.sub_add_cancel (List.length_pos_of_mem hp)
    split
    · exact mu_of_deltas 1 0 0 0 hl rfl rfl rfl
    · exact mu_of_deltas 1 2 2 0 hl (sum_map_set weight s.status b _ _ (hw a b rfl)) rfl rfl

section live
variable {g : Graph} {F : Nat → List (Option Nat) → Nat} {rank : Nat → Nat}

/-- the transition found is the node's own, a release into it or, down the rank, that of an unfinished predecessor -/
theorem progress_node (hwf : WF g rank) {s : St} (h : Inv g F s) (j : Nat) (hj : j < g.n) :
    s.status[j]? ≠ some .ended → ∃ t, enabled s t = true := by
  refine hwf.induction (P := fun j => s.status[j]? ≠ some .ended → ∃ t, enabled s t = true) (fun j hj ih hne => ?_) j hj
  cases hs : s.status[j]? with
  | none => exact absurd (List.getElem?_eq_none_iff.1 hs) (by rw [h.len]; omega)
  | some st =>
    cases st with
    | ended => exact absurd hs hne
    | ready => exact ⟨.start j, enabled_iff.2 hs⟩
    | running =>
      by_cases ha : 0 < (s.again[j]?).getD 0
      · exact ⟨.again j, enabled_iff.2 ⟨hs, ha⟩⟩
      · exact ⟨.finish j, enabled_iff.2 ⟨hs, by omega⟩⟩
    | waiting =>
      obtain ⟨e, he, hej⟩ := (hasIn_iff _ _).1 ((h.wait j hj).1 hs)
      by_cases hend : s.status[e.1]? = some .ended
      · exact ⟨.release e.1 e.2, enabled_iff.2 ⟨hend, he⟩⟩
      · exact ih e (h.sub e he) hej hend

theorem progress (hwf : WF g rank) {s : St} (h : Inv g F s) (hq : ¬ quiescent s) : ∃ t, enabled s t = true := by
  cases hp : s.pending with
  | cons e es =>
    have hw := h.waiting_of_pending hwf (hp ▸ List.mem_cons_self : e ∈ s.pending)
    exact progress_node hwf h e.2 (h.lt hw) (by rw [hw]; decide)
  | nil =>
    obtain ⟨st, hst, hne⟩ : ∃ st ∈ s.status, st ≠ .ended := by simpa [quiescent, hp] using hq
    obtain ⟨j, hj, rfl⟩ := List.getElem_of_mem hst
    exact progress_node hwf h j (h.len ▸ hj) (by rw [List.getElem?_eq_getElem hj]; exact fun hh => hne (Option.some.inj hh))

theorem release_target_waiting (hwf : WF g rank) {s : St} (h : Inv g F s) (a b : Nat)
    (hen : enabled s (.release a b) = true) : s.status[b]? = some .waiting :=
  h.waiting_of_pending hwf (enabled_iff.1 hen).2

theorem step_mu_lt (hwf : WF g rank) {s : St} (h : Inv g F s) {t : Tr} (hen : enabled s t = true) :
    mu (step g F s t) < mu s :=
  Nat.lt_of_succ_le (Nat.le_of_eq (mu_step g F s t hen fun a b ht => release_target_waiting hwf h a b (ht ▸ hen)))

end live

/-- the values of completed nodes are determined by the graph and the bodies: `Inv.vals` is the recursion that `V` solves -/
theorem ended_vals_unique {G : Graph} {F} {rank : Nat → Nat} (hrk : ∀ e ∈ G.E, rank e.1 < rank e.2) {s : St}
    (h : Inv G F s) {V : List (Option Nat)}
    (hV : ∀ i, i < G.n → V[i]? = some (some (F i ((predsOf G i).map fun p => (V[p]?).getD none)))) :
    ∀ i : Nat, s.status[i]? = some Status.ended → s.val[i]? = V[i]? := by
  intro i
  induction hr : rank i using Nat.strongRecOn generalizing i with
  | _ r ih =>
    intro hend
    have hi : i < G.n := h.lt hend
    rw [h.vals i hend, hV i hi]
    congr 3
    refine List.map_congr_left fun p hp => ?_
    have hpe := (mem_predsOf G i p).1 hp
    rw [ih (rank p) (hr ▸ hrk (p, i) hpe) p rfl (preds_ended h (p, i) hpe hi (by simp only; rw [hend]; simp))]

end ParsecVerif.Dataflow
