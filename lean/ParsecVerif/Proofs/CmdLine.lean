import ParsecVerif.Model.CmdLine
/-! The well-formed command lines of `C39.parse_wellformed` and `C39.parse_bundle`, and what `step`
    and `parseLoop` do on them. -/
namespace ParsecVerif.CmdLine
open ParsecVerif.Argv

/-- an option occurrence: the token, the option it names (position `k`, descriptor `o`), its parameters -/
structure Item where
  tok : Str
  k : Nat
  o : Opt
  ps : List Str

/-- the lookup `parsec_cmd_line_parse` performs for a token that starts with a dash -/
def lookup (opts : List Opt) (tok : Str) : Option (Nat × Opt) :=
  if tok.take 2 = [dash, dash] then find opts (tok.drop 2) else find opts (tok.drop 1)

/-- `--name`, `-name` or `-c` naming a declared option, followed by exactly its number of
    parameters, none of which is the special empty token -/
def Item.ok (opts : List Opt) (it : Item) : Prop :=
  it.tok ≠ [dash, dash] ∧ it.tok.head? = some dash ∧ lookup opts it.tok = some (it.k, it.o) ∧
  it.ps.length = it.o.nparams.toNat ∧ special ∉ it.ps

def render (items : List Item) : List Str := items.flatMap (fun it => it.tok :: it.ps)

inductive Ending where
  | none                                   -- all tokens consumed
  | dashdash (t : List Str)                -- `--` then arbitrary tokens
  | token (x : Str) (t : List Str)         -- a token that does not start with a dash, then anything
  | unknown (x : Str) (t : List Str)       -- a dash token naming no declared option, then anything
  | missing (it : Item)                    -- a declared option with too few parameters, end of line

def Ending.toks : Ending → List Str
  | .none => []
  | .dashdash t => [dash, dash] :: t
  | .token x t => x :: t
  | .unknown x t => x :: t
  | .missing it => it.tok :: it.ps

def Ending.tail : Ending → List Str
  | .none => []
  | .dashdash t => t
  | .token x t => x :: t
  | .unknown x t => x :: t
  | .missing _ => []

/-- For `.unknown` the last clause asks that, behind a single dash, the first letter be no declared
    short name either: otherwise `step` takes the token as a bundle (`step_unknown`). -/
def Ending.ok (opts : List Opt) : Ending → Prop
  | .token x _ => x.head? ≠ some dash
  | .unknown x _ => x ≠ [dash, dash] ∧ x.head? = some dash ∧ lookup opts x = Option.none ∧
      (x.take 2 ≠ [dash, dash] → find opts ((x.drop 1).take 1) = Option.none)
  | .missing it => it.tok ≠ [dash, dash] ∧ it.tok.head? = some dash ∧
      lookup opts it.tok = some (it.k, it.o) ∧ it.ps.length < it.o.nparams.toNat ∧ special ∉ it.ps
  | _ => True

def Ending.err (ign : Bool) : Ending → Bool
  | .token _ _ => !ign
  | .unknown _ _ => true
  | .missing _ => true
  | _ => false

theorem takeParams_ok (ps rest : List Str) (h : special ∉ ps) :
    takeParams ps.length (ps ++ rest) = (some (ps, rest), []) := by
  induction ps with
  | nil => simp [takeParams]
  | cons a r ih =>
    rw [List.mem_cons, not_or] at h
    simp only [List.length_cons, List.cons_append, takeParams, if_neg (Ne.symm h.1), ih h.2]

theorem takeParams_short (ps : List Str) (n : Nat) (h : special ∉ ps) (hn : ps.length < n) :
    takeParams n ps = (none, []) := by
  induction ps generalizing n with
  | nil =>
    obtain ⟨m, rfl⟩ := Nat.exists_eq_add_one_of_ne_zero (Nat.ne_of_gt hn)
    rfl
  | cons a r ih =>
    obtain ⟨m, rfl⟩ := Nat.exists_eq_add_one_of_ne_zero (Nat.ne_of_gt (Nat.zero_lt_of_lt hn))
    rw [List.mem_cons, not_or] at h
    simp only [takeParams, if_neg (Ne.symm h.1), ih m h.2 (Nat.lt_of_succ_lt_succ hn)]

theorem specialAt_none (ps : List Str) (n : Nat) (h : special ∉ ps) : specialAt n ps = none := by
  induction ps generalizing n with
  | nil => cases n <;> rfl
  | cons a r ih =>
    rw [List.mem_cons, not_or] at h
    cases n with
    | zero => rfl
    | succ m => simp [specialAt, if_neg (Ne.symm h.1), ih m h.2]

section
variable {nulled : Bool} {opts : List Opt} {ign : Bool} {pre : List Str} {params : List Param}
  {tok : Str} {more : List Str} {k : Nat} {o : Opt}

theorem step_of_lookup (h1 : tok ≠ [dash, dash]) (h2 : tok.head? = some dash)
    (h3 : lookup opts tok = some (k, o)) :
    step nulled opts ign pre tok more params = handle nulled pre params k o (tok :: more) := by
  unfold step
  unfold lookup at h3
  rw [if_neg h1, if_neg (not_not_intro h2)]
  by_cases hl : tok.take 2 = [dash, dash]
  · rw [if_pos hl] at h3 ⊢
    simp only [h3]
  · rw [if_neg hl] at h3 ⊢
    simp only [h3]

theorem step_bundle {sv : List Str} {used : Nat} (h2 : tok.head? = some dash)
    (h3 : tok.take 2 ≠ [dash, dash]) (hnf : find opts (tok.drop 1) = none)
    (hs : splitShorts opts ign (tok.drop 1) more = some (sv, used))
    (hk : find opts ((sv.headD []).drop 1) = some (k, o)) :
    step nulled opts ign pre tok more params = handle nulled pre params k o (sv ++ more.drop used) := by
  have h1 : tok ≠ [dash, dash] := fun e => h3 (by rw [e]; rfl)
  unfold step
  rw [if_neg h1, if_neg (not_not_intro h2), if_neg h3]
  simp only [hnf, hs, hk]

theorem step_item {it : Item} (rest : List Str) (h : it.ok opts) :
    step nulled opts ign pre it.tok (it.ps ++ rest) params =
      .next (pre ++ [it.tok] ++ it.ps) rest (params ++ [(it.k, it.ps)]) := by
  obtain ⟨h1, h2, h3, h4, h5⟩ := h
  simp only [step_of_lookup h1 h2 h3, handle, List.tail_cons, ← h4, takeParams_ok it.ps rest h5,
    List.head?_cons, Option.toList_some]

theorem splitLetters_head {args : List Str} {c : Nat} {cs : List Nat} {used u : Nat} {sv : List Str}
    (h : splitLetters opts ign args (c :: cs) used = some (sv, u)) : ∃ sv', sv = [dash, c] :: sv' := by
  simp only [splitLetters] at h
  split at h
  · split at h
    · cases h
    · split at h
      · cases h
      · cases h; exact ⟨_, rfl⟩
  · split at h
    · cases h
    · cases h; exact ⟨_, rfl⟩

theorem step_unknown (h1 : tok ≠ [dash, dash]) (h2 : tok.head? = some dash)
    (h3 : lookup opts tok = none)
    (h4 : tok.take 2 ≠ [dash, dash] → find opts ((tok.drop 1).take 1) = none) :
    step nulled opts ign pre tok more params =
      .done (finish true pre (tok :: more) params (tok :: more)) := by
  unfold step
  unfold lookup at h3
  rw [if_neg h1, if_neg (not_not_intro h2)]
  by_cases hl : tok.take 2 = [dash, dash]
  · rw [if_pos hl] at h3 ⊢
    rw [h3]
  · rw [if_neg hl] at h3 ⊢
    rw [h3]
    have h4 := h4 hl
    cases hc : tok.drop 1 with
    | nil => rfl
    | cons c cs =>
      rw [hc] at h4
      simp only [splitShorts, reduceCtorEq, if_false]
      cases hs : splitLetters opts ign more (c :: cs) 0 with
      | none => rfl
      | some r =>
        -- whatever `split_shorts` accepts starts with `-c`, and `c` is no declared short name
        obtain ⟨sv, hsv⟩ := splitLetters_head (sv := r.1) (u := r.2) hs
        simp only [hsv, List.headD_cons, List.drop_succ_cons, List.drop_zero]
        rw [show [c] = (c :: cs).take 1 from rfl, h4]

theorem parseLoop_ending (e : Ending) (he : e.ok opts) (fuel : Nat) :
    parseLoop nulled opts ign (fuel + 1) pre e.toks params =
      { rc := if e.err ign then ERROR else SUCCESS, argv := pre ++ e.toks, params := params,
        tail := e.tail } := by
  cases e with
  | none => simp [parseLoop, finish, Ending.toks, Ending.err, Ending.tail]
  | dashdash t =>
    simp only [Ending.toks, parseLoop, step, if_true]
    rfl
  | token x t =>
    have he : x.head? ≠ some dash := he
    have h1 : x ≠ [dash, dash] := fun e => he (by rw [e]; rfl)
    simp only [Ending.toks, parseLoop, step, if_neg h1, if_pos he]
    rfl
  | unknown x t =>
    simp only [Ending.toks, parseLoop, step_unknown he.1 he.2.1 he.2.2.1 he.2.2.2]
    rfl
  | missing it =>
    obtain ⟨h1, h2, h3, h4, h5⟩ := he
    simp only [Ending.toks, parseLoop, step_of_lookup h1 h2 h3, handle, List.tail_cons,
      takeParams_short it.ps _ h5 h4, doubleFrees, specialAt_none it.ps _ h5]
    rfl

/-- The fuel bound: one iteration for each item and one for the ending. -/
theorem parseLoop_wellformed (items : List Item) (e : Ending)
    (h : ∀ it ∈ items, it.ok opts) (he : e.ok opts) :
    ∀ (fuel : Nat) (pre : List Str) (params : List Param), items.length + 1 ≤ fuel →
      parseLoop nulled opts ign fuel pre (render items ++ e.toks) params =
        { rc := if e.err ign then ERROR else SUCCESS, argv := pre ++ render items ++ e.toks,
          params := params ++ items.map (fun it => (it.k, it.ps)), tail := e.tail } := by
  induction items with
  | nil =>
    intro fuel pre params hf
    obtain ⟨f, rfl⟩ := Nat.exists_eq_add_one_of_ne_zero (Nat.ne_of_gt hf)
    simpa [render] using parseLoop_ending e he f
  | cons it r ih =>
    intro fuel pre params hf
    obtain ⟨f, rfl⟩ := Nat.exists_eq_add_one_of_ne_zero (Nat.ne_of_gt (Nat.zero_lt_of_lt hf))
    rw [List.forall_mem_cons] at h
    have : render (it :: r) ++ e.toks = it.tok :: (it.ps ++ (render r ++ e.toks)) := by
      simp [render]
    rw [this]
    simp only [parseLoop, step_item _ h.1]
    rw [ih h.2 f _ _ (Nat.le_of_succ_le_succ hf)]
    simp [render]

end

theorem fuelFor_ge (l : List Str) : l.length + 1 ≤ fuelFor l := by
  unfold fuelFor
  induction l with
  | nil => simp
  | cons a r ih => simp only [List.map_cons, List.sum_cons, List.length_cons]; omega

theorem render_length (items : List Item) : items.length ≤ (render items).length := by
  induction items with
  | nil => simp [render]
  | cons a r ih =>
    simp only [render, List.flatMap_cons, List.length_append, List.length_cons] at *
    omega

theorem findFrom_eq (k : Nat) (opts : List Opt) (name : Str) :
    findFrom k opts name =
      ((opts.zipIdx k).find? fun p => optMatches p.1 name).map fun p => (p.2, p.1) := by
  induction opts generalizing k with
  | nil => rfl
  | cons o t ih =>
    rw [findFrom, List.zipIdx_cons, List.find?_cons, ih]
    cases optMatches o name <;> rfl

theorem find_some (opts : List Opt) (name : Str) (k : Nat) (o : Opt)
    (h : find opts name = some (k, o)) : opts[k]? = some o := by
  rw [find, findFrom_eq, Option.map_eq_some_iff] at h
  obtain ⟨⟨o', k'⟩, hf, he⟩ := h
  cases he
  simpa using List.mem_zipIdx_iff_getElem?.1 (List.mem_of_find?_eq_some hf)

theorem lookup_some {opts : List Opt} {tok : Str} {k : Nat} {o : Opt}
    (h : lookup opts tok = some (k, o)) : opts[k]? = some o := by
  unfold lookup at h
  split at h <;> exact find_some _ _ _ _ h

theorem shortParams_enough (args : List Str) (n used : Nat) (h : used + n ≤ args.length) :
    shortParams args n used = ((args.drop used).take n, used + n) := by
  induction n generalizing used with
  | zero => simp [shortParams]
  | succ m ih =>
    have hlt : used < args.length := by omega
    simp only [shortParams, if_pos hlt, ih (used + 1) (by omega), List.drop_eq_getElem_cons hlt,
      List.getD_eq_getElem?_getD, List.getElem?_eq_getElem hlt, Option.getD_some, List.take_succ_cons,
      Nat.add_assoc, Nat.add_comm 1 m]

/-- `-abc` as `-a -b -c`, every letter followed by its parameters.  At an undeclared letter the rest
    is left as it is; the statements use `expand` only where `need` is `some _`, which rules that out. -/
def expand (opts : List Opt) : List Nat → List Str → List Str
  | [], more => more
  | c :: cs, more =>
    match find opts [c] with
    | some (_, o) =>
      [dash, c] :: (more.take o.nparams.toNat ++ expand opts cs (more.drop o.nparams.toNat))
    | none => more

def need (opts : List Opt) : List Nat → Option Nat
  | [] => some 0
  | c :: cs =>
    match find opts [c], need opts cs with
    | some (_, o), some n => some (o.nparams.toNat + n)
    | _, _ => none

theorem splitLetters_expand (opts : List Opt) (ign : Bool) (args : List Str) (cs : List Nat)
    (used n : Nat) (hn : need opts cs = some n) (hlen : used + n ≤ args.length) :
    ∃ sv, splitLetters opts ign args cs used = some (sv, used + n) ∧
      sv ++ args.drop (used + n) = expand opts cs (args.drop used) := by
  induction cs generalizing used n with
  | nil =>
    cases hn
    exact ⟨[], rfl, rfl⟩
  | cons c r ih =>
    simp only [need] at hn
    split at hn
    · rename_i k o m hf hr
      cases hn
      obtain ⟨sv, h1, h2⟩ := ih (used + o.nparams.toNat) m hr (by omega)
      refine ⟨[dash, c] :: (args.drop used).take o.nparams.toNat ++ sv, ?_, ?_⟩
      · simp only [splitLetters, hf, shortParams_enough args o.nparams.toNat used (by omega), h1,
          Nat.add_assoc]
      · simp only [expand, hf, List.cons_append, List.append_assoc, List.drop_drop]
        rw [← h2, Nat.add_assoc]
    · cases hn

theorem doubleFrees_nulled (n : Nat) (l : List Str) : doubleFrees true n l = false := by
  unfold doubleFrees; split <;> rfl

def Step.clean : Step → Prop
  | .done r => r.doubleFree = false
  | .next _ _ _ => True

theorem handle_clean (pre : List Str) (params : List Param) (k : Nat) (o : Opt) (rest' : List Str) :
    (handle true pre params k o rest').clean := by
  unfold handle
  split
  · trivial
  · exact doubleFrees_nulled _ _

/-- every exit of `step` is either `finish` (nothing freed) or `handle` -/
theorem step_clean (opts : List Opt) (ign : Bool) (pre : List Str) (tok : Str) (more : List Str)
    (params : List Param) : (step true opts ign pre tok more params).clean := by
  unfold step
  split
  · rfl
  split
  · rfl
  split
  · split
    · rfl
    · exact handle_clean ..
  split
  · exact handle_clean ..
  split
  · rfl
  split
  · rfl
  · exact handle_clean ..

theorem parseLoop_no_double_free (opts : List Opt) (ign : Bool) (fuel : Nat) :
    ∀ (pre rest : List Str) (params : List Param),
      (parseLoop true opts ign fuel pre rest params).doubleFree = false := by
  induction fuel with
  | zero => intro pre rest params; rfl
  | succ f ih =>
    intro pre rest params
    cases rest with
    | nil => rfl
    | cons tok more =>
      have hc := step_clean opts ign pre tok more params
      simp only [parseLoop]
      split
      · rename_i hs; rw [hs] at hc; exact hc
      · exact ih ..

/-- whatever count the handle held is overwritten by the element count -/
theorem appendTail_cons (c : Int) (v : Vec) (a : Str) (r : List Str) :
    appendTail c v (a :: r) = (((v.getD [] ++ a :: r).length : Int), some (v.getD [] ++ a :: r)) := by
  induction r generalizing c v a with
  | nil => cases v <;> rfl
  | cons b r ih => rw [appendTail, ih]; cases v <;> simp [append, appendNosize]

end ParsecVerif.CmdLine
