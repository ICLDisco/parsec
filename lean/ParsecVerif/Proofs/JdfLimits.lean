import ParsecVerif.Model.JdfLimits
/-!
Each stage of ptgpp's decision passes exactly when a predicate holds of every task class
(`Func.sane`, `Func.cleanC`, `flattenOk`, the count of locals); what ptgpp counts is at most what
the runtime structures need, and equal to it when no dependency is ternary.
-/
namespace ParsecVerif.JdfLimits

def Flow.depsOk (L : Limits) (fl : Flow) : Prop := fl.depsIn ≤ L.maxDepIn ∧ fl.depsOut ≤ L.maxDepOut

/-- `jdf_sanity_check_flows_and_deps_number` prints nothing about `f`. -/
def Func.sane (L : Limits) (f : Func) : Prop :=
  (∀ fl ∈ f.flows, fl.depsOk L) ∧ f.readFlows ≤ L.maxParam ∧ f.writeFlows ≤ L.maxParam

/-- nothing in the C emitted for `f` stops the C compiler. -/
def Func.cleanC (L : Limits) (f : Func) : Prop :=
  f.flows.length ≤ L.maxParam ∧ f.flows.length ≤ L.maxLocal ∧ (∀ fl ∈ f.flows, fl.depsOk L) ∧
  f.readFlows ≤ L.maxParam ∧ f.writeFlows ≤ L.maxParam ∧ (f.nbMaxLocalDef = 0 → f.ldUsed = 0)

theorem ite_singleton_nil {α : Type} (c : Prop) [Decidable c] (x : α) :
    (if c then [x] else []) = [] ↔ ¬ c := by
  split <;> simp [*]

theorem indexed_nil {α β : Type} (go : Nat → List α → List β) (f : Nat → α → List β) (P : α → Prop)
    (hnil : ∀ k, go k [] = []) (hcons : ∀ k x r, go k (x :: r) = f k x ++ go (k + 1) r)
    (hf : ∀ k x, f k x = [] ↔ P x) (l : List α) (k : Nat) : go k l = [] ↔ ∀ x ∈ l, P x := by
  induction l generalizing k with
  | nil => simp [hnil]
  | cons x r ih => simp only [hcons, List.append_eq_nil_iff, hf, ih, List.mem_cons, forall_eq_or_imp]

theorem flowDiags_nil (L : Limits) (fi k : Nat) (fl : Flow) :
    flowDiags L fi k fl = [] ↔ fl.depsOk L := by
  simp only [flowDiags, Flow.depsOk, List.append_eq_nil_iff, ite_singleton_nil, Nat.not_lt]

theorem funcDiags_nil (L : Limits) (fi : Nat) (f : Func) : funcDiags L fi f = [] ↔ f.sane L := by
  simp only [funcDiags, Func.sane, List.append_eq_nil_iff, ite_singleton_nil, Nat.not_lt, and_assoc,
    indexed_nil (flowsDiags L fi) (flowDiags L fi) _ (fun _ => rfl) (fun _ _ _ => rfl) (flowDiags_nil L fi)]

theorem progDiags_nil (L : Limits) (fs : List Func) (k : Nat) :
    progDiags L k fs = [] ↔ ∀ f ∈ fs, f.sane L :=
  indexed_nil (progDiags L) (funcDiags L) _ (fun _ => rfl) (fun _ _ _ => rfl) (funcDiags_nil L) fs k

theorem flowErrs_nil (L : Limits) (fi k : Nat) (fl : Flow) :
    flowErrs L fi k fl = [] ↔ fl.depsOk L := by
  simp only [flowErrs, Flow.depsOk, List.append_eq_nil_iff, ite_singleton_nil, Nat.not_lt]

theorem funcErrs_nil (L : Limits) (fi : Nat) (f : Func) : funcErrs L fi f = [] ↔ f.cleanC L := by
  simp only [funcErrs, Func.cleanC, List.append_eq_nil_iff, ite_singleton_nil, Nat.not_lt, and_assoc, not_and,
    Nat.le_zero_eq,
    indexed_nil (flowsErrs L fi) (flowErrs L fi) _ (fun _ => rfl) (fun _ _ _ => rfl) (flowErrs_nil L fi)]

theorem progErrs_nil (L : Limits) (fs : List Func) (k : Nat) :
    progErrs L k fs = [] ↔ ∀ f ∈ fs, f.cleanC L :=
  indexed_nil (progErrs L) (funcErrs L) _ (fun _ => rfl) (fun _ _ _ => rfl) (funcErrs_nil L) fs k

theorem parseReject_none (fs : List Func) (k : Nat) :
    parseReject k fs = none ↔ ∀ f ∈ fs, f.flattenOk = true := by
  induction fs generalizing k with
  | nil => simp [parseReject]
  | cons f rest ih =>
    rw [parseReject, List.forall_mem_cons, ← ih (k + 1)]
    cases f.flattenOk <;> simp

theorem genRejectGo_none (L : Limits) (fs : List Func) (k : Nat) :
    genRejectGo L k fs = none ↔ ∀ f ∈ fs, f.nbLocals ≤ L.maxLocal := by
  induction fs generalizing k with
  | nil => simp [genRejectGo]
  | cons f rest ih =>
    rw [genRejectGo, List.forall_mem_cons, ← ih (k + 1)]
    cases genRejectGo L (k + 1) rest <;> simp

theorem flattenGo_final (fls : List Flow) (i o : Nat) (h0 : maskReject i o = false) (h : flattenGo i o fls = true) :
    maskReject (i + (fls.map Flow.depsIn).sum) (o + (fls.map Flow.depsOut).sum) = false := by
  induction fls generalizing i o with
  | nil => exact h0
  | cons fl rest ih =>
    rw [flattenGo] at h
    split at h
    · cases h
    · rename_i hm
      rw [List.map_cons, List.map_cons, List.sum_cons, List.sum_cons, ← Nat.add_assoc, ← Nat.add_assoc]
      exact ih _ _ (Bool.not_eq_true _ ▸ hm) h

theorem maskReject_of_window (i o : Nat) (hi : i < 32) (ho : o < 32) (h : 29 ≤ i ∨ 24 ≤ o) :
    maskReject i o = true := by
  unfold maskReject
  rw [Nat.mod_eq_of_lt hi, Nat.mod_eq_of_lt ho]
  rcases h with h | h <;> simp [h]

theorem Func.flattenOk_false_of_window (f : Func) (hs : f.totalIn < 32 ∧ f.totalOut < 32)
    (h : 29 ≤ f.totalIn ∨ 24 ≤ f.totalOut) : f.flattenOk = false := by
  cases hf : f.flattenOk with
  | false => rfl
  | true =>
    have := flattenGo_final f.flows 0 0 rfl hf
    rw [Nat.zero_add, Nat.zero_add] at this
    exact (maskReject_of_window _ _ hs.1 hs.2 h).symm.trans this

theorem Dep.ldForDeps_le (base : Nat) (d : Dep) : d.ldForDeps base ≤ base + d.ldNeed := by
  unfold Dep.ldForDeps Dep.ldNeed; omega

theorem Dep.ldForCalls_le (base : Nat) (d : Dep) : d.ldForCalls base ≤ base + d.ldNeed := by
  unfold Dep.ldForCalls Dep.ldForDeps Dep.ldNeed
  cases d.guard <;> simp <;> omega

theorem foldl_max_ge (l : List Nat) (a : Nat) : a ≤ l.foldl max a := by
  induction l generalizing a with
  | nil => simp
  | cons x xs ih => simp only [List.foldl_cons]; exact Nat.le_trans (Nat.le_max_left a x) (ih _)

theorem foldl_max_mono (l : List Nat) (a b : Nat) (h : a ≤ b) : l.foldl max a ≤ l.foldl max b :=
  List.foldl_rel (r := (· ≤ ·)) h fun x _ c c' hc => by omega

theorem Func.nbMaxLocalDef_le (f : Func) : f.nbMaxLocalDef ≤ f.ldNeed := by
  unfold Func.nbMaxLocalDef Func.ldNeed
  rw [List.foldl_map]
  exact List.foldl_rel (r := fun c x => c ≤ f.ldLocals + x) (Nat.le_refl _) fun d _ c x h => by
    have h1 := d.ldForDeps_le f.ldLocals
    have h2 := d.ldForCalls_le f.ldLocals
    unfold ldefStep
    omega

def Dep.noTernary (d : Dep) : Prop := d.guard ≠ Guard.ternary

theorem Dep.ldForCalls_eq (base : Nat) (d : Dep) (h : d.noTernary) :
    d.ldForCalls base = base + d.ldNeed := by
  unfold Dep.ldForCalls Dep.ldForDeps Dep.ldNeed
  unfold Dep.noTernary at h
  cases hg : d.guard <;> simp_all <;> omega

theorem Func.nbMaxLocalDef_eq (f : Func) (h : ∀ d ∈ f.flows.flatMap (·.deps), d.noTernary) :
    f.nbMaxLocalDef = f.ldNeed := by
  unfold Func.nbMaxLocalDef Func.ldNeed
  rw [List.foldl_map]
  exact List.foldl_rel (r := fun c x => c = f.ldLocals + x) rfl fun d hd c x e => by
    have h1 := d.ldForDeps_le f.ldLocals
    have h2 := d.ldForCalls_eq f.ldLocals (h d hd)
    unfold ldefStep
    omega

theorem length_le_sum_entries (ds : List Dep) : ds.length ≤ (ds.map Dep.entries).sum := by
  induction ds with
  | nil => simp
  | cons d rest ih =>
    simp only [List.length_cons, List.map_cons, List.sum_cons]
    have : 1 ≤ d.entries := by unfold Dep.entries; cases d.guard <;> simp
    omega

theorem length_eq_sum_entries (ds : List Dep) (h : ∀ d ∈ ds, d.noTernary) :
    ds.length = (ds.map Dep.entries).sum := by
  induction ds with
  | nil => simp
  | cons d rest ih =>
    simp only [List.length_cons, List.map_cons, List.sum_cons]
    have h1 : d.entries = 1 := by
      have := h d (List.mem_cons_self)
      unfold Dep.noTernary at this
      unfold Dep.entries; cases hg : d.guard <;> simp_all
    have := ih (fun x hx => h x (List.mem_cons_of_mem _ hx))
    omega

/-- The limits `jdf_sanity_check_flows_and_deps_number` and `jdf_generate_task_typedef` test
    (everything but the total number of flows). -/
def Func.exceedsChecked (L : Limits) (f : Func) : Prop :=
  L.maxLocal < f.nbLocals ∨ L.maxParam < f.readFlows ∨ L.maxParam < f.writeFlows ∨
  ∃ fl ∈ f.flows, L.maxDepIn < fl.depsIn ∨ L.maxDepOut < fl.depsOut

def Prog.noTernary (p : Prog) : Prop := ∀ f ∈ p.funcs, ∀ fl ∈ f.flows, ∀ d ∈ fl.deps, d.noTernary

theorem Func.exceedsCounted_not_clean (L : Limits) (f : Func) (h : f.exceedsCounted L) :
    ¬ (f.nbLocals ≤ L.maxLocal ∧ f.cleanC L) := by
  intro ⟨h1, a, _, b, c, d, _⟩
  rcases h with h | h | h | h | ⟨fl, hfl, h⟩
  iterate 4 omega
  have ⟨_, _⟩ := b fl hfl
  omega

variable {L : Limits} {f : Func}

theorem Func.counted_le_runtime (h : f.exceedsCounted L) : f.exceedsRuntime L := by
  rcases h with hx | hx | hx | hx | ⟨fl, hfl, hx⟩
  · exact .inl (Nat.lt_of_lt_of_le hx (Nat.add_le_add_left f.nbMaxLocalDef_le _))
  · exact .inr (.inl hx)
  · exact .inr (.inl (Nat.lt_of_lt_of_le hx (List.length_filter_le _ _)))
  · exact .inr (.inl (Nat.lt_of_lt_of_le hx (List.length_filter_le _ _)))
  · exact .inr (.inr (.inr (.inr ⟨fl, hfl, hx.imp (Nat.lt_of_lt_of_le · (length_le_sum_entries _))
      (Nat.lt_of_lt_of_le · (length_le_sum_entries _))⟩)))

/-- The two index limits stand apart: ptgpp tests them in `jdf_flatten_function`, not with the
    counted ones. -/
theorem Func.runtime_le_counted (hnt : ∀ fl ∈ f.flows, ∀ d ∈ fl.deps, d.noTernary) (h : f.exceedsRuntime L) :
    f.exceedsCounted L ∨ 29 ≤ f.totalIn ∨ 24 ≤ f.totalOut := by
  rcases h with hx | hx | hx | hx | ⟨fl, hfl, hx⟩
  · have := f.nbMaxLocalDef_eq fun d hd =>
      have ⟨fl, hfl, hd'⟩ := List.mem_flatMap.1 hd
      hnt fl hfl d hd'
    exact .inl (.inl (by unfold Func.nbLocals; omega))
  · exact .inl (.inr (.inl hx))
  · exact .inr (.inr hx)
  · exact .inr (.inl hx)
  · have e (b : Dep → Bool) := length_eq_sum_entries (fl.deps.filter b) fun d hd =>
      hnt fl hfl d (List.mem_filter.mp hd).1
    have hin : fl.depsIn = fl.entriesIn := e _
    have hout : fl.depsOut = fl.entriesOut := e _
    exact .inl (.inr (.inr (.inr (.inr ⟨fl, hfl, by omega⟩))))

end ParsecVerif.JdfLimits
