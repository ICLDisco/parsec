import ParsecVerif.Proofs.RemoteDep
/-! C13: the forwarded mask at the entry of output `i` does not depend on who runs the loop, so all participants
    compute the same numbering (`layers`), and the sends of one `parsec_remote_dep_activate` are exactly the pairs of
    `edges` that leave that participant (`Cfg.mem_sends_iff`).  Under a tree predicate `edges` is a tree rooted at
    the root: one sender per remote consumer, induction along the edges. -/
namespace ParsecVerif.RemoteDep

theorem mem_layer {fw cs : List Nat} {x : Nat} : x ∈ layer fw cs ↔ x ∈ cs ∧ x ∉ fw := by
  unfold layer; simp

theorem layer_nodup (fw : List Nat) {cs : List Nat} (h : cs.Nodup) : (layer fw cs).Nodup :=
  List.Nodup.sublist List.filter_sublist h

theorem layersFrom_spec (n root : Nat) (hr : root < n) (Ss : List (List Nat))
    (hS : ∀ S ∈ Ss, ∀ r ∈ S, r < n) (fw : List Nat) :
    (layersFrom n root fw Ss).flatten.Nodup ∧
    ∀ x, x ∈ (layersFrom n root fw Ss).flatten ↔ (x ∉ fw ∧ ∃ S ∈ Ss, x ∈ S) := by
  induction Ss generalizing fw with
  | nil => simp [layersFrom]
  | cons S Ss ih =>
    have ih' := ih (fun S' hS' => hS S' (List.mem_cons_of_mem _ hS')) ((layer fw (cands n root S)).reverse ++ fw)
    have hc := mem_cands n root S hr (hS S List.mem_cons_self)
    unfold layersFrom
    rw [List.flatten_cons]
    constructor
    · rw [List.nodup_append]
      refine ⟨layer_nodup fw (cands_nodup n root S hr), ih'.1, ?_⟩
      intro a ha b hb hab
      subst hab
      exact ((ih'.2 a).1 hb).1 (List.mem_append_left _ (List.mem_reverse.2 ha))
    · intro x
      rw [List.mem_append, ih'.2 x, mem_layer, hc x]
      simp only [List.mem_append, List.mem_reverse, mem_layer, hc x, List.mem_cons, exists_eq_or_imp]
      by_cases hx : x ∈ S <;> by_cases hf : x ∈ fw <;> simp [hx, hf]

theorem flatMap_sublist_flatten {α : Type} (f : List α → List α) (hf : ∀ L, (f L).Sublist L) :
    ∀ Ls : List (List α), (Ls.flatMap f).Sublist Ls.flatten
  | [] => by simp
  | A :: Ls => by
    rw [List.flatMap_cons, List.flatten_cons]
    exact (hf A).append (flatMap_sublist_flatten f hf Ls)

/-- every rank that is numbered by some output: the remote consumers -/
def Cfg.members (c : Cfg) : List Nat := c.layers.flatten

theorem Cfg.WF.root_lt {c : Cfg} (h : c.WF) : c.root < c.n := h.1
theorem Cfg.WF.n_le {c : Cfg} (h : c.WF) : c.n ≤ 2 ^ 31 := h.2.1
theorem Cfg.WF.keys {c : Cfg} (h : c.WF) : (c.outs.map Prod.fst).Pairwise (· < ·) := h.2.2.1
theorem Cfg.WF.ranks {c : Cfg} (h : c.WF) : ∀ S ∈ c.outs.map Prod.snd, ∀ r ∈ S, r < c.n := by
  intro S hS r hr
  obtain ⟨o, ho, rfl⟩ := List.mem_map.1 hS
  exact h.2.2.2 o ho r hr

theorem Cfg.members_nodup {c : Cfg} (h : c.WF) : c.members.Nodup :=
  (layersFrom_spec c.n c.root h.root_lt _ h.ranks [c.root]).1

theorem Cfg.mem_members {c : Cfg} (h : c.WF) (x : Nat) :
    x ∈ c.members ↔ (x ≠ c.root ∧ ∃ o ∈ c.outs, x ∈ o.2) := by
  unfold Cfg.members Cfg.layers
  rw [(layersFrom_spec c.n c.root h.root_lt _ h.ranks [c.root]).2 x]
  simp only [List.mem_singleton, List.mem_map, ne_eq]
  constructor
  · rintro ⟨h1, S, ⟨o, ho, rfl⟩, h3⟩; exact ⟨h1, o, ho, h3⟩
  · rintro ⟨h1, o, ho, h3⟩; exact ⟨h1, o.2, ⟨o, ho, rfl⟩, h3⟩

theorem Cfg.root_not_member {c : Cfg} (h : c.WF) : c.root ∉ c.members :=
  fun hm => ((c.mem_members h c.root).1 hm).1 rfl

theorem Cfg.member_lt {c : Cfg} (h : c.WF) {x : Nat} (hx : x ∈ c.members) : x < c.n := by
  obtain ⟨_, o, ho, hxo⟩ := (c.mem_members h x).1 hx
  exact h.2.2.2 o ho x hxo

theorem Cfg.layer_facts {c : Cfg} (h : c.WF) {L : List Nat} (hL : L ∈ c.layers) :
    L.Nodup ∧ c.root ∉ L ∧ L.length ≤ c.n := by
  have hsub : ∀ x ∈ L, x ∈ c.members := fun x hx => List.mem_flatten.2 ⟨L, hL, hx⟩
  have hnd := (List.sublist_flatten_of_mem hL).nodup (c.members_nodup h)
  exact ⟨hnd, fun hr => c.root_not_member h (hsub _ hr),
    UserTrigger.length_le_of_nodup_lt _ _ hnd fun x hx => c.member_lt h (hsub x hx)⟩

/-- The definition numbers the senders by `(root, 0) :: L.zipIdx 1`, which is `(root :: L).zipIdx 0`. -/
theorem mem_layerEdges (child : Nat → Nat → Bool) (root : Nat) (L : List Nat) (p x : Nat) :
    (p, x) ∈ layerEdges child root L ↔
      ∃ h m, (x, h) ∈ L.zipIdx 1 ∧ (p, m) ∈ (root :: L).zipIdx 0 ∧ m < h ∧ child m h = true := by
  unfold layerEdges
  simp only [List.zipIdx_cons, List.mem_flatMap, List.mem_map, List.mem_filter, Bool.and_eq_true,
    decide_eq_true_eq, Prod.mk.injEq, Prod.exists]
  constructor
  · rintro ⟨x', h, h1, p', m, ⟨h2, h3, h4⟩, rfl, rfl⟩
    exact ⟨h, m, h1, h2, h3, h4⟩
  · rintro ⟨h, m, h1, h2, h3, h4⟩
    exact ⟨x, h, h1, p, m, ⟨h2, h3, h4⟩, rfl, rfl⟩

theorem mem_sendsL_iff (child : Nat → Nat → Bool) (root p : Nat) (L : List Nat) (hnd : L.Nodup)
    (hroot : root ∉ L) (x : Nat) :
    x ∈ sendsL child root p L ↔ (p, x) ∈ layerEdges child root L := by
  rw [mem_layerEdges, sendsL, mem_sendsOf]
  refine exists_congr fun h => ⟨fun ⟨h1, h2, h3⟩ => ?_, fun ⟨m, h1, hm, h2, h3⟩ => ?_⟩
  · -- a number below that of a receiver is the number of a rank
    have hlt : (root :: L).idxOf p < (root :: L).length := by
      have := List.snd_lt_add_of_mem_zipIdx h1; simp only [List.length_cons]; omega
    exact ⟨_, h1, List.mk_mem_zipIdx_iff_getElem?.2 (by rw [List.getElem?_eq_getElem hlt, List.getElem_idxOf]), h2, h3⟩
  · -- a rank is listed once, so its number is where `idxOf` finds it
    obtain ⟨hlt, rfl⟩ := List.getElem?_eq_some_iff.1 (List.mk_mem_zipIdx_iff_getElem?.1 hm)
    rw [(List.nodup_cons.2 ⟨hroot, hnd⟩).idxOf_getElem]
    exact ⟨h1, h2, h3⟩

theorem Cfg.sends_eq {c : Cfg} (h : c.WF) (p : Nat) :
    c.sends p = c.layers.flatMap (sendsL c.child c.root p) :=
  activateFrom_eq c.child c.n c.root p h.root_lt _ _

theorem Cfg.mem_sends_iff {c : Cfg} (h : c.WF) (p x : Nat) : x ∈ c.sends p ↔ (p, x) ∈ c.edges := by
  rw [c.sends_eq h, Cfg.edges, List.mem_flatMap, List.mem_flatMap]
  refine exists_congr fun L => and_congr_right fun hL => ?_
  exact mem_sendsL_iff c.child c.root p L (c.layer_facts h hL).1 (c.layer_facts h hL).2.1 x

theorem Cfg.sends_nodup {c : Cfg} (h : c.WF) (p : Nat) : (c.sends p).Nodup := by
  rw [c.sends_eq h]
  exact (flatMap_sublist_flatten _ (fun L => sendsOf_sublist c.child _ 1 L) _).nodup (c.members_nodup h)

theorem Cfg.mem_edges {c : Cfg} (p x : Nat) :
    (p, x) ∈ c.edges ↔ ∃ L ∈ c.layers, ∃ h m, (x, h) ∈ L.zipIdx 1 ∧
      (p, m) ∈ (c.root :: L).zipIdx 0 ∧ m < h ∧ c.child m h = true := by
  simp only [Cfg.edges, List.mem_flatMap, mem_layerEdges]

theorem Cfg.edge_dst {c : Cfg} {p x : Nat} (he : (p, x) ∈ c.edges) : x ∈ c.members := by
  obtain ⟨L, hL, h, m, h1, _⟩ := c.mem_edges p x |>.1 he
  exact List.mem_flatten.2 ⟨L, hL, List.fst_mem_of_mem_zipIdx h1⟩

theorem Cfg.edge_src {c : Cfg} {p x : Nat} (he : (p, x) ∈ c.edges) : p = c.root ∨ p ∈ c.members := by
  obtain ⟨L, hL, h, m, _, h2, _⟩ := c.mem_edges p x |>.1 he
  exact (List.mem_cons.1 (List.fst_mem_of_mem_zipIdx h2)).imp_right fun hp => List.mem_flatten.2 ⟨L, hL, hp⟩

/-- `TreeChild` carried over from numbers to ranks. -/
theorem Cfg.parent_of_mem {c : Cfg} (h : c.WF) (ht : TreeChild c.child (2 ^ 32)) {L : List Nat}
    (hL : L ∈ c.layers) {x hh : Nat} (hx : (x, hh) ∈ L.zipIdx 1) :
    ∃ p q, q < hh ∧ (p, q) ∈ (c.root :: L).zipIdx 0 ∧ ∀ p', (p', x) ∈ c.edges ↔ p' = p := by
  have hf := c.layer_facts h hL
  have hlt := List.snd_lt_add_of_mem_zipIdx hx
  have hge := List.le_snd_of_mem_zipIdx hx
  simp only at hlt hge
  have hn := h.n_le
  -- the number of `x` has one parent number, which names one rank; `n ≤ 2 ^ 31` of `WF` serves only here, to put
  -- the numbers of a layer below the `2 ^ 32` up to which the 32-bit scan of `binomialChild` is a tree
  obtain ⟨q, hq1, hq⟩ := ht hh hge (by have := hf.2.2; omega)
  have hql : q < (c.root :: L).length := by simp only [List.length_cons]; omega
  have hm : ((c.root :: L)[q], q) ∈ (c.root :: L).zipIdx 0 :=
    List.mk_mem_zipIdx_iff_le_and_getElem?_sub.2 ⟨Nat.zero_le _, List.getElem?_eq_getElem hql⟩
  refine ⟨_, q, hq1, hm, fun p' => ⟨fun he => ?_, fun e => e ▸ (c.mem_edges _ _).2 ⟨L, hL, hh, q, hx, hm, (hq q).2 rfl⟩⟩⟩
  obtain ⟨L', hL', hh', m', hx', hm', hc'⟩ := (c.mem_edges p' x).1 he
  -- distinct layers are disjoint
  cases eq_of_pairwise (fun _ _ hd x hx y hy e => hd y hy x hx e.symm)
    (List.pairwise_flatten.1 (c.members_nodup h)).2 hL hL' fun hd =>
      hd x (List.fst_mem_of_mem_zipIdx hx) x (List.fst_mem_of_mem_zipIdx hx') rfl
  cases zipIdx_fst_inj hf.1 hx hx'
  cases (hq m').1 hc'
  exact zipIdx_snd_inj hm' hm

theorem Cfg.edge_iff {c : Cfg} (h : c.WF) (ht : TreeChild c.child (2 ^ 32)) {p q x : Nat} (he : (p, x) ∈ c.edges) :
    (q, x) ∈ c.edges ↔ p = q := by
  obtain ⟨L, hL, hh, _, hx, _⟩ := (c.mem_edges p x).1 he
  obtain ⟨_, _, _, _, hq⟩ := c.parent_of_mem h ht hL hx
  rw [hq, (hq p).1 he]
  exact eq_comm

theorem Cfg.exists_edge {c : Cfg} (h : c.WF) (ht : TreeChild c.child (2 ^ 32)) {x : Nat} (hx : x ∈ c.members) :
    ∃ p, (p, x) ∈ c.edges := by
  obtain ⟨L, hL, hxL⟩ := List.mem_flatten.1 hx
  obtain ⟨i, hi⟩ := List.mem_iff_getElem?.1 hxL
  obtain ⟨p, _, _, _, hp⟩ := c.parent_of_mem h ht hL (List.mk_add_mem_zipIdx_iff_getElem?.2 hi)
  exact ⟨p, (hp p).2 rfl⟩

theorem Cfg.edge_induction {c : Cfg} (h : c.WF) (ht : TreeChild c.child (2 ^ 32)) {P : Nat → Prop}
    (hstep : ∀ p x, (p, x) ∈ c.edges → p = c.root ∨ P p → P x) : ∀ x ∈ c.members, P x := by
  intro x hx
  obtain ⟨L, hL, hxL⟩ := List.mem_flatten.1 hx
  -- along the numbering of the layer of `x`, the root being number 0
  have key : ∀ hh y, (y, hh) ∈ (c.root :: L).zipIdx 0 → y = c.root ∨ P y := by
    intro hh
    induction hh using Nat.strongRecOn with
    | _ hh ih =>
      intro y hz
      rw [List.zipIdx_cons] at hz
      rcases List.mem_cons.1 hz with e | hz
      · cases e; exact .inl rfl
      · obtain ⟨p, q, hlt, hz', hp⟩ := c.parent_of_mem h ht hL hz
        exact .inr (hstep p y ((hp p).2 rfl) (ih q hlt p hz'))
  obtain ⟨i, hi⟩ := List.mem_iff_getElem?.1 (List.mem_cons_of_mem c.root hxL)
  exact (key _ x (List.mk_add_mem_zipIdx_iff_getElem?.2 hi)).resolve_left fun e => c.root_not_member h (e ▸ hx)

end ParsecVerif.RemoteDep
