import ParsecVerif.Proofs.RwLock
/-!
  Progress of the ticket read-write lock: a stuttering-free step always exists while some thread has
  not finished (no deadlock), every state-changing step decreases a natural-number measure, hence
  every fair schedule runs all threads to completion.
-/
namespace ParsecVerif.RwLock
open ParsecVerif.Interleave

def canMove (s : State) : Pc → Bool
  | .done => false
  | .rSpin w => w ≠ s.rin % 4
  | .wSpin1 t => s.wout = t
  | .wSpin2 _ rt => s.rout = rt
  | _ => true

theorem canMove_eq (s : State) (pc : Pc) : canMove s pc = (pc ≠ .done && !blocked s pc) := by
  cases pc <;> simp [canMove, blocked]

def cost : Kind → Nat
  | .rd => 8
  | .wr => 13

/-- The program points of a lock cycle, numbered downwards to `idle = 1` (and `done = 0`).  `cost k` is one more than
    the rank of the first point of a cycle of kind `k` (`rAdd`, `wTick`), so that the step from `idle` into the next
    cycle lowers `muT` as well. -/
def rank : Pc → Nat
  | .done => 0 | .idle => 1
  | .rAdd => 7 | .rSpin _ => 6 | .rFence => 5 | .rIn => 4 | .rWmb => 3 | .rOut => 2
  | .wTick => 12 | .wSpin1 _ => 11 | .wAdd _ => 10 | .wSpin2 _ _ => 9 | .wFence _ => 8 | .wIn _ => 7
  | .wWmb _ => 6 | .wAnd _ => 5 | .wLoad _ => 4 | .wStore _ _ => 3

def muT (th : Thread) : Nat := rank th.pc + (th.prog.map cost).sum
def mu (s : State) : Nat := (s.th.map muT).sum

theorem step_of (M : Nat) (s : State) (i : Nat) (th : Thread) (h : s.th[i]? = some th) :
    if canMove s th.pc then ∃ y, (step M s i).th = s.th.set i y ∧ muT y < muT th else step M s i = s := by
  unfold step
  rw [h]
  obtain ⟨pc, prog⟩ := th
  cases pc <;> simp only [canMove, stepT, setT, reduceIte, Bool.false_eq_true]
  case idle =>
    rcases prog with _ | ⟨_ | _, p⟩ <;> exact ⟨_, rfl, by simp [muT, rank, cost] <;> omega⟩
  case rAdd => exact ⟨_, rfl, by split <;> simp [muT, rank]⟩
  case rSpin w =>
    by_cases hw : w = s.rin % 4 <;>
      simp only [hw, ne_eq, not_false_eq_true, not_true_eq_false, decide_true, decide_false, reduceIte, Bool.false_eq_true]
    exact ⟨_, rfl, by simp [muT, rank]⟩
  case wSpin1 t =>
    by_cases hw : s.wout = t <;> simp only [hw, decide_true, decide_false, reduceIte, Bool.false_eq_true]
    exact ⟨_, rfl, by simp [muT, rank]⟩
  case wSpin2 t rt =>
    by_cases hw : s.rout = rt <;> simp only [hw, decide_true, decide_false, reduceIte, Bool.false_eq_true]
    exact ⟨_, rfl, by simp [muT, rank]⟩
  all_goals exact ⟨_, rfl, by simp [muT, rank]⟩

theorem step_cases (M : Nat) (s : State) (i : Nat) :
    step M s i = s ∨ ∃ th y, s.th[i]? = some th ∧ canMove s th.pc = true ∧
      (step M s i).th = s.th.set i y ∧ muT y < muT th := by
  cases h : s.th[i]? with
  | none => exact .inl (by unfold step; rw [h])
  | some th =>
    have := step_of M s i th h
    split at this
    · next hc =>
      obtain ⟨y, hy⟩ := this
      exact .inr ⟨th, y, rfl, hc, hy⟩
    · exact .inl this

theorem mu_step_lt (M : Nat) (s : State) (i : Nat) (th : Thread) (h : s.th[i]? = some th)
    (hc : canMove s th.pc = true) : mu (step M s i) < mu s := by
  obtain ⟨y, hy, hlt⟩ := (if_pos hc) ▸ step_of M s i th h
  have := sum_map_set muT s.th i th y h
  unfold mu
  rw [hy]
  omega

theorem mu_step_cases (M : Nat) (s : State) (i : Nat) : step M s i = s ∨ mu (step M s i) < mu s :=
  (step_cases M s i).imp_right fun ⟨th, _, h, hc, _⟩ => mu_step_lt M s i th h hc

theorem mu_run_cases (M : Nat) (s : State) (l : List Nat) : run M s l = s ∨ mu (run M s l) < mu s :=
  foldl_inv (P := fun s' => s' = s ∨ mu s' < mu s) (fun s' t h => (mu_step_cases M s' t).elim (fun e => e.symm ▸ h)
    fun hlt => .inr (h.elim (fun e => e ▸ hlt) (Nat.lt_trans hlt))) l (.inl rfl)

theorem mu_run_le (M : Nat) (s : State) (l : List Nat) : mu (run M s l) ≤ mu s :=
  (mu_run_cases M s l).elim (fun e => Nat.le_of_eq (congrArg mu e)) Nat.le_of_lt

theorem length_step (M : Nat) (s : State) (i : Nat) : (step M s i).th.length = s.th.length := by
  rcases step_cases M s i with e | ⟨_, _, _, _, hy, _⟩
  · rw [e]
  · rw [hy, List.length_set]

theorem length_run (M : Nat) (s : State) (l : List Nat) : (run M s l).th.length = s.th.length :=
  foldl_inv (P := fun s' => s'.th.length = s.th.length) (fun s' t h => (length_step M s' t).trans h) l rfl

/-- what `exists_canMove` needs to know of a thread found in group `g`: it can move, or which spin loop it is in -/
def doing (s : State) (pc : Pc) : Grp → Prop
  | .rent | .wAdd | .hold | .rel => canMove s pc = true
  | .out => pc ≠ .done → canMove s pc = true
  | .rs2 => pc = .rSpin 2
  | .rs3 => pc = .rSpin 3
  | .wS1 => ∃ t, pc = .wSpin1 t
  | .wS2 => ∃ t rt, pc = .wSpin2 t rt
  | .rsX => True

theorem doing_grp (s : State) (pc : Pc) : doing s pc (grp (cls pc)) := by
  cases pc
  case rSpin w => rcases cls_rSpin w with ⟨rfl, e⟩ | ⟨rfl, e⟩ | e <;> rw [e] <;> first | rfl | trivial
  case done => exact fun h => absurd rfl h
  case wSpin1 t => exact ⟨t, rfl⟩
  case wSpin2 t rt => exact ⟨t, rt, rfl⟩
  all_goals first | rfl | exact fun _ => rfl

theorem exists_canMove (s : State) (h : Inv s) (th0 : Thread) (i0 : Nat) (h0 : s.th[i0]? = some th0)
    (hnd : th0.pc ≠ .done) : ∃ (i : Nat) (th : Thread), s.th[i]? = some th ∧ canMove s th.pc = true := by
  have pick : ∀ g, 1 ≤ gn s g → ∃ (i : Nat) (th : Thread), s.th[i]? = some th ∧ doing s th.pc g := by
    intro g hp
    obtain ⟨i, th, hi, hg⟩ := exists_of_gn_pos s g hp
    exact ⟨i, th, hi, hg ▸ doing_grp s th.pc⟩
  have spin : ∀ g w, (∀ pc, doing s pc g → pc = .rSpin w) → 1 ≤ gn s g → w ≠ s.rin % 4 →
      ∃ (i : Nat) (th : Thread), s.th[i]? = some th ∧ canMove s th.pc = true := by
    intro g w hg hp hw
    obtain ⟨j, thj, hj, hd⟩ := pick g hp
    exact ⟨j, thj, hj, by rw [hg _ hd]; simpa [canMove] using hw⟩
  by_cases c1 : 1 ≤ gn s .rent
  · exact pick _ c1
  by_cases c2 : 1 ≤ gn s .wAdd
  · exact pick _ c2
  by_cases c3 : 1 ≤ gn s .hold
  · exact pick _ c3
  by_cases c4 : 1 ≤ gn s .rel
  · exact pick _ c4
  obtain ⟨A, L, D, hc⟩ := h.core
  have hb := hc.bits
  rw [← hc.low.1] at hb
  obtain ⟨-, -, x1, x2, -⟩ := hc
  by_cases cW2 : 1 ≤ gn s .wS2
  · obtain ⟨i, th, hi, t, rt, hpc⟩ := pick _ cW2
    have hme := PT_eq s ▸ h.pt i th hi
    rw [hpc] at hme
    simp only [PTg, PTv] at hme
    by_cases hr : s.rout = rt
    · exact ⟨i, th, hi, by rw [hpc]; simp [canMove, hr]⟩
    · -- some reader of the previous phase is still in its spin loop, and `rin` shows other bits than those it waits on
      rcases Nat.mod_two_eq_zero_or_one s.wout with hp | hp
      · exact spin .rs3 3 (fun _ h => h) (by omega) (by omega)
      · exact spin .rs2 2 (fun _ h => h) (by omega) (by omega)
  · by_cases cs2 : 1 ≤ gn s .rs2
    · exact spin .rs2 2 (fun _ h => h) cs2 (by omega)
    by_cases cs3 : 1 ≤ gn s .rs3
    · exact spin .rs3 3 (fun _ h => h) cs3 (by omega)
    -- only threads between two lock cycles and writers waiting for their turn are left:
    -- the writer holding ticket `wout` can go
    have hp0 := gn_pos s i0 th0 h0
    have hm := doing_grp s th0.pc
    generalize hg : grp (cls th0.pc) = g at hm
    rw [show gof th0 = g from hg] at hp0
    cases g
    case out => exact ⟨i0, th0, h0, hm hnd⟩
    case wS1 =>
      obtain ⟨i, th, hth, hpc⟩ := h.ex s.wout (by rw [(view s).1]; omega) (by omega)
      exact ⟨i, th, hth, by rw [hpc]; simp [canMove]⟩
    all_goals exact absurd hp0 (by omega)

def allDone (s : State) : Prop := ∀ th ∈ s.th, th.pc = .done

theorem allDone_step (M : Nat) (s : State) (i : Nat) (h : allDone s) : step M s i = s :=
  (step_cases M s i).resolve_right fun ⟨th, _, hi, hc, _⟩ => by
    rw [h th (List.mem_of_getElem? hi)] at hc
    cases hc

theorem allDone_run (M : Nat) (s : State) (l : List Nat) (h : allDone s) : run M s l = s :=
  foldl_inv (P := (· = s)) (fun _ t e => e ▸ allDone_step M s t h) l rfl

theorem allDone_of_mu_zero (s : State) (h : mu s = 0) : allDone s := by
  intro th hth
  have := List.sum_eq_zero_iff_forall_eq_nat.1 h (muT th) (List.mem_map.2 ⟨th, hth, rfl⟩)
  unfold muT at this
  have hr : rank th.pc = 0 := by omega
  cases hp : th.pc <;> rw [hp] at hr <;> simp [rank] at hr

theorem run_append (M : Nat) (s : State) (l1 l2 : List Nat) : run M s (l1 ++ l2) = run M (run M s l1) l2 := by
  unfold run; rw [List.foldl_append]

theorem round_progress (s : State) (h : Inv s) (r : List Nat) (hr : ∀ i, i < s.th.length → i ∈ r)
    (hnd : ¬ allDone s) : mu (run 0 s r) < mu s := by
  obtain ⟨th0, hm, hnd0⟩ : ∃ th0, th0 ∈ s.th ∧ th0.pc ≠ .done := by simpa [allDone] using hnd
  obtain ⟨i0, h0⟩ := List.getElem?_of_mem hm
  obtain ⟨i, th, hi, hc⟩ := exists_canMove s h th0 i0 h0 hnd0
  have him : i ∈ r := hr i (getElem_of_getElem? hi).1
  -- until thread `i` is reached the state is unchanged or the measure has dropped already
  obtain ⟨r1, r2, rfl⟩ := List.append_of_mem him
  rw [run_append]
  refine Nat.lt_of_le_of_lt (mu_run_le 0 (step 0 (run 0 s r1) i) r2) ?_
  rcases mu_run_cases 0 s r1 with e | hlt
  · rw [e]; exact mu_step_lt 0 s i th hi hc
  · exact (mu_step_cases 0 _ i).elim (fun e => e ▸ hlt) (Nat.lt_trans · hlt)

theorem fair_rounds_terminate (s : State) (h : Inv s) (rounds : List (List Nat))
    (hfair : ∀ r ∈ rounds, ∀ i, i < s.th.length → i ∈ r) (hlen : mu s ≤ rounds.length) :
    allDone (run 0 s rounds.flatten) := by
  induction rounds generalizing s with
  | nil =>
    simp only [List.length_nil] at hlen
    exact allDone_of_mu_zero s (by omega)
  | cons r rs ih =>
    rw [List.flatten_cons, run_append]
    by_cases hd : allDone s
    · rw [allDone_run 0 s r hd, allDone_run 0 s _ hd]; exact hd
    · have hlt := round_progress s h r (hfair r (List.mem_cons_self ..)) hd
      apply ih (run 0 s r) (inv_run s r h)
      · intro r' hr' i hi
        rw [length_run] at hi
        exact hfair r' (List.mem_cons_of_mem _ hr') i hi
      · simp only [List.length_cons] at hlen
        omega

end ParsecVerif.RwLock
