import ParsecVerif.Model.UserTrigger
/-! Tree arithmetic of the user-trigger broadcast (C12).  `shifted` and `unshift` are inverse bijections of
    `[0, n)`; in shifted coordinates the broadcast tree is the binary heap `v ↦ 2v+1, 2v+2`. -/
namespace ParsecVerif.UserTrigger

theorem length_le_of_nodup_lt (n : Nat) (l : List Nat) (hn : l.Nodup) (h : ∀ x ∈ l, x < n) : l.length ≤ n := by
  simpa using hn.length_le_of_subset (l₂ := List.range n) fun x hx => List.mem_range.2 (h x hx)

theorem nodup_map_of_left_inverse {α β} {f : α → β} (g : β → α) {l : List α} (h : ∀ a ∈ l, g (f a) = a)
    (hl : l.Nodup) : (l.map f).Nodup :=
  List.pairwise_map.2 (hl.imp_of_mem fun ha hb hne e => hne (by rw [← h _ ha, e, h _ hb]))

theorem shifted_lt (n root me : Nat) (hr : root < n) : shifted n root me < n :=
  Nat.mod_lt _ (by omega)

def unshift (n root v : Nat) : Nat := (v + root) % n

theorem unshift_lt (n root v : Nat) (hr : root < n) : unshift n root v < n :=
  Nat.mod_lt _ (by omega)

theorem shifted_unshift (n root v : Nat) (hr : root < n) (hv : v < n) :
    shifted n root (unshift n root v) = v := by
  unfold shifted unshift
  rw [Nat.add_sub_assoc (Nat.le_of_lt hr), Nat.mod_add_mod, show v + root + (n - root) = v + n by omega,
    Nat.add_mod_right, Nat.mod_eq_of_lt hv]

theorem unshift_shifted (n root me : Nat) (hr : root < n) (hm : me < n) :
    unshift n root (shifted n root me) = me := by
  unfold shifted unshift
  rw [Nat.mod_add_mod, Nat.sub_add_cancel (by omega), Nat.add_mod_right, Nat.mod_eq_of_lt hm]

theorem shifted_root (n root : Nat) : shifted n root root = 0 := by
  unfold shifted; rw [Nat.add_sub_cancel_left, Nat.mod_self]

theorem shifted_eq_zero_iff (n root me : Nat) (hr : root < n) (hm : me < n) :
    shifted n root me = 0 ↔ me = root := by
  refine ⟨fun h => ?_, fun h => h ▸ shifted_root n root⟩
  rw [← unshift_shifted n root me hr hm, h, ← shifted_root n root, unshift_shifted n root root hr hr]

theorem child_eq (n root me i : Nat) : child n root me i = unshift n root (2 * shifted n root me + i + 1) := rfl

theorem children_eq (n root me : Nat) :
    children n root me =
      ([2 * shifted n root me + 1, 2 * shifted n root me + 2].filter (· < n)).map (unshift n root) := by
  unfold children nbChildren
  split
  · have : 2 * shifted n root me + 1 < n := by omega
    simp [List.range_succ, child_eq, *]
  · split <;> simp [List.range_succ, child_eq, *]

theorem mem_children_shifted (n root me c : Nat) (hr : root < n) (hc : c < n) :
    c ∈ children n root me ↔
      (shifted n root c = 2 * shifted n root me + 1 ∨ shifted n root c = 2 * shifted n root me + 2) := by
  simp only [children_eq, List.mem_map, List.mem_filter, List.mem_cons, List.not_mem_nil, or_false, decide_eq_true_eq]
  constructor
  · rintro ⟨w, ⟨hw, hlt⟩, rfl⟩
    rwa [shifted_unshift n root w hr hlt]
  · exact fun h => ⟨_, ⟨h, shifted_lt n root c hr⟩, unshift_shifted n root c hr hc⟩

def parentShifted (n root r : Nat) : Nat := (shifted n root r - 1) / 2

def parent (n root r : Nat) : Nat := unshift n root (parentShifted n root r)

theorem parent_lt (n root c : Nat) (hr : root < n) : parent n root c < n := unshift_lt n root _ hr

theorem shifted_parent (n root c : Nat) (hr : root < n) :
    shifted n root (parent n root c) = (shifted n root c - 1) / 2 :=
  shifted_unshift n root ((shifted n root c - 1) / 2) hr (by have := shifted_lt n root c hr; omega)

theorem mem_children_iff (n root me c : Nat) (hr : root < n) (hm : me < n) (hc : c < n) :
    c ∈ children n root me ↔ (c ≠ root ∧ me = parent n root c) := by
  have hpar : me = parent n root c ↔ shifted n root me = (shifted n root c - 1) / 2 := by
    rw [← shifted_parent n root c hr]
    refine ⟨fun h => h ▸ rfl, fun h => ?_⟩
    rw [← unshift_shifted n root me hr hm, h, unshift_shifted n root _ hr (parent_lt n root c hr)]
  rw [mem_children_shifted n root me c hr hc, hpar, Ne, ← shifted_eq_zero_iff n root c hr hc]
  omega

theorem children_lt (n root me c : Nat) (hr : root < n) (h : c ∈ children n root me) : c < n := by
  obtain ⟨w, _, rfl⟩ := List.mem_map.1 (children_eq n root me ▸ h)
  exact unshift_lt n root w hr

theorem children_nodup (n root me : Nat) (hr : root < n) : (children n root me).Nodup := by
  rw [children_eq]
  exact nodup_map_of_left_inverse (shifted n root)
    (fun w hw => shifted_unshift n root w hr (by simpa using (List.mem_filter.1 hw).2)) (List.Pairwise.filter _ (by simp))

theorem shifted_parent_lt (n root c : Nat) (hr : root < n) (hc : c < n) (hne : c ≠ root) :
    shifted n root (parent n root c) < shifted n root c := by
  have := mt (shifted_eq_zero_iff n root c hr hc).1 hne
  rw [shifted_parent n root c hr]; omega

theorem parent_induction {n root : Nat} (hr : root < n) {P : Nat → Prop} (h0 : P root)
    (hstep : ∀ x, x < n → x ≠ root → P (parent n root x) → P x) : ∀ x, x < n → P x := by
  intro x
  induction h : shifted n root x using Nat.strongRecOn generalizing x with
  | _ k ih =>
    intro hx
    by_cases hxr : x = root
    · exact hxr ▸ h0
    · exact hstep x hx hxr
        (ih _ (h ▸ shifted_parent_lt n root x hr hx hxr) _ rfl (parent_lt n root x hr))

end ParsecVerif.UserTrigger
