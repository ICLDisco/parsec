import ParsecVerif.Model.Profile
/-
  C42 — the binary profile model, byte level: integers and strings, the round trip of every record
  kind (event, key, info, thread record, file header), greedy packing, the size of a buffer.
-/
namespace ParsecVerif.Profile

@[simp] theorem le_length (k n : Nat) : (le k n).length = k := by
  induction k generalizing n with
  | zero => rfl
  | succ k ih => simp [le, ih]

theorem unle_le (k n : Nat) (h : n < 256 ^ k) : unle (le k n) = n := by
  induction k generalizing n with
  | zero =>
    have : n = 0 := by simpa using h
    subst this; rfl
  | succ k ih =>
    simp only [le, unle]
    have h2 : n / 256 < 256 ^ k := by
      rw [Nat.pow_succ] at h
      exact Nat.div_lt_of_lt_mul (by rw [Nat.mul_comm]; exact h)
    rw [ih _ h2]
    omega

theorem le_lt (k n : Nat) : ∀ b ∈ le k n, b < 256 := by
  induction k generalizing n with
  | zero => simp [le]
  | succ k ih =>
    intro b hb
    simp only [le, List.mem_cons] at hb
    rcases hb with h | h
    · omega
    · exact ih _ b h

@[simp] theorem i64_length (i : Int) : (i64 i).length = 8 := by simp [i64]

def FitsI64 (i : Int) : Prop := -9223372036854775808 ≤ i ∧ i < 9223372036854775808

/-- NULL, as the writer stores it -/
theorem FitsI64.neg_one : FitsI64 (-1) := ⟨by decide, by decide⟩

theorem FitsI64.of_nat {n : Nat} (h : n < 9223372036854775808) : FitsI64 (n : Int) := ⟨by omega, by omega⟩

theorem toI64_i64 (i : Int) (h : FitsI64 i) : toI64 (unle (i64 i)) = i := by
  obtain ⟨h1, h2⟩ := h
  unfold i64
  rw [unle_le 8 _ (by omega)]
  unfold toI64
  split <;> omega

@[simp] theorem zeros_length (n : Nat) : (zeros n).length = n := by simp [zeros]

/-- used as a rewrite rule: the side condition is closed by the `*_length` lemmas. -/
theorem split_append {n : Nat} {x r : Bytes} (h : x.length = n) : split n (x ++ r) = some (x, r) := by
  subst h
  simp [split]

theorem pad_length (n : Nat) (s : Bytes) (h : s.length ≤ n) : (pad n s).length = n := by
  simp [pad]; omega

theorem fixstr_length (n : Nat) (s : Bytes) (hn : 0 < n) : (fixstr n s).length = n := by
  unfold fixstr
  apply pad_length
  simp; omega

theorem cstr_append_zero (s r : Bytes) (h : noZero s) : cstr (s ++ 0 :: r) = s := by
  induction s with
  | nil => simp [cstr]
  | cons a s ih =>
    obtain ⟨ha, hs⟩ := List.forall_mem_cons.1 h
    simp [cstr, ha, ih hs]

theorem cstr_fixstr (n : Nat) (s : Bytes) (h : noZero s) (hl : s.length + 1 ≤ n) :
    cstr (fixstr n s) = s := by
  unfold fixstr pad zeros
  have ht : s.take (n - 1) = s := List.take_of_length_le (by omega)
  rw [ht]
  have : n - s.length = (n - s.length - 1) + 1 := by omega
  rw [this, List.replicate_succ]
  exact cstr_append_zero s _ h

theorem decEvent_encEvent {B : Nat} {dict : List KeyDef} {e : Event} (h : WFEvent B dict e) (r : Bytes) :
    decEvent dict (encEvent e ++ r) = some (e, r) := by
  obtain ⟨hk, hf, ht, hi, hs, _, hinfo⟩ := h
  unfold decEvent encEvent
  simp only [List.append_assoc, split_append, le_length, unle_le 2 _ hk, unle_le 2 _ hf, unle_le 4 _ ht, unle_le 8 _ hi,
    unle_le 8 _ hs]
  by_cases hb : e.flags % 2 = 1
  · simp only [hb, if_true] at hinfo ⊢
    cases hd : dict[e.key / 2]? with
    | none => simp [hd] at hinfo
    | some kd =>
      simp only [hd, Option.map_some, Option.some.injEq] at hinfo
      simp only [hinfo, split_append]
  · simp only [hb, if_false] at hinfo ⊢
    cases e
    simp_all

theorem encEvent_length (e : Event) : (encEvent e).length = evLen e := by
  simp [encEvent, evLen, evBase]; omega

theorem decKey_encKey {B : Nat} {k : KeyDef} (h : WFKey B k) (r : Bytes) :
    decKey (encKey k ++ r) = some (k, r) := by
  obtain ⟨hn, hnl, ha, hal, hc, hi, _⟩ := h
  unfold decKey encKey
  simp only [List.append_assoc, split_append, fixstr_length, le_length, zeros_length, Nat.zero_lt_succ,
    unle_le 4 _ (by omega : k.conv.length < 4294967296), unle_le 4 _ (by omega : k.infoLen < 4294967296),
    cstr_fixstr 64 _ hn (by omega), cstr_fixstr 128 _ ha (by omega)]

theorem encKey_length (k : KeyDef) : (encKey k).length = keyStride k := by
  simp [encKey, keyStride, keyTail, fixstr_length]; omega

theorem decInfo_encInfo {i : Info} (h : WFInfo i) (r : Bytes) :
    decInfo (encInfo i ++ r) = some (i, r) := by
  obtain ⟨hk, hv⟩ := h
  unfold decInfo encInfo
  simp only [List.append_assoc, split_append, le_length, zeros_length,
    unle_le 4 _ (by omega : i.key.length < 4294967296), unle_le 4 _ (by omega : i.value.length < 4294967296)]

theorem encInfo_length (i : Info) : (encInfo i).length = infoStride i := by
  simp [encInfo, infoStride, infoTail]; omega

theorem parseN_flatten {α : Type} (p : Bytes → Option (α × Bytes)) (enc : α → Bytes) (l : List α)
    (r : Bytes) (h : ∀ a ∈ l, ∀ r, p (enc a ++ r) = some (a, r)) :
    parseN p l.length ((l.map enc).flatten ++ r) = some (l, r) := by
  induction l with
  | nil => simp [parseN]
  | cons a l ih =>
    obtain ⟨ha, hl⟩ := List.forall_mem_cons.1 h
    simp only [List.map_cons, List.flatten_cons, List.length_cons, parseN, List.append_assoc, ha,
      ih hl]

theorem flatten_map_length {α : Type} (enc : α → Bytes) (len : α → Nat) (l : List α)
    (h : ∀ a, (enc a).length = len a) : ((l.map enc).flatten).length = (l.map len).sum := by
  induction l with
  | nil => rfl
  | cons a l ih => simp [h, ih]

theorem decThr_encThr (t : ThreadRec) (r : Bytes)
    (hn : t.nbEvents < 18446744073709551616) (hz : noZero t.hrid) (hl : t.hrid.length ≤ 127)
    (ho : FitsI64 t.firstOff)
    (hi : ∀ i ∈ t.infos, WFInfo i) (hil : t.infos.length < 2147483648) :
    decThr (encThr t ++ r) = some (t, r) := by
  unfold decThr encThr
  have hp := parseN_flatten decInfo encInfo t.infos r (fun a ha => decInfo_encInfo (hi a ha))
  simp only [List.append_assoc, split_append, le_length, i64_length, fixstr_length, Nat.zero_lt_succ,
    unle_le 8 _ hn, unle_le 4 _ (by omega : t.infos.length < 4294967296), hp,
    cstr_fixstr 128 _ hz (by omega), toI64_i64 _ ho]

theorem encThr_length (t : ThreadRec) : (encThr t).length = thrStride t := by
  simp only [encThr, thrStride, thrFixed, List.length_append, le_length, i64_length,
    fixstr_length 128 _ (by decide), flatten_map_length encInfo infoStride _ encInfo_length]
  omega

theorem flatten_consHead {α : Type} (a : α) (l : List (List α)) :
    (consHead a l).flatten = a :: l.flatten := by
  cases l <;> simp [consHead]

theorem pack_flatten {α : Type} (cap : Nat) (len : α → Nat) (l : List α) (pos : Nat) :
    (pack cap len l pos).flatten = l := by
  induction l generalizing pos with
  | nil => simp [pack]
  | cons a as ih =>
    unfold pack
    split <;> simp [flatten_consHead, ih]

theorem pack_ok {α : Type} (cap : Nat) (len : α → Nat) (l : List α) (pos : Nat)
    (hl : ∀ a ∈ l, len a ≤ cap) (hp : pos ≤ cap) :
    ∃ c cs, pack cap len l pos = c :: cs ∧ pos + (c.map len).sum ≤ cap ∧
      (∀ c' ∈ cs, c' ≠ [] ∧ (c'.map len).sum ≤ cap) ∧
      (∀ a, l.head? = some a → pos + len a ≤ cap → c ≠ []) := by
  fun_induction pack cap len l pos with
  | case1 pos => exact ⟨[], [], rfl, by simp; exact hp, by simp, by simp⟩
  | case2 a as pos hgt ih =>
    obtain ⟨ha, has⟩ := List.forall_mem_cons.1 hl
    obtain ⟨c, cs, he, hfit, hcs, _⟩ := ih has ha
    refine ⟨[], (a :: c) :: cs, by simp [he, consHead], by simp; exact hp, ?_, ?_⟩
    · intro c' hc'
      rcases List.mem_cons.1 hc' with rfl | h
      · simp at hfit ⊢; omega
      · exact hcs c' h
    · intro b hb hle
      simp at hb; subst hb; omega
  | case3 a as pos hle ih =>
    obtain ⟨c, cs, he, hfit, hcs, _⟩ := ih (List.forall_mem_cons.1 hl).2 (by omega)
    refine ⟨a :: c, cs, by simp [he, consHead], ?_, hcs, by simp⟩
    simp at hfit ⊢; omega

theorem pack_zero_ok {α : Type} (cap : Nat) (len : α → Nat) (l : List α)
    (hl : ∀ a ∈ l, len a ≤ cap) :
    ∀ c ∈ pack cap len l 0, (l ≠ [] → c ≠ []) ∧ (c.map len).sum ≤ cap := by
  obtain ⟨c, cs, he, hfit, hcs, hhd⟩ := pack_ok cap len l 0 hl (Nat.zero_le _)
  intro c' hc'
  rw [he] at hc'
  rcases List.mem_cons.1 hc' with rfl | h
  · refine ⟨fun hne => ?_, by omega⟩
    cases l with
    | nil => exact absurd rfl hne
    | cons a as => exact hhd a rfl (by have := hl a (by simp); omega)
  · exact ⟨fun _ => (hcs c' h).1, (hcs c' h).2⟩

theorem pack_ne_nil {α : Type} (cap : Nat) (len : α → Nat) (l : List α) (pos : Nat) :
    pack cap len l pos ≠ [] := by
  cases l with
  | nil => simp [pack]
  | cons a as =>
    unfold pack
    split
    · simp
    · cases pack cap len as (pos + len a) <;> simp [consHead]

theorem mkBuf_length {B : Nat} {this next : Int} {count typ : Nat} {content : Bytes}
    (hB : bufHdrSize ≤ B) (hc : content.length ≤ avail B) :
    (mkBuf B this next count typ content).length = B := by
  have hp := pad_length _ _ hc
  simp only [mkBuf, List.length_append, List.length_cons, i64_length, le_length, hp]
  simp only [avail, bufHdrSize] at *
  omega

theorem decHeader_encHeader (h : Header) (r : Bytes)
    (hb : h.bufSize < 4294967296) (hz : noZero h.hrid) (hl : h.hrid.length ≤ 127)
    (hds : h.dictSize < 4294967296) (hdo : FitsI64 h.dictOff) (his : h.infoSize < 4294967296)
    (hio : FitsI64 h.infoOff) (hr : h.rank < 4294967296) (hnt : h.nbThreads < 4294967296)
    (hto : FitsI64 h.thrOff) : decHeader (encHeader h ++ r) = some h := by
  have hm : (pad 32 magick).length = 32 := by decide
  have hmg : (pad 32 magick).take 24 = magick := by decide
  have hbo : unle (le 8 byteOrder) = byteOrder := unle_le 8 _ (by decide)
  unfold decHeader encHeader
  simp only [List.append_assoc, hm, split_append, le_length, i64_length, zeros_length, fixstr_length,
    Nat.zero_lt_succ, hmg, hbo, and_self, if_true, unle_le 4 _ hb, unle_le 4 _ hds, unle_le 4 _ his,
    unle_le 4 _ hr, unle_le 4 _ hnt, toI64_i64 _ hdo, toI64_i64 _ hio, toI64_i64 _ hto, cstr_fixstr 128 _ hz (by omega)]

theorem thrRecs_eq (ss : List Stream) (os : List Int) :
    thrRecs ss os = (ss.zip os).map fun p => ⟨p.1.events.length, p.1.hrid, p.2, p.1.infos⟩ := by
  induction ss generalizing os with
  | nil => rfl
  | cons s ss ih => cases os <;> simp [thrRecs, ih]

theorem mem_thrRecs {ss : List Stream} {os : List Int} {t : ThreadRec} (h : t ∈ thrRecs ss os) :
    ∃ s ∈ ss, ∃ o ∈ os, t = ⟨s.events.length, s.hrid, o, s.infos⟩ := by
  obtain ⟨⟨s, o⟩, hm, rfl⟩ := List.mem_map.1 (thrRecs_eq ss os ▸ h)
  exact ⟨s, (List.of_mem_zip hm).1, o, (List.of_mem_zip hm).2, rfl⟩

theorem thrRecs_length (ss : List Stream) (os : List Int) (h : os.length = ss.length) :
    (thrRecs ss os).length = ss.length := by
  simp [thrRecs_eq, h]

/-- the thread records can be packed (their sizes only depend on the infos). -/
theorem thrRecs_stride {B : Nat} {dict : List KeyDef} {ss : List Stream} {os : List Int}
    (hwf : ∀ s ∈ ss, WFStream B dict s) : ∀ r ∈ thrRecs ss os, thrStride r ≤ avail B - 1 := by
  intro r hr
  obtain ⟨s, hs, _, -, rfl⟩ := mem_thrRecs hr
  exact Nat.le_sub_one_of_lt (hwf s hs).2.2.2.2.2.2.2

theorem thrRecs_dec {B : Nat} {dict : List KeyDef} {ss : List Stream} {os : List Int}
    (hwf : ∀ s ∈ ss, WFStream B dict s) (hos : ∀ o ∈ os, FitsI64 o) :
    ∀ t ∈ thrRecs ss os, ∀ r, decThr (encThr t ++ r) = some (t, r) := by
  intro t ht r
  obtain ⟨s, hs, o, ho, rfl⟩ := mem_thrRecs ht
  obtain ⟨hz, hl, _, hn, _, hin, hil, _⟩ := hwf s hs
  exact decThr_encThr _ r hn hz hl (hos o ho) hin hil

end ParsecVerif.Profile
