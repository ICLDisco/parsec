import ParsecVerif.Proofs.Zone
import ParsecVerif.Proofs.ZoneTable
/-! C28: the simulation between the code-level model and a list of runs tiling the zone (`Abs`).  `zone_malloc` and
    `zone_free` keep it, the latter block by block through `Stage`; the walk of `zone_in_use` reads the run list. -/
namespace ParsecVerif.Zone

variable {z z' : St} {live live' : List (Nat × Nat)} {L A B : List Run} {D : FL}
  {c : FCtx} {m u k nb cu t st0 : Nat} {S segs : List Seg} {rest : List Nat}

theorem or_and_not_iff {E E' P : Prop} (hE : E → E') (hP : P → ¬E') : (E ∨ P) ∧ ¬E' ↔ P :=
  ⟨fun h => h.1.resolve_left fun e => h.2 (hE e), fun p => ⟨.inr p, hP p⟩⟩

/-- `Abs.flmem` is `Holds z.fl L` written out -/
def Holds (D : FL) (L : List Run) : Prop := ∀ k t, t ∈ bucket D k ↔ (t, 1, k) ∈ starts L 0

/-- `Abs.livemem` is `Lives live L` written out -/
def Lives (live : List (Nat × Nat)) (L : List Run) : Prop := ∀ t u, (t, u) ∈ live ↔ (t, 2, u) ∈ starts L 0

/-- `hp` is only about the units, so in `holds_add`, `holds_del` and `live_del` it may carry any status `st0` at the run concerned
    (callers have it with 1 or with 2) -/
theorem holds_add (hD : FLOk D) (hp : Pos (A ++ (st0, m) :: B)) (h : Holds D (A ++ (2, m) :: B)) :
    FLOk (flFindOrInsertPush D m (usum A)) ∧ Holds (flFindOrInsertPush D m (usum A)) (A ++ (1, m) :: B) := by
  refine ⟨flok_findOrInsertPush hD m _ fun hin => not_mem_starts_flip (by decide) hp ((h m _).1 hin), fun k t => ?_⟩
  rw [mem_bucket_findOrInsertPush, h, mem_starts_flip A B 1 2 m (by decide), and_comm]

theorem holds_del (hD : FLOk D) (hp : Pos (A ++ (st0, k) :: B)) (h : Holds D (A ++ (1, k) :: B)) :
    Holds (flDel D k (usum A)) (A ++ (2, k) :: B) := by
  intro x t
  rw [mem_bucket_flDel hD, h, mem_starts_flip A B 1 2 k (by decide)]
  exact or_and_not_iff And.symm fun h1 h2 => by
    obtain ⟨rfl, rfl⟩ := h2
    exact not_mem_starts_flip (by decide) hp h1

theorem live_add (h : Lives live (A ++ (1, k) :: B)) : Lives ((usum A, k) :: live) (A ++ (2, k) :: B) := by
  intro t u
  rw [List.mem_cons, h, mem_starts_flip A B 2 1 k (by decide), Prod.mk.injEq]

theorem live_del (hp : Pos (A ++ (st0, u) :: B)) (h : Lives live (A ++ (2, u) :: B)) :
    Lives (dropLive live (usum A)) (A ++ (1, u) :: B) := by
  intro t' u'
  unfold dropLive
  rw [List.mem_filter, h, mem_starts_flip A B 2 1 u (by decide)]
  simp only [bne_iff_ne, ne_eq]
  exact or_and_not_iff And.left fun h1 h2 => by
    subst h2
    exact not_mem_starts_flip (by decide) hp h1

structure Abs (z : St) (live : List (Nat × Nat)) (L : List Run) : Prop where
  chain : Chain z.segs 0 1 L
  total : usum L = z.segs.length
  noadj : NoAdjE L
  flok : FLOk z.fl
  flmem : ∀ k t, t ∈ bucket z.fl k ↔ (t, 1, k) ∈ starts L 0
  livemem : ∀ t u, (t, u) ∈ live ↔ (t, 2, u) ∈ starts L 0
  livenodup : live.Nodup

theorem abs_init (n unit : Nat) (hn : 0 < n) : Abs (init n unit) [] [(1, n)] := by
  refine ⟨?_, ?_, trivial, ⟨?_, ?_⟩, ?_, ?_, List.nodup_nil⟩
  · simp [init, Chain, hn]
  · simp [init, usum]; omega
  · simp [init, Sorted]
  · intro k b hb
    simp only [init, flFind] at hb
    split at hb
    · injection hb with hb; subst hb; simp
    · exact absurd hb (by simp)
  · intro k t
    simp only [init, bucket, flFind, starts, List.mem_singleton, Prod.mk.injEq]
    split
    · next h => subst h; simp
    · next h => simp; intro _ h'; exact absurd h'.symm h
  · intro t u; simp [starts]

def afterMalloc (A B : List Run) (k nb : Nat) : List Run :=
  if nb < k then A ++ (2, nb) :: (1, k - nb) :: B else A ++ (2, nb) :: B

theorem usum_afterMalloc (hle : nb ≤ k) : usum (afterMalloc A B k nb) = usum (A ++ (1, k) :: B) := by
  unfold afterMalloc; split <;> simp only [usum_append, usum] <;> omega

theorem mallocUnits_spec (h : Abs z live L) (nb : Nat) :
    (mallocUnits z nb = none ∧ ∀ t' k', (t', 1, k') ∈ starts L 0 → k' < nb) ∨
    ∃ A k B rest, L = A ++ (1, k) :: B ∧ flFind z.fl k = some (usum A :: rest) ∧ nb ≤ k ∧
      (∀ t' k', (t', 1, k') ∈ starts L 0 → nb ≤ k' → k ≤ k') ∧
      mallocUnits z nb = some (mallocAt z nb k (usum A) rest ⟨1, k, lastU 1 A⟩, usum A) := by
  unfold mallocUnits
  cases hfl : flFindOrLarger z.fl nb with
  | none =>
    refine .inl ⟨rfl, fun t' k' hs => ?_⟩
    obtain ⟨b', hb'⟩ := find_of_mem_bucket ((h.flmem k' t').2 hs)
    exact findOrLarger_none z.fl nb hfl k' b' hb'
  | some kb =>
    obtain ⟨k, b⟩ := kb
    obtain ⟨hfind, hle, hmin⟩ := findOrLarger_some h.flok.sorted hfl
    cases b with
    | nil => exact absurd rfl (h.flok.good k [] hfind).1
    | cons t0 rest =>
      have hin : (t0, 1, k) ∈ starts L 0 := (h.flmem k t0).1 (by rw [bucket_of_find hfind]; exact List.mem_cons_self)
      obtain ⟨A, B, rfl, ht0⟩ := mem_starts_split hin
      rw [Nat.zero_add] at ht0
      subst ht0
      refine .inr ⟨A, k, B, rest, rfl, hfind, hle, fun t' k' hs hk' => ?_, by simp only [chain_at h.chain]⟩
      obtain ⟨b', hb'⟩ := find_of_mem_bucket ((h.flmem k' t').2 hs)
      exact hmin k' b' hb' hk'

theorem abs_mallocAt (h : Abs z live (A ++ (1, k) :: B))
    (hfind : flFind z.fl k = some (usum A :: rest)) (h0 : 0 < nb) (hle : nb ≤ k) :
    Abs (mallocAt z nb k (usum A) rest ⟨1, k, lastU 1 A⟩) ((usum A, nb) :: live) (afterMalloc A B k nb) := by
  have hpos : Pos (A ++ (1, k) :: B) := chain_pos h.chain
  have hna := (noadj_iff A B (1, k)).1 h.noadj
  have hfl := mallocAt_fl z h.flok.sorted nb k (usum A) 1 (lastU 1 A) rest h0 hfind
  have hnd : ((usum A, nb) :: live).Nodup :=
    List.nodup_cons.2 ⟨fun hc => not_mem_starts_flip (by decide) hpos ((h.livemem _ nb).1 hc), h.livenodup⟩
  unfold afterMalloc
  by_cases hk : nb < k
  · rw [if_pos hk] at hfl ⊢
    have hsegs : (mallocAt z nb k (usum A) rest ⟨1, k, lastU 1 A⟩).segs = splitSegs z.segs (usum A) nb k (lastU 1 A) := by
      unfold mallocAt; rw [if_pos hk]
    have hch := chain_split z.segs A B k nb h0 hk h.chain h.total
    have e : nb + (k - nb) = k := by omega
    -- the popped run counts as FULL for the lists, and so do its two parts; then the remainder is entered
    have hdel : Holds (flDel z.fl k (usum A)) (A ++ (2, nb) :: (2, k - nb) :: B) := fun x t => by
      rw [mem_starts_regroup A B 1 2 nb (k - nb) t x (by decide), e]
      exact holds_del h.flok hpos h.flmem x t
    rw [List.append_cons A (2, nb)] at hdel
    have hfin := holds_add (flok_flDel h.flok k (usum A)) (List.append_cons A _ _ ▸ chain_pos hch) hdel
    rw [← List.append_cons, usum_append, show usum [(2, nb)] = nb from Nat.add_zero nb] at hfin
    refine ⟨?_, ?_, ?_, ?_, ?_, ?_, hnd⟩
    · rw [hsegs]; exact hch
    · rw [hsegs, length_splitSegs, ← h.total]; simp only [usum_append, usum]; omega
    · rw [noadj_iff A _ (2, nb)]
      refine ⟨hna.1, ?_, by simp, by simp⟩
      have := (noadj_iff [] B (1, k - nb)).2 ⟨trivial, hna.2.1, by simp [lastSt], by simpa using hna.2.2.2⟩
      simpa using this
    · rw [hfl]; exact hfin.1
    · rw [hfl]; exact hfin.2
    · exact live_add fun t u => by
        rw [mem_starts_regroup A B 2 1 nb (k - nb) t u (by decide), e]; exact h.livemem t u
  · obtain rfl : k = nb := by omega
    rw [if_neg hk] at hfl ⊢
    have hsegs : (mallocAt z k k (usum A) rest ⟨1, k, lastU 1 A⟩).segs = z.segs.set (usum A) ⟨2, k, lastU 1 A⟩ := by
      unfold mallocAt; rw [if_neg hk]
    refine ⟨?_, ?_, ?_, ?_, ?_, live_add h.livemem, hnd⟩
    · rw [hsegs]; exact chain_restatus z.segs A B 1 2 k (Or.inr rfl) h.chain
    · rw [hsegs, List.length_set, ← h.total]; simp only [usum_append, usum]
    · rw [noadj_iff A B (2, k)]
      exact ⟨hna.1, hna.2.1, by simp, by simp⟩
    · rw [hfl]; exact flok_flDel h.flok k _
    · rw [hfl]; exact holds_del h.flok hpos h.flmem

theorem reqUnits_covers (unit size : Nat) (hunit : 0 < unit) : size ≤ reqUnits unit size * unit := by
  unfold reqUnits
  have h3 := Nat.div_add_mod size unit
  have h4 := Nat.mod_lt size hunit
  rw [Nat.add_mul, Nat.mul_comm (size / unit) unit]
  split
  · omega
  · simp only [Nat.one_mul]; omega

theorem sysMalloc_spec {y : Sys} (h : Abs y.z y.live L) (size : Nat) :
    (sysMalloc y size = (y, .null) ∧
      (reqUnits y.z.unit size = 0 ∨ ∀ t k, (t, 1, k) ∈ starts L 0 → k < reqUnits y.z.unit size)) ∨
    ∃ A k B z', L = A ++ (1, k) :: B ∧ 0 < reqUnits y.z.unit size ∧ reqUnits y.z.unit size ≤ k ∧
      (∀ t' k', (t', 1, k') ∈ starts L 0 → reqUnits y.z.unit size ≤ k' → k ≤ k') ∧
      sysMalloc y size = (⟨z', (usum A, reqUnits y.z.unit size) :: y.live⟩, .ptr (usum A * y.z.unit)) ∧
      z'.unit = y.z.unit ∧
      Abs z' ((usum A, reqUnits y.z.unit size) :: y.live) (afterMalloc A B k (reqUnits y.z.unit size)) := by
  unfold sysMalloc
  generalize reqUnits y.z.unit size = nb
  by_cases hc : nb = 0 ∨ nb > y.z.segs.length
  · rw [if_pos hc]
    -- a run is never longer than the table
    refine .inl ⟨rfl, hc.imp_right fun hc t k hs => ?_⟩
    have := (mem_starts_bounds hs).2
    have := h.total
    omega
  · rw [if_neg hc]
    have h0 : 0 < nb := Nat.pos_of_ne_zero fun e => hc (.inl e)
    rcases mallocUnits_spec h nb with ⟨hn, hs⟩ | ⟨A, k, B, rest, rfl, hfind, hle, hmin, hm⟩
    · rw [hn]; exact .inl ⟨rfl, .inr hs⟩
    · rw [hm]
      exact .inr ⟨A, k, B, _, rfl, h0, hle, hmin, rfl, by unfold mallocAt; split <;> rfl, abs_mallocAt h hfind h0 hle⟩

def absorbed (o : Option Seg) : Nat := if isEmptySeg o then unitsOf o else 0

theorem mergedUnits_eq (cu : Nat) (ps ns : Option Seg) : mergedUnits cu ps ns = cu + absorbed ps + absorbed ns := rfl

/-- what holds of the locals of zone_free between its blocks: the current run (1,cu) at usum A is already
    EMPTY-marked in the table but not yet listed, so for the free lists it counts as FULL; D is the
    free-list map without the chunk list possibly kept for reuse -/
structure Stage (c : FCtx) (m : Nat) (live' : List (Nat × Nat)) (A : List Run) (cu : Nat) (B : List Run) (D : FL) : Prop where
  ctid : c.ctid = usum A
  chain : Chain c.segs 0 1 (A ++ (1, cu) :: B)
  total : usum (A ++ (1, cu) :: B) = c.segs.length
  mid : IsMid c.fl c.reuse m D
  dok : FLOk D
  flmem : Holds D (A ++ (2, cu) :: B)
  livemem : Lives live' (A ++ (1, cu) :: B)
  noA : NoAdjE A
  noB : NoAdjE B

theorem length_freePrev (c : FCtx) (pt pu nt cu m : Nat) : (freePrev c pt pu nt cu m).segs.length = c.segs.length := by
  simp only [freePrev, length_addUnits, length_addPrev]

theorem length_freeNext (c : FCtx) (nt nu m : Nat) : (freeNext c nt nu m).segs.length = c.segs.length := by
  simp only [freeNext, length_setPrev, length_addUnits]

theorem length_freeAt (z : St) (t : Nat) (cur : Seg) : (freeAt z t cur).segs.length = z.segs.length := by
  have h1 : (freeStage1 z t cur).segs.length = z.segs.length := by
    unfold freeStage1
    split
    · rw [length_freePrev]; exact List.length_set
    · exact List.length_set
  unfold freeAt freeStage2
  split
  · rw [length_freeNext]; exact h1
  · exact h1

theorem free_length (h : free z t = some z') : z'.segs.length = z.segs.length := by
  unfold free at h
  split at h
  · cases h
  · split at h
    · cases h
    · cases h; exact length_freeAt z t _

theorem prev_lookup (hch : Chain S 0 1 (A ++ (1, u) :: B)) :
    (isEmptySeg (prevSegOf S (usum A) (lastU 1 A)) = true ∧
      ∃ A' pu, A = A' ++ [(1, pu)] ∧ unitsOf (prevSegOf S (usum A) (lastU 1 A)) = pu ∧
        usum A - lastU 1 A = usum A' ∧ usum A = usum A' + pu) ∨
    (isEmptySeg (prevSegOf S (usum A) (lastU 1 A)) ≠ true ∧ lastSt A ≠ 1) := by
  rcases List.eq_nil_or_concat A with rfl | ⟨A', a, hA⟩
  · simp [prevSegOf, usum, lastU, isEmptySeg, lastSt]
  · obtain ⟨st, pu⟩ := a
    rw [List.concat_eq_append] at hA
    subst hA
    rw [List.append_assoc] at hch
    have hl : lastU 1 (A' ++ [(st, pu)]) = pu := by rw [lastU_append_cons]; rfl
    have hu : usum (A' ++ [(st, pu)]) = usum A' + pu := by simp [usum_append, usum]
    rw [hl, hu, lastSt_concat]
    have hps : prevSegOf S (usum A' + pu) pu = some ⟨st, pu, lastU 1 A'⟩ := by
      unfold prevSegOf; rw [if_pos (by omega), show usum A' + pu - pu = usum A' by omega]; exact chain_at hch
    rw [hps]
    simp only [isEmptySeg, unitsOf, ne_eq, beq_iff_eq]
    by_cases hst : st = 1
    · subst hst
      exact .inl ⟨rfl, A', pu, rfl, rfl, by omega, rfl⟩
    · exact .inr ⟨hst, hst⟩

theorem next_lookup (hch : Chain S 0 1 (A ++ (1, u) :: B))
    (htot : usum (A ++ (1, u) :: B) = S.length) :
    (isEmptySeg S[usum A + u]? = true ∧ ∃ nu B', B = (1, nu) :: B' ∧ unitsOf S[usum A + u]? = nu) ∨
    (isEmptySeg S[usum A + u]? ≠ true ∧ headSt B ≠ 1) := by
  have hB := ((chain_append).1 hch).2
  simp only [Chain, Nat.zero_add] at hB
  cases B with
  | nil =>
    simp only [usum_append, usum] at htot
    have : S[usum A + u]? = none := by rw [List.getElem?_eq_none_iff]; omega
    rw [this]; simp [isEmptySeg, headSt]
  | cons b B' =>
    obtain ⟨st, nu⟩ := b
    simp only [Chain] at hB
    rw [hB.2.2.2.1]
    simp only [isEmptySeg, unitsOf, headSt, ne_eq, beq_iff_eq]
    by_cases hst : st = 1
    · subst hst
      exact .inl ⟨rfl, nu, B', rfl, rfl⟩
    · exact .inr ⟨hst, hst⟩

theorem stage_prev {ps : Option Seg} (h : Stage c m live' A cu B D) (hr : c.reuse = false)
    (hps : prevSegOf c.segs (usum A) (lastU 1 A) = ps) (hm : cu + absorbed ps ≤ m) :
    ∃ A1 D1, Stage (if isEmptySeg ps then freePrev c (usum A - lastU 1 A) (unitsOf ps) (usum A + cu) cu m else c)
        m live' A1 (absorbed ps + cu) B D1 ∧ lastSt A1 ≠ 1 ∧ usum A1 + absorbed ps = usum A := by
  have hcu : 0 < cu := chain_pos h.chain (1, cu) (by simp)
  subst hps
  unfold absorbed at hm ⊢
  rcases prev_lookup h.chain with ⟨hpe, A', pu, rfl, hpu, hsub, hsum⟩ | ⟨hpe, hlA⟩
  · simp only [if_pos hpe, hpu] at hm ⊢
    rw [hsub, hsum]
    have hna := (noadj_iff A' [] (1, pu)).1 h.noA
    refine ⟨A', flDel D pu (usum A'), ?_, fun hc => hna.2.2.1 ⟨hc, rfl⟩, rfl⟩
    have hch := h.chain; have htot := h.total; have hflm := h.flmem; have hlive := h.livemem
    rw [← List.append_cons] at hch htot hflm hlive
    -- `pu < m` by `hm`: the chunk list that loses its run is not the one kept under the key `m`
    refine ⟨rfl, chain_merge_prev c.segs A' B pu cu hch, ?_, afterRemove_spec (hr ▸ h.mid) h.dok.sorted _ (by omega),
      flok_flDel h.dok _ _, fun k t => ?_, ?_, hna.1, h.noB⟩
    · rw [length_freePrev, ← htot]; simp only [usum_append, usum]; omega
    · rw [← mem_starts_regroup A' B 1 2 pu cu t k (by decide)]
      exact holds_del (st0 := 1) h.dok (pos_of_units (chain_pos hch) (by simp)) hflm k t
    · intro t u; rw [hlive, mem_starts_regroup A' B 2 1 pu cu t u (by decide)]
  · simp only [if_neg hpe, Nat.zero_add]
    exact ⟨A, D, h, hlA, rfl⟩

/-- `ns` is the table entry after the run being freed, as read at the start of the call -/
theorem stage_next {ns : Option Seg} (h : Stage c m live' A cu B D)
    (hB : (isEmptySeg ns = true ∧ ∃ nu B', B = (1, nu) :: B' ∧ unitsOf ns = nu) ∨ (isEmptySeg ns ≠ true ∧ headSt B ≠ 1))
    (hm : cu + absorbed ns = m) :
    ∃ B2 D2, Stage (if isEmptySeg ns then freeNext c (usum A + cu) (unitsOf ns) m else c) m live' A m B2 D2 ∧
      headSt B2 ≠ 1 := by
  have hcu : 0 < cu := chain_pos h.chain (1, cu) (by simp)
  unfold absorbed at hm
  rcases hB with ⟨he, nu, B', rfl, hnu⟩ | ⟨he, hhB⟩
  · simp only [if_pos he, hnu] at hm ⊢
    subst hm
    have hnb := (noadj_iff [] B' (1, nu)).1 h.noB
    refine ⟨B', flDel D nu (usum A + cu), ?_, fun hc => hnb.2.2.2 ⟨rfl, hc⟩⟩
    have hch := h.chain
    have hflm := h.flmem
    rw [List.append_cons] at hflm
    have hd := holds_del (st0 := 1) h.dok (pos_of_units (chain_pos hch) (by simp)) hflm
    rw [← List.append_cons, usum_append, show usum [(2, cu)] = cu from Nat.add_zero cu] at hd
    refine ⟨h.ctid, ?_, ?_, afterRemove_spec h.mid h.dok.sorted _ (by omega), flok_flDel h.dok _ _, fun k t => ?_, ?_,
      h.noA, hnb.2.1⟩
    · simp only [freeNext, h.ctid]
      exact chain_merge_next c.segs A B' cu nu hch
    · rw [length_freeNext, ← h.total]; simp only [usum_append, usum]; omega
    · rw [← mem_starts_regroup A B' 1 2 cu nu t k (by decide)]; exact hd k t
    · intro t u; rw [h.livemem, mem_starts_regroup A B' 2 1 cu nu t u (by decide)]
  · simp only [if_neg he, Nat.add_zero] at hm ⊢
    exact ⟨B, D, hm ▸ h, hhB⟩

/-- the neighbours of the merged run are not EMPTY any more, so `NoAdjE` is back -/
theorem stage_final (unit : Nat) (h : Stage c m live' A m B D) (hnd : live'.Nodup)
    (hlA : lastSt A ≠ 1) (hhB : headSt B ≠ 1) :
    Abs ⟨unit, c.segs, freeFinal c m⟩ live' (A ++ (1, m) :: B) := by
  have hfin := holds_add h.dok (chain_pos h.chain) h.flmem
  rw [← h.ctid, ← freeFinal_spec h.mid (by rw [h.ctid, chain_at h.chain]; rfl)] at hfin
  exact ⟨h.chain, h.total, (noadj_iff ..).2 ⟨h.noA, h.noB, fun hc => hlA hc.1, fun hc => hhB hc.2⟩,
    hfin.1, hfin.2, h.livemem, hnd⟩

theorem abs_freeAt (h : Abs z live (A ++ (2, u) :: B)) :
    ∃ L', Abs (freeAt z (usum A) ⟨2, u, lastU 1 A⟩) (dropLive live (usum A)) L' := by
  have hpos : Pos (A ++ (2, u) :: B) := chain_pos h.chain
  obtain ⟨hnoA, hnoB, _⟩ := (noadj_iff A B (2, u)).1 h.noadj
  unfold freeAt freeStage2 freeStage1
  simp only []
  generalize hS : z.segs.set (usum A) ⟨1, u, lastU 1 A⟩ = S1
  generalize hM : mergedUnits u (prevSegOf S1 (usum A) (lastU 1 A)) S1[usum A + u]? = M
  -- right after the re-marking: nothing merged, no list touched
  have h0 : Stage ⟨S1, z.fl, false, usum A⟩ M (dropLive live (usum A)) A u B z.fl := by
    refine ⟨rfl, hS ▸ chain_restatus z.segs A B 2 1 u (Or.inl rfl) h.chain, ?_, isMid_start _ _, h.flok, h.flmem,
      live_del hpos h.livemem, hnoA, hnoB⟩
    rw [← hS, List.length_set, ← h.total]; simp only [usum_append, usum]
  rw [mergedUnits_eq] at hM
  obtain ⟨A1, D1, h1, hlA1, hsum⟩ := stage_prev (ps := prevSegOf S1 (usum A) (lastU 1 A)) h0 rfl rfl (by omega)
  obtain ⟨B2, D2, h2, hhB2⟩ := stage_next h1 (next_lookup (S := S1) h0.chain h0.total) (by omega)
  rw [show usum A1 + (absorbed (prevSegOf S1 (usum A) (lastU 1 A)) + u) = usum A + u by omega] at h2
  exact ⟨_, stage_final z.unit h2 (h.livenodup.filter _) hlA1 hhB2⟩

theorem abs_free (h : Abs z live L) (hl : (t, u) ∈ live) :
    ∃ z' L', free z t = some z' ∧ z'.unit = z.unit ∧ Abs z' (dropLive live t) L' := by
  obtain ⟨A, B, rfl, ht⟩ := mem_starts_split ((h.livemem t u).1 hl)
  rw [Nat.zero_add] at ht
  subst ht
  obtain ⟨L', hL'⟩ := abs_freeAt h
  exact ⟨freeAt z (usum A) ⟨2, u, lastU 1 A⟩, L', by unfold free; rw [chain_at h.chain]; rfl, rfl, hL'⟩

theorem isLive_iff (live : List (Nat × Nat)) (t : Nat) : isLive live t = true ↔ ∃ u, (t, u) ∈ live := by
  simp only [isLive, List.any_eq_true, beq_iff_eq, Prod.exists]
  exact ⟨fun ⟨_, u, hm, he⟩ => ⟨u, he ▸ hm⟩, fun ⟨u, hm⟩ => ⟨t, u, hm, rfl⟩⟩

/-- what `walk` returns on a table that holds the runs `L` from index `t` on, `p` being the units of the run before -/
def runsWithPrev : List Run → Nat → Nat → List (Nat × Seg)
  | [], _, _ => []
  | r :: l, t, p => (t, ⟨r.1, r.2, p⟩) :: runsWithPrev l (t + r.2) r.2

theorem walk_chain {t p f : Nat} (h : Chain segs t p L)
    (htot : t + usum L = segs.length) (hf : L.length ≤ f) : walk segs f t = runsWithPrev L t p := by
  induction L generalizing t p f with
  | nil =>
    simp only [usum] at htot
    cases f with
    | zero => rfl
    | succ f =>
      have : segs[t]? = none := by rw [List.getElem?_eq_none_iff]; omega
      simp [walk, this, runsWithPrev]
  | cons r l ih =>
    simp only [Chain, usum, List.length_cons] at h htot hf
    obtain ⟨h1, h2, _, h4⟩ := h
    cases f with
    | zero => omega
    | succ f =>
      simp only [walk, h1, runsWithPrev]
      rw [if_neg (by omega), ih (f := f) h4 (by omega) (by omega)]

theorem length_le_usum (hp : Pos L) : L.length ≤ usum L := by
  induction L with
  | nil => simp [usum]
  | cons r l ih =>
    have := hp r List.mem_cons_self
    have := ih (fun x hx => hp x (List.mem_cons_of_mem _ hx))
    simp only [List.length_cons, usum]; omega

def fulls : List Run → Nat → List (Nat × Nat)
  | [], _ => []
  | r :: l, t => if r.1 = 2 then (t, r.2) :: fulls l (t + r.2) else fulls l (t + r.2)

theorem mem_fulls (L : List Run) (off t u : Nat) : (t, u) ∈ fulls L off ↔ (t, 2, u) ∈ starts L off := by
  induction L generalizing off with
  | nil => simp [fulls, starts]
  | cons r l ih =>
    simp only [fulls, starts, List.mem_cons]
    by_cases h : r.1 = 2
    · rw [if_pos h, List.mem_cons, ih]; simp [h]
    · rw [if_neg h, ih]; simp only [Prod.mk.injEq]
      constructor
      · intro h'; exact Or.inr h'
      · rintro (h' | h')
        · exact absurd h'.2.1.symm h
        · exact h'

theorem nodup_fulls (L : List Run) (hp : Pos L) (off : Nat) : (fulls L off).Nodup := by
  induction L generalizing off with
  | nil => simp [fulls]
  | cons r l ih =>
    have hr := hp r List.mem_cons_self
    have ih' := ih (fun x hx => hp x (List.mem_cons_of_mem _ hx)) (off + r.2)
    simp only [fulls]
    split
    · refine List.nodup_cons.2 ⟨?_, ih'⟩
      intro hc
      have := (mem_starts_bounds ((mem_fulls l _ _ _).1 hc)).1
      omega
    · exact ih'

theorem fullUnits_runs (L : List Run) (t p : Nat) : fullUnits (runsWithPrev L t p) = ((fulls L t).map (·.2)).sum := by
  induction L generalizing t p with
  | nil => rfl
  | cons r l ih =>
    simp only [runsWithPrev, fullUnits, fulls, ih]
    split <;> simp

def liveUnits (live : List (Nat × Nat)) : Nat := (live.map (·.2)).sum

theorem abs_walk {n : Nat} (h : Abs z live L) (hlen : z.segs.length = n) :
    walk z.segs (n + 1) 0 = runsWithPrev L 0 1 :=
  walk_chain h.chain (by rw [Nat.zero_add]; exact h.total)
    (by have := length_le_usum (chain_pos h.chain); have := h.total; omega)

theorem abs_in_use (h : Abs z live L) :
    zoneInUse z = z.unit * liveUnits live := by
  unfold zoneInUse
  rw [abs_walk h rfl, fullUnits_runs]
  have hperm : live.Perm (fulls L 0) := by
    rw [List.perm_ext_iff_of_nodup h.livenodup (nodup_fulls L (chain_pos h.chain) 0)]
    intro a; obtain ⟨t, u⟩ := a
    rw [h.livemem, mem_fulls]
  unfold liveUnits
  rw [(hperm.map (·.2)).sum_nat]

/-- The coalescing invariant `hna` is what makes this true: if the window stuck out of the EMPTY run that contains `a`,
    the run after it would be FULL by `hna` and start inside the window, against `hfree`. -/
theorem window_in_empty (L : List Run) (off : Nat) (hm : ∀ r ∈ L, 0 < r.2 ∧ (r.1 = 1 ∨ r.1 = 2))
    (hna : NoAdjE L) (a nb : Nat) (h0 : 0 < nb) (ha : off ≤ a) (hb : a + nb ≤ off + usum L)
    (hfree : ∀ t u, (t, 2, u) ∈ starts L off → a + nb ≤ t ∨ t + u ≤ a) :
    ∃ t k, (t, 1, k) ∈ starts L off ∧ t ≤ a ∧ a + nb ≤ t + k := by
  induction L generalizing off with
  | nil => simp only [usum] at hb; omega
  | cons r l ih =>
    have ⟨hr, hst⟩ := hm r List.mem_cons_self
    have hml := fun x hx => hm x (List.mem_cons_of_mem _ hx)
    have hnal : NoAdjE l := ((noadj_iff [] l r).1 hna).2.1
    simp only [usum] at hb
    by_cases hcase : off + r.2 ≤ a
    · obtain ⟨t, k, h1, h2, h3⟩ := ih (off + r.2) hml hnal hcase (by omega)
        (fun t u hm => hfree t u (by simp only [starts, List.mem_cons]; exact Or.inr hm))
      exact ⟨t, k, by simp only [starts, List.mem_cons]; exact Or.inr h1, h2, h3⟩
    · rcases hst with h1 | h2
      · by_cases hfit : a + nb ≤ off + r.2
        · exact ⟨off, r.2, by simp only [starts, List.mem_cons]; exact Or.inl (by rw [h1]), ha, hfit⟩
        · exfalso
          cases l with
          | nil => simp only [usum] at hb; omega
          | cons r' l' =>
            have ⟨hr', hst'⟩ := hml r' List.mem_cons_self
            have h2' : r'.1 = 2 := hst'.resolve_left fun h => hna.1 ⟨h1, h⟩
            have := hfree (off + r.2) r'.2 (by simp [starts, h2'])
            omega
      · exfalso
        have := hfree off r.2 (by simp [starts, h2])
        omega

end ParsecVerif.Zone
