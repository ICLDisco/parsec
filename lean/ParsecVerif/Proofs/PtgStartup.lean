import ParsecVerif.Model.PtgStartup
import ParsecVerif.Proofs.Ptg
/-! The cursor of the chunked startup enumeration resumes exactly where the previous invocation stopped, and the
    batches of all invocations concatenate to the startup instances of the space (C16). -/
namespace ParsecVerif.PtgStartup
open ParsecVerif.Ptg

def after {α : Type} [DecidableEq α] (x : α) : List α → List α
  | [] => []
  | y :: ys => if y = x then ys else after x ys

section after
variable {α : Type} [DecidableEq α]

theorem after_eq_drop (x : α) (l : List α) : after x l = l.drop (l.idxOf x + 1) := by
  induction l with
  | nil => rfl
  | cons y ys ih => by_cases hy : y = x <;> simp [after, List.idxOf_cons, hy, ih, beq_eq_false_iff_ne.2]

theorem after_split (x : α) (A B : List α) (h : x ∉ A) : after x (A ++ x :: B) = B := by
  simp [after_eq_drop, List.idxOf_append, h]

theorem mem_of_mem_after (x y : α) (l : List α) (h : y ∈ after x l) : y ∈ l :=
  List.mem_of_mem_drop (after_eq_drop x l ▸ h)

theorem after_length_lt (x : α) (l : List α) (h : x ∈ l) : (after x l).length < l.length := by
  have := List.idxOf_lt_length_of_mem h
  rw [after_eq_drop, List.length_drop]; omega

theorem after_flatMap_map {β γ : Type} [DecidableEq β] [DecidableEq γ] {g : α → List β} {f : α → β → γ}
    (hf : ∀ a b a' b', f a b = f a' b' → a = a' ∧ b = b') {v : α} {b : β} (hb : b ∈ g v) (l : List α) (hv : v ∈ l) :
    after (f v b) (l.flatMap fun a => (g a).map (f a)) =
      (after b (g v)).map (f v) ++ (after v l).flatMap fun a => (g a).map (f a) := by
  obtain ⟨A, B, rfl, hA⟩ := List.eq_append_cons_of_mem hv
  obtain ⟨C, D, hg, hC⟩ := List.eq_append_cons_of_mem hb
  rw [after_split v A B hA, hg, after_split b C D hC]
  -- the nested enumeration is (loops of `A`, then `C` under `v`), `f v b`, (`D` under `v`, then the loops of `B`)
  simp only [List.flatMap_append, List.flatMap_cons, hg, List.map_append, List.map_cons, List.append_assoc, List.cons_append]
  rw [← List.append_assoc, after_split]
  intro hm
  rcases List.mem_append.1 hm with hm | hm
  · obtain ⟨a, ha, hm⟩ := List.mem_flatMap.1 hm
    obtain ⟨b', _, e⟩ := List.mem_map.1 hm
    exact hA ((hf _ _ _ _ e).1 ▸ ha)
  · obtain ⟨b', hb', e⟩ := List.mem_map.1 hm
    exact hC ((hf _ _ _ _ e).2 ▸ hb')

end after

theorem rangeVals_unfold (lo hi st : Int) (hs : 0 < st) :
    rangeVals lo hi st = if lo ≤ hi then lo :: rangeVals (lo + st) hi st else [] := by
  have hdiv : (hi - lo) / st = (hi - (lo + st)) / st + 1 := by
    rw [← Int.add_mul_ediv_left _ 1 (by omega : st ≠ 0)]; congr 1; omega
  simp only [rangeVals_eq_loopVals, hs, if_true, loopVals, ← hdiv]
  split
  · rw [Int.toNat_add (Int.ediv_nonneg (by omega) (Int.le_of_lt hs)) (by decide)]
    simp [List.range_succ_eq_map, Function.comp_def, Int.mul_add, Int.add_assoc, Int.add_comm st]
  · rw [Int.toNat_of_nonpos (Int.ediv_neg_of_neg_of_pos (by omega) hs)]; rfl

theorem rangeVals_after {lo hi st v : Int} (hs : 0 < st) (hv : v ∈ rangeVals lo hi st) :
    rangeVals (v + st) hi st = after v (rangeVals lo hi st) := by
  induction hn : (rangeVals lo hi st).length generalizing lo with
  | zero => rw [List.length_eq_zero_iff.1 hn] at hv; cases hv
  | succ n ih =>
    rw [rangeVals_unfold lo hi st hs] at hn hv ⊢
    by_cases hle : lo ≤ hi
    · simp only [hle, if_true] at hn hv ⊢
      simp only [after]
      by_cases hlv : lo = v
      · simp [hlv]
      · simp only [hlv, if_false]
        exact ih ((List.mem_cons.1 hv).resolve_left (Ne.symm hlv)) (by simpa using hn)
    · simp only [hle, if_false] at hv; cases hv

theorem resumeSem_eq (ds : List LocalSem) : ∀ (pre env : List Int), StepsPositive ds pre → env ∈ enumSem ds pre →
    resumeSem ds pre env = some (after env (enumSem ds pre)) := by
  intro pre env hpos he
  refine enumSem_induction (P := fun ds pre env => StepsPositive ds pre → resumeSem ds pre env = some (after env (enumSem ds pre)))
    (fun _ _ => by simp [resumeSem, enumSem, after]) (fun d ds pre v env' hv he' ih hpos => ?_) ds pre env he hpos
  rw [enumSem_cons, after_flatMap_map (f := fun w t => w :: t) (fun _ _ _ _ h => List.cons.inj h) he' _ hv]
  cases d with
  | range lo hi st =>
    obtain ⟨hs, hrec⟩ := hpos
    change v ∈ rangeVals _ _ _ at hv
    have h3 := optFlatMap_some (after v (rangeVals (lo pre) (hi pre) (st pre)))
      (fun w => (startupSem ds (pre ++ [w])).map (·.map (w :: ·))) (fun w => (enumSem ds (pre ++ [w])).map (w :: ·))
      fun w hw => by rw [startupSem_eq ds (pre ++ [w]) (hrec w (mem_of_mem_after v w _ hw))]; rfl
    simp only [resumeSem, ih (hrec v hv), startupVals_pos _ _ _ hs, rangeVals_after hs hv, h3, Option.map_some,
      LocalSem.vals]
  | expr f =>
    cases List.mem_singleton.1 hv
    simp only [StepsPositive] at hpos
    simp [resumeSem, ih hpos, LocalSem.vals, after]

/-- what an invocation entered with `ring` filled and `total` tasks scheduled does on the points `pts`: it runs to the
    end, or stops right after a kept point `x` with more than `chunk` tasks scheduled; either way the rings it hands over
    hold, in order, `ring` and the kept points it went through -/
def Outcome (chunk : Nat) (keep : List Int → Bool) (pts : List (List Int)) (total : Nat) (ring : List (List Int))
    (r : Invocation) : Prop :=
  (r.cursor = none ∧ r.batches.flatten = ring ++ pts.filter keep) ∨
  ∃ x A B, r.cursor = some x ∧ pts = A ++ x :: B ∧ keep x = true ∧ r.batches.flatten = ring ++ A.filter keep ++ [x] ∧
    chunk < total + r.batches.flatten.length

/-- `bs`: the rings closed while handling `x`; `ring'`: the ring left open -/
theorem Outcome.cons {chunk : Nat} {keep : List Int → Bool} {rest : List (List Int)} {total : Nat}
    {ring ring' : List (List Int)} {r : Invocation} (x : List Int) (bs : List (List (List Int)))
    (h : Outcome chunk keep rest (total + bs.flatten.length) ring' r) (hr : bs.flatten ++ ring' = ring ++ [x].filter keep) :
    Outcome chunk keep (x :: rest) total ring ⟨bs ++ r.batches, r.cursor⟩ := by
  have hf : ∀ A : List (List Int), ring ++ (x :: A).filter keep = bs.flatten ++ ring' ++ A.filter keep := fun A => by
    rw [hr, List.append_assoc]; exact congrArg _ (List.filter_append [x] A)
  rcases h with ⟨hc, hb⟩ | ⟨y, A, B, hc, rfl, hky, hb, hlen⟩
  · exact .inl ⟨hc, by rw [hf, List.flatten_append, hb, List.append_assoc]⟩
  · exact .inr ⟨y, x :: A, B, hc, rfl, hky, by rw [hf, List.flatten_append, hb]; simp only [List.append_assoc],
      by rw [List.flatten_append, List.length_append, ← Nat.add_assoc]; exact hlen⟩

theorem invokeGo_spec (iter chunk : Nat) (keep : List Int → Bool) (pts : List (List Int)) (reserved total : Nat)
    (ring : List (List Int)) : Outcome chunk keep pts total ring (invokeGo iter chunk keep pts reserved total ring) := by
  -- one case per return path: no point left; stop after `x`; `x` closes the ring; `x` joins the ring; `x` is not kept
  fun_induction invokeGo iter chunk keep pts reserved total ring with
  | case1 _ _ ring => exact .inl ⟨rfl, by cases ring <;> simp⟩
  | case2 x rest reserved total ring hk _ hbig => exact .inr ⟨x, [], rest, rfl, rfl, hk, by simp, by simp; omega⟩
  | case3 x rest reserved total ring hk _ _ r ih => exact .cons x [ring ++ [x]] (by simpa using ih) (by simp [hk])
  | case4 x rest reserved total ring hk _ ih => exact .cons x [] ih (by simp [hk])
  | case5 x rest reserved total ring hk ih => exact .cons x [] ih (by simp [hk])

theorem startupRunGo_spec (iter chunk : Nat) (keep : List Int → Bool) (ds : List LocalSem) :
    ∀ (fuel : Nat) (cur : Option (List Int)) (rem : List (List Int)), rem.length < fuel → entryPts ds cur = some rem →
      (∀ x A B, rem = A ++ x :: B → entryPts ds (some x) = some B) →
      ∃ front last, startupRunGo iter chunk keep ds fuel cur = some (front ++ [last]) ∧
        (front ++ [last]).flatten.flatten = rem.filter keep ∧ ∀ inv ∈ front, chunk < inv.flatten.length := by
  intro fuel
  induction fuel with
  | zero => intro _ _ h; omega
  | succ fuel ih =>
    intro cur rem hlen hpts hres
    simp only [startupRunGo, hpts]
    rcases invokeGo_spec iter chunk keep rem 1 0 [] with ⟨hc, hb⟩ | ⟨x, A, B, hc, rfl, hkx, hb, hbig⟩
    · simp only [invoke, hc]
      exact ⟨[], _, rfl, by simpa using hb, nofun⟩
    · simp only [invoke, hc]
      obtain ⟨front, last, h1, h2, h4⟩ := ih (some x) B (by simp at hlen; omega) (hres x A B rfl)
        fun y A' B' h => hres y (A ++ x :: A') B' (by rw [h]; simp)
      refine ⟨_ :: front, last, by rw [h1]; rfl, ?_, List.forall_mem_cons.2 ⟨by rwa [Nat.zero_add] at hbig, h4⟩⟩
      rw [List.cons_append, List.flatten_cons, List.flatten_append, hb, h2]
      simp [List.filter_append, hkx]

theorem startupRun_spec (iter chunk : Nat) (keep : List Int → Bool) (ds : List LocalSem) (hpos : StepsPositive ds []) :
    ∃ invs, startupRun iter chunk keep ds = some invs ∧ invs.flatten.flatten = (enumSem ds []).filter keep ∧
      invs ≠ [] ∧ ∀ inv ∈ invs.dropLast, chunk < inv.flatten.length := by
  unfold startupRun
  rw [startupSem_eq ds [] hpos]
  obtain ⟨front, last, h1, h2, h3⟩ :=
    startupRunGo_spec iter chunk keep ds _ none _ (Nat.lt_add_of_pos_right Nat.two_pos) (startupSem_eq ds [] hpos) fun x A B h => by
      -- the saved cursor `x` occurs once in the enumeration: the next entry resumes with exactly `B`
      have hnd := nodup_enumSem ds []
      rw [h] at hnd
      show resumeSem ds [] x = _
      rw [resumeSem_eq ds [] x hpos (by rw [h]; simp), h,
        after_split x A B fun hm => (List.nodup_append.1 hnd).2.2 x hm x List.mem_cons_self rfl]
  exact ⟨_, h1, h2, by simp, by rwa [List.dropLast_concat]⟩

end ParsecVerif.PtgStartup
