import ParsecVerif.Model.Zone
/-! C28 (zone allocator), the free lists: the sorted map standing for the rb-tree, and the two updates to which every
    branch of `zone_malloc` and `zone_free` comes down, `flDel` (a segment leaves the list of its size) and
    `flFindOrInsertPush`. -/
namespace ParsecVerif.Zone

def Sorted (fl : FL) : Prop := fl.Pairwise (fun a b => a.1 < b.1)

theorem flFind_eq_none {fl : FL} {x : Nat} : flFind fl x = none ↔ ∀ e ∈ fl, e.1 ≠ x := by
  induction fl with
  | nil => simp [flFind]
  | cons e r ih =>
    obtain ⟨k, b⟩ := e
    simp only [flFind, List.forall_mem_cons, ← ih]
    split <;> simp [*]

theorem flFind_set (fl : FL) (k x : Nat) (b : List Nat) :
    flFind (flSet fl k b) x = if x = k then (flFind fl k).map (fun _ => b) else flFind fl x := by
  induction fl with
  | nil => simp [flSet, flFind]
  | cons e r ih =>
    obtain ⟨k', b'⟩ := e
    by_cases h1 : k' = k <;> by_cases h2 : k' = x <;> by_cases h3 : x = k <;>
      simp_all [flSet, flFind] <;> omega

theorem flFind_remove (fl : FL) (hs : Sorted fl) (k x : Nat) :
    flFind (flRemoveKey fl k) x = if x = k then none else flFind fl x := by
  induction fl with
  | nil => simp [flRemoveKey, flFind]
  | cons e r ih =>
    obtain ⟨k', b'⟩ := e
    have ⟨hlt, hs'⟩ := List.pairwise_cons.1 hs
    simp only [flRemoveKey, flFind]
    by_cases h1 : k' = k
    · subst h1
      rw [if_pos rfl]
      by_cases h3 : x = k'
      · subst h3; rw [if_pos rfl]; exact flFind_eq_none.2 fun e he => Nat.ne_of_gt (hlt e he)
      · rw [if_neg h3, if_neg (Ne.symm h3)]
    · rw [if_neg h1]
      simp only [flFind, ih hs']
      by_cases h3 : x = k
      · subst h3; simp only [↓reduceIte, h1]
      · rw [if_neg h3, if_neg h3]

theorem flFind_insert (fl : FL) (k x : Nat) (b : List Nat) (hk : flFind fl k = none) :
    flFind (flInsert fl k b) x = if x = k then some b else flFind fl x := by
  rw [flFind_eq_none] at hk
  induction fl with
  | nil => simp only [flInsert, flFind, eq_comm]
  | cons e r ih =>
    obtain ⟨k', b'⟩ := e
    obtain ⟨hne, hk⟩ := List.forall_mem_cons.1 hk
    simp only [flInsert]
    split
    · simp only [flFind, eq_comm]
    · simp only [flFind, ih hk]
      by_cases h3 : x = k
      · subst h3; simp only [↓reduceIte, hne]
      · rw [if_neg h3, if_neg h3]

theorem keys_set (fl : FL) (k : Nat) (b : List Nat) : (flSet fl k b).map (·.1) = fl.map (·.1) := by
  induction fl with
  | nil => rfl
  | cons e r ih =>
    obtain ⟨k', b'⟩ := e
    simp only [flSet]
    by_cases h : k' = k
    · subst h; simp
    · rw [if_neg h]; simp [ih]

theorem sorted_set (fl : FL) (hs : Sorted fl) (k : Nat) (b : List Nat) : Sorted (flSet fl k b) :=
  List.pairwise_map.1 (keys_set fl k b ▸ List.pairwise_map.2 hs : ((flSet fl k b).map (·.1)).Pairwise (· < ·))

theorem remove_sublist (fl : FL) (k : Nat) : (flRemoveKey fl k).Sublist fl := by
  induction fl with
  | nil => exact List.Sublist.slnil
  | cons e r ih =>
    obtain ⟨k', b'⟩ := e
    simp only [flRemoveKey]
    by_cases h : k' = k
    · rw [if_pos h]; exact List.sublist_cons_self _ _
    · rw [if_neg h]; exact ih.cons_cons _

theorem sorted_remove (fl : FL) (hs : Sorted fl) (k : Nat) : Sorted (flRemoveKey fl k) :=
  List.Pairwise.sublist (remove_sublist fl k) hs

theorem mem_insert (fl : FL) (k : Nat) (b : List Nat) (e : Nat × List Nat) :
    e ∈ flInsert fl k b ↔ e = (k, b) ∨ e ∈ fl := by
  induction fl with
  | nil => simp [flInsert]
  | cons e' r ih =>
    obtain ⟨k', b'⟩ := e'
    simp only [flInsert]
    by_cases h : k < k'
    · rw [if_pos h]; simp
    · rw [if_neg h]; simp only [List.mem_cons, ih]
      exact or_left_comm

theorem sorted_insert (fl : FL) (hs : Sorted fl) (k : Nat) (b : List Nat) (hk : flFind fl k = none) :
    Sorted (flInsert fl k b) := by
  rw [flFind_eq_none] at hk
  induction fl with
  | nil => simp [flInsert, Sorted]
  | cons e r ih =>
    obtain ⟨k', b'⟩ := e
    have ⟨hlt, hs'⟩ := List.pairwise_cons.1 hs
    obtain ⟨hne, hk⟩ := List.forall_mem_cons.1 hk
    simp only [flInsert]
    split
    · next h1 => exact List.pairwise_cons.2 ⟨List.forall_mem_cons.2 ⟨h1, fun e he => Nat.lt_trans h1 (hlt e he)⟩, hs⟩
    · next h1 =>
      refine List.pairwise_cons.2 ⟨fun e he => ?_, ih hs' hk⟩
      rcases (mem_insert r k b e).1 he with rfl | he
      · exact Nat.lt_of_le_of_ne (Nat.le_of_not_lt h1) hne
      · exact hlt e he

theorem flFind_of_mem (fl : FL) (hs : Sorted fl) (k : Nat) (b : List Nat) (h : (k, b) ∈ fl) :
    flFind fl k = some b := by
  induction fl with
  | nil => cases h
  | cons e r ih =>
    obtain ⟨k', b'⟩ := e
    have ⟨hlt, hs'⟩ := List.pairwise_cons.1 hs
    simp only [flFind]
    rcases List.mem_cons.1 h with h | h
    · cases h; exact if_pos rfl
    · rw [if_neg (Nat.ne_of_lt (hlt _ h))]
      exact ih hs' h

theorem mem_of_flFind (fl : FL) (k : Nat) (b : List Nat) (h : flFind fl k = some b) : (k, b) ∈ fl := by
  induction fl with
  | nil => cases h
  | cons e r ih =>
    obtain ⟨k', b'⟩ := e
    simp only [flFind] at h
    split at h
    · next h1 => cases h; cases h1; exact List.mem_cons_self
    · exact List.mem_cons_of_mem _ (ih h)

theorem findOrLarger_eq_find? (fl : FL) (x : Nat) : flFindOrLarger fl x = fl.find? (fun e => decide (x ≤ e.1)) := by
  induction fl with
  | nil => rfl
  | cons e r ih =>
    obtain ⟨k, b⟩ := e
    by_cases h : x ≤ k <;> simp [flFindOrLarger, ih, h]

theorem findOrLarger_some {fl : FL} (hs : Sorted fl) {x k : Nat} {b : List Nat}
    (h : flFindOrLarger fl x = some (k, b)) :
    flFind fl k = some b ∧ x ≤ k ∧ ∀ k' b', flFind fl k' = some b' → x ≤ k' → k ≤ k' := by
  rw [findOrLarger_eq_find?, List.find?_eq_some_iff_append] at h
  obtain ⟨hp, as, bs, rfl, has⟩ := h
  refine ⟨flFind_of_mem _ hs k b (by simp), by simpa using hp, fun k' b' hf hx => ?_⟩
  rcases List.mem_append.1 (mem_of_flFind _ _ _ hf) with hm | hm
  · have := has _ hm
    simp only [Bool.not_eq_eq_eq_not, Bool.not_true, decide_eq_false_iff_not] at this
    omega
  · rcases List.mem_cons.1 hm with h | h
    · cases h; exact Nat.le_refl _
    · exact Nat.le_of_lt ((List.pairwise_cons.1 (List.pairwise_append.1 hs).2.1).1 _ h)

theorem findOrLarger_none (fl : FL) (x : Nat) (h : flFindOrLarger fl x = none) :
    ∀ k' b', flFind fl k' = some b' → k' < x := by
  rw [findOrLarger_eq_find?, List.find?_eq_none] at h
  intro k' b' hf
  simpa using h _ (mem_of_flFind _ _ _ hf)

def flDel (fl : FL) (k t : Nat) : FL :=
  if (bucket fl k).erase t = [] then flRemoveKey fl k else flSet fl k ((bucket fl k).erase t)

/-- `good`: no node of the tree carries an empty list, because the code re-keys or retires a chunk list in the same
    call that empties it (`flSplitEmptied`, `flAfterRemove`, the exact-fit branch of `mallocAt`) -/
structure FLOk (fl : FL) : Prop where
  sorted : Sorted fl
  good : ∀ k b, flFind fl k = some b → b ≠ [] ∧ b.Nodup

theorem bucket_nodup {fl : FL} (h : FLOk fl) (k : Nat) : (bucket fl k).Nodup := by
  unfold bucket
  cases hf : flFind fl k with
  | none => simp
  | some b => exact (h.good k b hf).2

theorem bucket_of_find {fl : FL} {k : Nat} {b : List Nat} (h : flFind fl k = some b) : bucket fl k = b := by
  unfold bucket; rw [h]; rfl

theorem find_of_mem_bucket {fl : FL} {k t : Nat} (h : t ∈ bucket fl k) : ∃ b, flFind fl k = some b := by
  unfold bucket at h
  cases hf : flFind fl k with
  | none => rw [hf] at h; simp at h
  | some b => exact ⟨b, rfl⟩

theorem flFind_flDel (fl : FL) (hs : Sorted fl) (k t x : Nat) :
    flFind (flDel fl k t) x =
      if x = k then (if (bucket fl k).erase t = [] then none else some ((bucket fl k).erase t)) else flFind fl x := by
  unfold flDel
  split
  · rw [flFind_remove fl hs]
  · next he =>
    rw [flFind_set]
    cases hf : flFind fl k with
    | none => simp [bucket, hf] at he
    | some _ => rfl

theorem bucket_flDel (fl : FL) (hs : Sorted fl) (k t x : Nat) :
    bucket (flDel fl k t) x = if x = k then (bucket fl k).erase t else bucket fl x := by
  unfold bucket
  rw [flFind_flDel fl hs]
  split
  · split
    · next he => exact he.symm
    · rfl
  · rfl

theorem flok_flDel {fl : FL} (h : FLOk fl) (k t : Nat) : FLOk (flDel fl k t) := by
  constructor
  · unfold flDel; split
    · exact sorted_remove fl h.sorted k
    · exact sorted_set fl h.sorted k _
  · intro x b hb
    rw [flFind_flDel fl h.sorted] at hb
    split at hb
    · split at hb
      · cases hb
      · next he => cases hb; exact ⟨he, (bucket_nodup h k).erase t⟩
    · exact h.good x b hb

theorem mem_bucket_flDel {fl : FL} (h : FLOk fl) (k t x t' : Nat) :
    t' ∈ bucket (flDel fl k t) x ↔ t' ∈ bucket fl x ∧ ¬(x = k ∧ t' = t) := by
  rw [bucket_flDel fl h.sorted]
  by_cases hx : x = k
  · subst hx
    rw [if_pos rfl, (bucket_nodup h x).mem_erase_iff]
    simp [and_comm]
  · rw [if_neg hx]; simp [hx]

theorem flFind_findOrInsertPush (fl : FL) (k t x : Nat) :
    flFind (flFindOrInsertPush fl k t) x = if x = k then some (t :: bucket fl k) else flFind fl x := by
  unfold flFindOrInsertPush flPushFront
  cases hf : flFind fl k with
  | some b => simp [flFind_set, hf]
  | none =>
    simp only [bucket, flFind_set, flFind_insert fl k _ [] hf, hf]
    split <;> rfl

theorem flok_findOrInsertPush {fl : FL} (h : FLOk fl) (k t : Nat) (hn : t ∉ bucket fl k) :
    FLOk (flFindOrInsertPush fl k t) := by
  constructor
  · unfold flFindOrInsertPush
    cases hf : flFind fl k with
    | some b => exact sorted_set fl h.sorted k _
    | none => exact sorted_set _ (sorted_insert fl h.sorted k [] hf) k _
  · intro x b hb
    rw [flFind_findOrInsertPush] at hb
    split at hb
    · cases hb; exact ⟨List.cons_ne_nil _ _, List.nodup_cons.2 ⟨hn, bucket_nodup h k⟩⟩
    · exact h.good x b hb

theorem mem_bucket_findOrInsertPush (fl : FL) (k t x t' : Nat) :
    t' ∈ bucket (flFindOrInsertPush fl k t) x ↔ (x = k ∧ t' = t) ∨ t' ∈ bucket fl x := by
  unfold bucket
  rw [flFind_findOrInsertPush]
  by_cases hx : x = k
  · subst hx; simp [bucket]
  · simp [hx]

theorem remove_set (fl : FL) (k : Nat) (b : List Nat) : flRemoveKey (flSet fl k b) k = flRemoveKey fl k := by
  induction fl with
  | nil => rfl
  | cons e r ih =>
    obtain ⟨k', b'⟩ := e
    simp only [flSet]
    split
    · next h => simp [flRemoveKey, h]
    · next h => simp [flRemoveKey, h, ih]

theorem updateKey_emptied (fl : FL) (k m : Nat) (h : m ≠ k) :
    flUpdateKey (flSet fl k []) k m =
      if (flFind fl m).isSome then none else some (flInsert (flRemoveKey fl k) m []) := by
  have hb : bucket (flSet fl k []) k = [] := by
    unfold bucket; rw [flFind_set, if_pos rfl]; cases flFind fl k <;> rfl
  unfold flUpdateKey
  rw [flFind_set, if_neg h, remove_set, hb]
  cases flFind fl m <;> rfl

theorem set_insert_comm (fl : FL) (m k : Nat) (c b : List Nat) (h : k ≠ m) :
    flSet (flInsert fl m c) k b = flInsert (flSet fl k b) m c := by
  induction fl with
  | nil => simp [flInsert, flSet, Ne.symm h]
  | cons e r ih =>
    obtain ⟨k', b'⟩ := e
    simp only [flInsert, flSet]
    by_cases h1 : m < k' <;> by_cases h2 : k' = k
    · subst h2; simp [flInsert, flSet, h1, Ne.symm h]
    · simp [flInsert, flSet, h1, h2, Ne.symm h]
    · subst h2; simp [flInsert, flSet, h1]
    · simp [flInsert, flSet, h1, h2, ih]

theorem insert_lt_all (r : FL) (m : Nat) (c : List Nat) (h : ∀ e ∈ r, m < e.1) : flInsert r m c = (m, c) :: r := by
  cases r with
  | nil => rfl
  | cons e r =>
    obtain ⟨k', b'⟩ := e
    have := h (k', b') List.mem_cons_self
    simp only at this
    simp [flInsert, this]

theorem remove_insert_comm (fl : FL) (hs : Sorted fl) (m k : Nat) (c : List Nat) (h : k ≠ m) :
    flRemoveKey (flInsert fl m c) k = flInsert (flRemoveKey fl k) m c := by
  induction fl with
  | nil => simp [flInsert, flRemoveKey, Ne.symm h]
  | cons e r ih =>
    obtain ⟨k', b'⟩ := e
    have hs' : Sorted r := (List.pairwise_cons.1 hs).2
    have hlt : ∀ e ∈ r, k' < e.1 := (List.pairwise_cons.1 hs).1
    simp only [flInsert, flRemoveKey]
    by_cases h1 : m < k' <;> by_cases h2 : k' = k
    · subst h2; simp only [flRemoveKey, h1, Ne.symm h, if_true, if_false]
      rw [insert_lt_all r m c (fun e he => by have := hlt e he; omega)]
    · simp [flInsert, flRemoveKey, h1, h2, Ne.symm h]
    · subst h2; simp [flRemoveKey, h1]
    · simp [flInsert, flRemoveKey, h1, h2, ih hs']

/-- the free lists inside `zone_free`: `D`, with an empty node already keyed by the merged size `m` when `reuse` is set -/
def Mid (reuse : Bool) (m : Nat) (D : FL) : FL := if reuse then flInsert D m [] else D

/-- every branch of `mallocAt` (emptied list re-keyed, retired, or kept) comes to this -/
theorem mallocAt_fl (s : St) (hs : Sorted s.fl) (nb k t st p : Nat) (rest : List Nat)
    (h0 : 0 < nb) (hf : flFind s.fl k = some (t :: rest)) :
    (mallocAt s nb k t rest ⟨st, k, p⟩).fl =
      if k > nb then flFindOrInsertPush (flDel s.fl k t) (k - nb) (t + nb) else flDel s.fl k t := by
  have hb : (bucket s.fl k).erase t = rest := by simp [bucket, hf]
  have hdel : flDel s.fl k t = if rest = [] then flRemoveKey s.fl k else flSet s.fl k rest := by rw [flDel, hb]
  unfold mallocAt
  dsimp only
  split
  · next hk =>
    simp only [hdel]
    split
    · next hr =>
      subst hr
      have h2 : flFind (flRemoveKey s.fl k) (k - nb) = flFind s.fl (k - nb) := by rw [flFind_remove _ hs, if_neg (by omega)]
      simp only [flSplitEmptied, updateKey_emptied s.fl k (k - nb) (by omega), flFindOrInsertPush, h2, remove_set]
      cases flFind s.fl (k - nb) <;> rfl
    · rfl
  · simp only [hdel, remove_set]

theorem bucket_mid (D : FL) (m k : Nat) (r : Bool) (hr : r = true → flFind D m = none) (hk : k ≠ m) :
    bucket (Mid r m D) k = bucket D k := by
  unfold Mid bucket
  cases r with
  | false => rfl
  | true => simp only [if_true]; rw [flFind_insert D m k [] (hr rfl), if_neg hk]

def IsMid (fl : FL) (r : Bool) (m : Nat) (D : FL) : Prop := fl = Mid r m D ∧ (r = true → flFind D m = none)

theorem isMid_start (fl : FL) (m : Nat) : IsMid fl false m fl := ⟨rfl, nofun⟩

/-- whichever branch `flAfterRemove` takes (list not emptied; node re-keyed to `m` for reuse; node retired, because
    one is already kept or the key `m` is taken), the map stood for loses just `t` from the list of size `k` -/
theorem afterRemove_spec {fl D : FL} {r : Bool} {m k : Nat} (h : IsMid fl r m D) (hs : Sorted D) (t : Nat) (hk : k ≠ m) :
    IsMid (flAfterRemove fl r k t m).1 (flAfterRemove fl r k t m).2 m (flDel D k t) := by
  obtain ⟨rfl, hr⟩ := h
  have hfd : flFind (flDel D k t) m = flFind D m := by rw [flFind_flDel D hs, if_neg (Ne.symm hk)]
  unfold flAfterRemove
  rw [bucket_mid D m k r hr hk]
  by_cases he : (bucket D k).erase t = []
  · rw [if_pos he]
    have hdel : flDel D k t = flRemoveKey D k := by unfold flDel; rw [if_pos he]
    cases r with
    | true =>
      refine ⟨?_, fun _ => hfd.trans (hr rfl)⟩
      simp only [if_true, Mid]
      rw [remove_set, remove_insert_comm D hs m k [] hk, hdel]
    | false =>
      simp only [Mid, Bool.false_eq_true, if_false]
      unfold flReuseOrRetire
      rw [updateKey_emptied D k m (Ne.symm hk)]
      cases hf : flFind D m with
      | none => exact ⟨by simp [hdel, Mid], fun _ => hfd.trans hf⟩
      | some b => exact ⟨by simp [hdel, remove_set, Mid], nofun⟩
  · rw [if_neg he]
    have hdel : flDel D k t = flSet D k ((bucket D k).erase t) := by unfold flDel; rw [if_neg he]
    refine ⟨?_, fun h => hfd.trans (hr h)⟩
    cases r with
    | true => simp only [Mid, if_true]; rw [set_insert_comm D m k [] _ hk, hdel]
    | false => simp only [Mid, Bool.false_eq_true, if_false]; rw [hdel]

theorem freeFinal_spec {c : FCtx} {D : FL} {m : Nat} (h : IsMid c.fl c.reuse m D) (hu : unitsOf c.segs[c.ctid]? = m) :
    freeFinal c m = flFindOrInsertPush D m c.ctid := by
  unfold freeFinal
  rw [h.1]
  cases hr : c.reuse with
  | true => simp only [if_true, Mid]; unfold flFindOrInsertPush; rw [h.2 hr]
  | false => simp only [Bool.false_eq_true, if_false, Mid]; rw [hu]
end ParsecVerif.Zone
