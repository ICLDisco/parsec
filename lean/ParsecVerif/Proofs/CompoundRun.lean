import ParsecVerif.Proofs.CompoundInv
/-! The transitions of the compound machine (`cstep?` as the relation `CStep`) and the preservation of the invariant `GI`
    by each of them. -/
namespace ParsecVerif.Compound
open ParsecVerif.Context
open ParsecVerif.Interleave (lt_of_getElem? getElem?_set_of_getElem? set_getElem?_self map_set_of_eq)

variable {cs cs' : CSt}

/-- The tail shared by the callback of a plain member and the notification by a nested compound, the context being
    at `s1`: release one pending action of the compound object, count the member, enable the next one if some remain. -/
def Advance (cs : CSt) (t c0 : Nat) (comp : Comp) (s1 : St) (cs' : CSt) : Prop :=
  ∃ s2, step? s1 (.actionDone t comp.self) = some s2 ∧
    ((comp.pending - 1 > 0 ∧ ∃ (nx : Nat) (s3 : St), comp.members[comp.completed + 1]? = some nx ∧
        step? s2 (.addCall t nx) = some s3 ∧
        cs' = { base := s3,
                comps := cs.comps.set c0 { comp with completed := comp.completed + 1, pending := comp.pending - 1 } }) ∨
     (¬ comp.pending - 1 > 0 ∧
        cs' = { base := s2,
                comps := cs.comps.set c0 { comp with completed := comp.completed + 1, pending := comp.pending - 1 } }))

inductive CStep (cs : CSt) : CTr → CSt → Prop
  | ctx {tr s'} (ha : ctxAllowed cs tr = true) (hs : step? cs.base tr = some s') :
      CStep cs (.ctx tr) { cs with base := s' }
  | startup {t c comp m0 s1 s'} (hc : cs.comps[c]? = some comp) (h0 : comp.members.head? = some m0)
      (hsub : cs.base.subs[t]? = some (.startup comp.self))
      (h1 : step? cs.base (.startupReady t comp.members.length) = some s1) (h2 : step? s1 (.startupAdd t m0) = some s') :
      CStep cs (.startup t c) { base := s', comps := cs.comps.set c { comp with pending := comp.members.length } }
  | memberCb {t c m comp s1 cs'} (hc : cs.comps[c]? = some comp) (hm : m ∈ comp.members ∧ m ∉ allSelfs cs.comps)
      (h1 : step? cs.base (.detect t m) = some s1) (ha : Advance cs t c comp s1 cs') : CStep cs (.memberCb t c m) cs'
  | compCb {t p c par ch cs'} (hp : cs.comps[p]? = some par) (hc : cs.comps[c]? = some ch)
      (hg : par.members[par.completed]? = some ch.self ∧ ((cs.base.nests[t]?).getD []).head? = some ch.self ∧ p ≠ c)
      (ha : Advance cs t p par cs.base cs') : CStep cs (.compCb t p c) cs'

theorem CStep.of_cstep? {tr : CTr} (hs : cstep? cs tr = some cs') : CStep cs tr cs' := by
  cases tr <;> simp only [cstep?, Bool.and_eq_true, Bool.not_eq_true', List.contains_eq_mem, decide_eq_true_eq,
    decide_eq_false_iff_not] at hs <;> (repeat' first | cases hs | split at hs) <;>
    (try obtain ⟨_, _, rfl⟩ := Option.map_eq_some_iff.1 hs)
  · exact .ctx ‹_› ‹_›
  · exact .startup ‹_› ‹_› ‹_› ‹_› ‹_›
  · exact .memberCb ‹_› ‹_› ‹_› ⟨_, ‹_›, .inl ⟨‹_›, _, _, ‹_›, ‹_›, rfl⟩⟩
  · exact .memberCb ‹_› ‹_› ‹_› ⟨_, ‹_›, .inr ⟨‹_›, rfl⟩⟩
  · exact .compCb ‹_› ‹_› ‹_› ⟨_, ‹_›, .inl ⟨‹_›, _, _, ‹_›, ‹_›, rfl⟩⟩
  · exact .compCb ‹_› ‹_› ‹_› ⟨_, ‹_›, .inr ⟨‹_›, rfl⟩⟩

theorem Advance.comps {t c0 : Nat} {comp : Comp} {s1 : St} (h : Advance cs t c0 comp s1 cs')
    (hcomp : cs.comps[c0]? = some comp) :
    cs'.comps.map (fun c => (c.self, c.members)) = cs.comps.map (fun c => (c.self, c.members)) := by
  obtain ⟨_, _, ⟨_, _, _, _, _, rfl⟩ | ⟨_, rfl⟩⟩ := h <;> exact map_set_of_eq hcomp rfl

theorem cstep?_comps {tr : CTr} (hs : cstep? cs tr = some cs') :
    cs'.comps.map (fun c => (c.self, c.members)) = cs.comps.map (fun c => (c.self, c.members)) := by
  cases CStep.of_cstep? hs with
  | ctx => rfl
  | startup hc => exact map_set_of_eq hc rfl
  | memberCb hc _ _ ha => exact ha.comps hc
  | compCb hp _ _ ha => exact ha.comps hp

/-- All of `GI` but the chain and object clauses of compound `c0`, the context being at `s`: what a transition of
    `c0` carries through the context steps it is made of. -/
structure Rest (cs : CSt) (c0 : Nat) (s : St) : Prop where
  inv : Inv s
  sinv : SInv s
  oth : ∀ (i : Nat) (c : Comp), c0 ≠ i → cs.comps[i]? = some c → CI s.tps c ∧ CS s.tps c

theorem GI.rest (h : GI cs) (c0 : Nat) : Rest cs c0 cs.base :=
  ⟨h.inv, h.sinv, fun i c _ hc => ⟨h.ci i c hc, h.cself i c hc⟩⟩

theorem Rest.step {s s' : St} {tr : Tr} {c0 : Nat} (hr : Rest cs c0 s) (h : GI cs) (hs : step? s tr = some s')
    (hf : ∀ (i : Nat) (c : Comp), c0 ≠ i → cs.comps[i]? = some c → Foreign c s tr) : Rest cs c0 s' :=
  ⟨inv_step hr.inv hs, sinv_step hr.inv hr.sinv hs, fun i c hic hc =>
    cics_step hr.inv hr.sinv hs (hr.oth i c hic hc).1 (hr.oth i c hic hc).2 (nodup_members h.nodup hc) (hf i c hic hc)⟩

theorem gi_set {cs : CSt} {s' : St} {c0 : Nat} {comp comp' : Comp} (h : GI cs) (hcomp : cs.comps[c0]? = some comp)
    (hm : comp'.members = comp.members) (hs : comp'.self = comp.self) (hr : Rest cs c0 s')
    (h0 : CI s'.tps comp' ∧ CS s'.tps comp') :
    GI { base := s', comps := cs.comps.set c0 comp' } := by
  have key : ∀ (i : Nat) (c : Comp), (cs.comps.set c0 comp')[i]? = some c → CI s'.tps c ∧ CS s'.tps c := by
    intro i c hc
    rcases Interleave.getElem?_set_cases hc with ⟨_, rfl⟩ | ⟨e, hc⟩
    · exact h0
    · exact hr.oth i c e.symm hc
  refine ⟨hr.inv, hr.sinv, ?_, ?_, ?_, fun i c hc => (key i c hc).1, fun i c hc => (key i c hc).2⟩
  · show (allMembers (cs.comps.set c0 comp')).Nodup
    rw [allMembers, List.flatMap_def, map_set_of_eq hcomp hm, ← List.flatMap_def]; exact h.nodup
  · show (allSelfs (cs.comps.set c0 comp')).Nodup
    rw [allSelfs, map_set_of_eq hcomp hs]; exact h.snodup
  · intro x hx
    rcases List.mem_or_eq_of_mem_set hx with hx | rfl
    · exact h.sown x hx
    · rw [hs, hm]; exact h.sown comp (List.mem_of_getElem? hcomp)

theorem gi_startup {t c0 m0 : Nat} {comp : Comp} {s1 s' : St} (h : GI cs) (hcomp : cs.comps[c0]? = some comp)
    (h0 : comp.members[0]? = some m0) (hsub : cs.base.subs[t]? = some (.startup comp.self))
    (hs1 : step? cs.base (.startupReady t comp.members.length) = some s1) (hst : step? s1 (.startupAdd t m0) = some s') :
    GI { base := s', comps := cs.comps.set c0 { comp with pending := comp.members.length } } := by
  obtain ⟨q, ts, ts1, _, hts, hu1, hset1⟩ := step?_upd rfl hs1
  obtain ⟨_, tp, x2, _, htp1, hu2, hset⟩ := step?_upd rfl hst
  cases hu1 with | startupReady hsu hready =>
  cases hu2 with | startupAdd _ htps =>
  obtain rfl : q = comp.self := by rw [hsub] at hsu; cases hsu; rfl
  have hm0mem := List.mem_of_getElem? h0
  have hnself := h.sown comp (List.mem_of_getElem? hcomp)
  have hnd := nodup_members h.nodup hcomp
  have hci0 := h.ci c0 comp hcomp
  have hcs0 := h.cself c0 comp hcomp
  -- the write on the object is not seen by the members
  have hmem1 : ∀ mm ∈ comp.members, s1.tps[mm]? = cs.base.tps[mm]? := fun mm hmm => by
    rw [hset1, List.getElem?_set_ne fun e : comp.self = mm => hnself (e ▸ hmm)]
  have htp := (hmem1 m0 hm0mem).symm.trans htp1
  -- the first member has never been added: nothing of the compound has happened yet
  have hp0 := (hci0.get h0 htp).2
  have hc0 : comp.completed = 0 := Nat.eq_zero_of_not_pos fun e => by
    rcases hp0.1 e with e' | e' | e' <;> simp [htps] at e'
  have hpend0 : comp.pending = 0 := ((hp0.2.2 hc0.symm).2.1 htps).2
  have hr1 := (h.rest c0).step h hs1 fun i c hic hc => by
    rw [Foreign, hsub]
    exact fun e => self_ne_of_ne h.snodup hcomp hc hic (Sub.startup.inj (Option.some.inj e))
  have hcs1 : CS s1.tps { comp with pending := comp.members.length } := by
    have a := hcs0.get hts
    obtain ⟨hlt, hpd⟩ : comp.completed < comp.members.length ∧
        ((ts.pend + comp.members.length : Nat) : Int) = comp.members.length := by
      have := hcs0.ne; have := a.pend; omega
    have hlook : s1.tps[comp.self]? = some { ts with ready := true, pend := ts.pend + comp.members.length } := by
      rw [hset1, getElem?_set_of_getElem? hts, if_pos rfl]
    exact ⟨hcs0.ne, _, hlook, a.total, a.early, Or.inr (Or.inr (Or.inl hready.1)), hpd,
      fun _ => ⟨hready.1, rfl⟩, fun e => (Nat.ne_of_lt hlt e).elim, fun _ => a.nocb hlt,
      fun hcb => absurd (a.nocb hlt).1 hcb, fun m tm hm htm => a.add hm ((hmem1 m hm).symm.trans htm)⟩
  exact gi_set h hcomp rfl rfl
    (hr1.step h hst fun i c hic hc => members_disjoint h.nodup hcomp hc hic hm0mem)
    (hset ▸ ⟨(hci0.weak.congr hmem1).enable hnd (by rw [hc0]; exact h0) htp1 ⟨rfl, rfl, rfl, rfl⟩ (by omega),
      cs_set hcs1 hr1.sinv.tpok htp1 (fun e => absurd (e ▸ hm0mem) hnself) fun _ => ⟨Or.inl rfl, Or.inl rfl⟩⟩)

/-- The counters of a compound with `k < n` members counted, when one more action of its object (pending count `q`) is
    released: the last release, or some remain.  (A lemma of its own because `omega` is slow in the context of `gi_advance`.) -/
theorem release_arith {n k q : Nat} {p : Int} (hp : p = (n : Int) - k) (hk : k < n) (hq : (q : Int) = p) :
    0 < p ∧
    (q = 1 → ¬ p - 1 > 0 ∧ k + 1 = n ∧ ((0 : Nat) : Int) = p - 1 ∧ n - 1 = k) ∧
    (q ≠ 1 → p - 1 > 0 ∧ ((q - 1 : Nat) : Int) = p - 1 ∧ p - 1 = (n : Int) - ((k + 1 : Nat) : Int)) := by
  omega

/-- The member `m` at position `completed` of compound `c0` has completed, the context being at `s1`: descriptor `x1`
    of `m` in its callback, the chain of `c0` already counting it, its object untouched. -/
theorem gi_advance {s1 : St} {t c0 m : Nat} {comp : Comp} {x1 : Tp} (h : GI cs)
    (hcomp : cs.comps[c0]? = some comp) (hk : comp.members[comp.completed]? = some m)
    (hx1 : s1.tps[m]? = some x1) (hx1cb : x1.cbAt ≠ 0 ∧ x1.cbAt < s1.clock)
    (hpend : comp.pending = (comp.members.length : Int) - comp.completed)
    (hciw : CIw s1.tps { comp with completed := comp.completed + 1, pending := comp.pending - 1 })
    (hcs : CS s1.tps comp) (hr1 : Rest cs c0 s1) (hadv : Advance cs t c0 comp s1 cs') : GI cs' := by
  obtain ⟨s2, hs2, hfin⟩ := hadv
  obtain ⟨q, ts1, ts2, _, hts1, hu2, hset2⟩ := step?_upd rfl hs2
  obtain rfl : q = comp.self := by cases hu2 <;> rfl
  have hnd := nodup_members h.nodup hcomp
  have hnself := h.sown comp (List.mem_of_getElem? hcomp)
  have a := hcs.get hts1
  have hlt := lt_of_getElem? hk
  obtain ⟨hpos, hlast, hmore⟩ := release_arith hpend hlt a.pend
  have h00 : ts1.ended = ts1.total ∧ ts1.started = ts1.total := by
    have := hr1.inv.taskCnt comp.self ts1 hts1; have := a.total; omega
  obtain ⟨hadded, hready⟩ := a.armed hpos
  have hlook : s2.tps[comp.self]? = some ts2 := by
    rw [hset2, getElem?_set_of_getElem? hts1, if_pos rfl]
  -- the write on the object is not seen by the members
  have hmem2 : ∀ mm ∈ comp.members, s2.tps[mm]? = s1.tps[mm]? := fun mm hmm => by
    rw [hset2, List.getElem?_set_ne fun e : comp.self = mm => hnself (e ▸ hmm)]
  have hciw2 := hciw.congr hmem2
  -- other compounds: the release on the compound object (it may be a member of one of them: nested termination)
  have hr2 := hr1.step h hs2 fun i c hic hc => self_ne_of_ne h.snodup hcomp hc hic
  cases hu2 with
  | actionLast _ _ _ hl =>
    -- the last member: the compound terminates, nested in this callback
    obtain ⟨hp, hn, hpd, hidx⟩ := hlast hl.2.1
    obtain ⟨_, rfl⟩ := hfin.resolve_left fun ⟨hp', _⟩ => hp hp'
    refine gi_set h hcomp rfl rfl hr2 ⟨hciw2.last hn, hcs.ne, _, hlook, a.total, a.early,
      Or.inr (Or.inr (Or.inr (Or.inl rfl))), hpd, fun e => absurd e hp, fun _ => Or.inl rfl,
      fun e => (Nat.ne_of_lt e hn).elim, fun _ ml tl hml htl => ?_,
      fun m tm hm htm => a.add hm ((hmem2 m hm).symm.trans htm)⟩
    simp only [hidx, hk] at hml; cases hml
    rw [hmem2 _ (List.mem_of_getElem? hk), hx1] at htl
    cases htl; exact hx1cb
  | actionDone _ _ _ hl =>
    -- some remain: the next member is enabled
    obtain ⟨hp, hpd, hpd'⟩ := hmore fun e => hl ⟨hready, e, h00⟩
    obtain ⟨_, nx, s3, hnx, hs3, rfl⟩ := hfin.resolve_right fun ⟨hp', _⟩ => hp' hp
    obtain ⟨_, tn, x2, _, htn, hu3, hset3⟩ := step?_upd rfl hs3
    cases hu3 with | addCall _ =>
    have hnxmem := List.mem_of_getElem? hnx
    have hcs2 : CS s2.tps { comp with completed := comp.completed + 1, pending := comp.pending - 1 } :=
      ⟨hcs.ne, _, hlook, a.total, a.early, a.st, hpd, fun _ => ⟨hadded, hready⟩,
        fun e => (Nat.ne_of_lt (lt_of_getElem? hnx) e).elim, fun _ => a.nocb hlt,
        fun hcb => absurd (a.nocb hlt).1 hcb, fun m tm hm htm => a.add hm ((hmem2 m hm).symm.trans htm)⟩
    exact gi_set h hcomp rfl rfl
      (hr2.step h hs3 fun i c hic hc => members_disjoint h.nodup hcomp hc hic hnxmem)
      (hset3 ▸ ⟨hciw2.enable hnd hnx htn ⟨rfl, rfl, rfl, rfl⟩ hpd',
        cs_set hcs2 hr2.sinv.tpok htn (fun e => absurd (e ▸ hnxmem) hnself) fun _ => ⟨Or.inl rfl, Or.inl rfl⟩⟩)

theorem gi_memberCb {t c0 m : Nat} {comp : Comp} {s1 : St} (h : GI cs) (hcomp : cs.comps[c0]? = some comp)
    (hmmem : m ∈ comp.members) (hmleaf : m ∉ allSelfs cs.comps) (hs1 : step? cs.base (.detect t m) = some s1)
    (hadv : Advance cs t c0 comp s1 cs') : GI cs' := by
  obtain ⟨_, tp, x1, _, htp, hu, hset1⟩ := step?_upd rfl hs1
  cases hu with | detect hdet =>
  have htpst := hdet.2.2.1
  obtain ⟨kk, hk⟩ := List.mem_iff_getElem?.1 hmmem
  have hci := h.ci c0 comp hcomp
  obtain ⟨rfl, hpend⟩ := (hci.get hk htp).2.eq (Or.inr htpst)
  have hclk := h.sinv.clk
  have hclk1 := (step?_tps hs1).1
  have hcb0 : cs.base.clock = tp.cbAt ∨ tp.cbAt = 0 :=
    Or.inr (tpOK_added (h.sinv.tpok tp (List.mem_of_getElem? htp)) htpst).2
  -- the termination of `m` is detected: the chain counts it, the object does not see it
  refine gi_advance h hcomp hk (by rw [hset1, getElem?_set_of_getElem? htp, if_pos rfl])
    ⟨by show cs.base.clock ≠ 0; omega, by show cs.base.clock < _; omega⟩ hpend
    (hset1 ▸ hci.complete (nodup_members h.nodup hcomp) hk htp (by simp [htpst]) ⟨Or.inl rfl, rfl, rfl, hcb0⟩)
    (hset1 ▸ cs_set (h.cself c0 comp hcomp) h.sinv.tpok htp
      (fun e => absurd (e ▸ hmmem) (h.sown comp (List.mem_of_getElem? hcomp))) fun _ => ⟨hcb0, Or.inl rfl⟩)
    ((h.rest c0).step h hs1 fun i c hic hc =>
      ⟨members_disjoint h.nodup hcomp hc hic hmmem, fun e => hmleaf (e ▸ mem_allSelfs hc)⟩) hadv

theorem gi_compCb {t p : Nat} {par ch : Comp} (h : GI cs) (hpar : cs.comps[p]? = some par)
    (hk : par.members[par.completed]? = some ch.self) (hhead : ((cs.base.nests[t]?).getD []).head? = some ch.self)
    (hadv : Advance cs t p par cs.base cs') : GI cs' := by
  -- the nested compound's descriptor is on top of the thread's nested stack: state inCbN
  obtain ⟨l, hl, hq⟩ := mem_getD_nil.1 (List.mem_of_mem_head? hhead)
  obtain ⟨tp, htp, htpst, _⟩ := h.inv.nFwd t l ch.self hl hq
  have hci := h.ci p par hpar
  have hcb := tpOK_in_cb (h.sinv.tpok tp (List.mem_of_getElem? htp)) (Or.inr (Or.inr (Or.inl htpst)))
  have hnn : tp.st ≠ .notAdded := by simp [htpst]
  exact gi_advance h hpar hk htp ⟨hcb.cb, hcb.lt⟩ (((hci.get hk htp).2.2.2 rfl).2.2 hnn)
    (set_getElem?_self htp ▸ hci.complete (nodup_members h.nodup hpar) hk htp hnn ⟨Or.inr htpst, rfl, rfl, Or.inl rfl⟩)
    (h.cself p par hpar) (h.rest p) hadv

theorem gi_cstep {tr : CTr} (h : GI cs) (hs : cstep? cs tr = some cs') : GI cs' := by
  cases CStep.of_cstep? hs with
  | ctx ha hst => exact gi_ctx h ha hst
  | startup hc h0 hsub h1 h2 => exact gi_startup h hc (List.head?_eq_getElem? ▸ h0) hsub h1 h2
  | memberCb hc hm h1 ha => exact gi_memberCb h hc hm.1 hm.2 h1 ha
  | compCb hp _ hg ha => exact gi_compCb h hp hg.1 hg.2.1 ha

theorem gi_init (k : Nat) (tps : List Tp) (comps : List Comp) (hwf : WF tps comps) : GI (cinit k tps comps) := by
  obtain ⟨hnd, hsnd, hc, hf⟩ := hwf
  have hfresh : ∀ (m : Nat) (tp : Tp), tps[m]? = some tp → tp.fresh := fun m tp htp => hf tp (List.mem_of_getElem? htp)
  refine ⟨inv_init k tps hf, sinv_init k tps hf, hnd, hsnd, fun c hcm => (hc c hcm).2.2.2.1, ?_, ?_⟩
  · intro i c hci
    obtain ⟨h1, h2, h3, _, _, h6⟩ := hc c (List.mem_of_getElem? hci)
    refine ⟨by omega, fun j m hm => ?_, fun _ => h2, fun j m m' tp tp' _ _ _ htp' hne => ?_⟩
    · obtain ⟨tp, htp, he⟩ := h6 m (List.mem_of_getElem? hm)
      have hfr := (hfresh m tp htp).1
      exact ⟨tp, htp, he, fun hlt => by omega, fun _ => hfr,
        fun _ => ⟨Or.inl hfr, fun _ => ⟨h1, h2⟩, fun hne => absurd hfr hne⟩⟩
    · exact absurd (hfresh m' tp' htp').addAt hne
  · intro i c hci
    obtain ⟨h1, h2, h3, _, ⟨ts, hts, hte, ht0⟩, h6⟩ := hc c (List.mem_of_getElem? hci)
    obtain ⟨f1, _, _, f4, _, _, _, f8, _, _, _, f12⟩ := hfresh c.self ts hts
    refine ⟨h3, ts, hts, ht0, hte, Or.inl f1, by rw [f12, h2]; rfl, fun hp => ?_, fun e => ?_, fun _ => ⟨f8, f4⟩,
      fun hcb => absurd f8 hcb, fun m tm _ htm hne => absurd (hfresh m tm htm).addAt hne⟩
    · rw [h2] at hp; exact absurd hp (by decide)
    · omega

theorem gi_run (k : Nat) (tps : List Tp) (comps : List Comp) (hwf : WF tps comps) (trs : List CTr) :
    GI (crun k tps comps trs) :=
  foldl_getD_inv gi_cstep trs (gi_init k tps comps hwf)

end ParsecVerif.Compound
