/-
  The thread-local half of the LIFO's linearization argument: what one micro step does to the stepping thread's
  record and which linearization record it emits is one of the seven shapes of `ThStep`; the thread's part of the
  linearization order, its program bookkeeping and its time stamps are read off the shape.  Nothing here looks at memory.
-/
import ParsecVerif.Model.Lifo

namespace ParsecVerif.Lifo

/-- the linearized but not yet returned operation of a thread -/
def pending (t : Nat) (th : Thread) : List LinRec :=
  match th.pc with
  | .popWmb tr it => [⟨t, .pop tr, .item it, th.tInv, th.tLin⟩]
  | .popClr tr it => [⟨t, .pop tr, .item it, th.tInv, th.tLin⟩]
  | _ => []

def linsOf (t : Nat) (th : Thread) : List LinRec := th.hist.map (OpRec.lin t) ++ pending t th

structure TimeOk (t now : Nat) (th : Thread) : Prop where
  hist : ∀ r ∈ th.hist, r.tInv ≤ r.tLin ∧ r.tLin ≤ r.tRet ∧ r.tRet < now
  run : th.pc ≠ .idle → th.tInv < now
  pend : ∀ l ∈ pending t th, l.tInv ≤ l.tLin ∧ l.tLin < now

def pcOp : Pc → List Op
  | .idle => []
  | .pushRd pre tl => [.push pre tl]
  | .pushWr pre tl _ => [.push pre tl]
  | .pushFence pre tl _ => [.push pre tl]
  | .pushCas pre tl _ => [.push pre tl]
  | .popRdC tr => [.pop tr]
  | .popFence tr _ => [.pop tr]
  | .popRdI tr _ => [.pop tr]
  | .popRdN tr _ _ => [.pop tr]
  | .popCas tr _ _ _ => [.pop tr]
  | .popWmb tr _ => [.pop tr]
  | .popClr tr _ => [.pop tr]
  | .setNx x v => [.setNext x v]

def ProgOk (prog : List Op) (th : Thread) : Prop :=
  th.hist.map (fun r => r.op) ++ pcOp th.pc ++ th.todo = prog

inductive ThStep (t now : Nat) (th : Thread) : Thread → Option LinRec → Prop
  | stay : ThStep t now th th none
  /-- the fourth hypothesis only says that `pc'` is not `popWmb`/`popClr` -/
  | start {op : Op} {rest : List Op} {pc' : Pc} : th.pc = .idle → th.todo = op :: rest → pcOp pc' = [op] →
      pending t { th with todo := rest, tInv := now, pc := pc' } = [] →
      ThStep t now th { th with todo := rest, tInv := now, pc := pc' } none
  /-- invocation outside the precondition: returns at once -/
  | reject {op : Op} {rest : List Op} : th.pc = .idle → th.todo = op :: rest →
      ThStep t now th (Thread.finish { th with todo := rest, tInv := now } op .rejected now now)
        (some ⟨t, op, .rejected, now, now⟩)
  | goto {op : Op} {pc' : Pc} : pcOp th.pc = [op] → pcOp pc' = [op] → pending t (th.goto pc') = pending t th →
      ThStep t now th (th.goto pc') none
  /-- linearization point and return in one step -/
  | lin {op : Op} {r : Res} : pcOp th.pc = [op] → pending t th = [] →
      ThStep t now th (th.finish op r now now) (some ⟨t, op, r, th.tInv, now⟩)
  /-- the successful CAS of a pop: linearized, returns later -/
  | commit {tr : Bool} {it : Nat} : pcOp th.pc = [.pop tr] → pending t th = [] →
      ThStep t now th { th with pc := .popWmb tr it, tLin := now } (some ⟨t, .pop tr, .item it, th.tInv, now⟩)
  /-- return of a pop that was linearized by an earlier `commit` -/
  | ret {op : Op} {r : Res} : pcOp th.pc = [op] → pending t th = [⟨t, op, r, th.tInv, th.tLin⟩] →
      ThStep t now th (th.finish op r th.tLin now) none

@[simp] theorem pcOp_idle : pcOp .idle = [] := rfl

theorem pending_idle {t : Nat} {th : Thread} (h : th.pc = .idle) : pending t th = [] := by
  simp [pending, h]

theorem linsOf_finish (t : Nat) (th : Thread) (op : Op) (r : Res) (a now : Nat) :
    linsOf t (th.finish op r a now) = th.hist.map (OpRec.lin t) ++ [⟨t, op, r, th.tInv, a⟩] := by
  simp [linsOf, pending, Thread.finish, OpRec.lin]

theorem ThStep.lins {t now : Nat} {th th' : Thread} {lin : Option LinRec} (h : ThStep t now th th' lin) :
    linsOf t th' = linsOf t th ++ lin.toList := by
  cases h with
  | stay => exact (List.append_nil _).symm
  | start hpc _ _ hp => rw [linsOf, linsOf, hp, pending_idle hpc]; exact (List.append_nil _).symm
  | reject hpc => rw [linsOf_finish, linsOf, pending_idle hpc, List.append_nil]; rfl
  | goto _ _ hp => rw [linsOf, hp]; exact (List.append_nil _).symm
  | lin _ hp => rw [linsOf_finish, linsOf, hp, List.append_nil]; rfl
  | commit _ hp => rw [linsOf, linsOf, hp, List.append_nil]; rfl
  | ret _ hp => rw [linsOf_finish, linsOf, hp]; exact (List.append_nil _).symm

theorem ThStep.prog {t now : Nat} {th th' : Thread} {lin : Option LinRec} (h : ThStep t now th th' lin)
    {prog : List Op} (hp : ProgOk prog th) : ProgOk prog th' := by
  unfold ProgOk at hp ⊢
  cases h with
  | stay => exact hp
  | start hpc ht hq => simpa [hpc, ht, hq] using hp
  | reject hpc ht => simpa [hpc, ht, Thread.finish] using hp
  | goto h1 h2 => simpa [h1, h2, Thread.goto] using hp
  | lin h1 | ret h1 => simpa [h1, Thread.finish] using hp
  | commit h1 => rw [h1] at hp; exact hp

theorem TimeOk.mono {t now : Nat} {th : Thread} (h : TimeOk t now th) : TimeOk t (now + 1) th :=
  ⟨fun r hr => by have := h.hist r hr; omega, fun hp => by have := h.run hp; omega,
   fun l hl => by have := h.pend l hl; omega⟩

theorem TimeOk.of_finish {t now : Nat} {th : Thread} (h : ∀ r ∈ th.hist, r.tInv ≤ r.tLin ∧ r.tLin ≤ r.tRet ∧ r.tRet < now)
    (op : Op) (r : Res) (a : Nat) (hab : th.tInv ≤ a ∧ a ≤ now) : TimeOk t (now + 1) (th.finish op r a now) :=
  ⟨List.forall_mem_append.2 ⟨fun r hr => by have := h r hr; omega,
      List.forall_mem_singleton.2 ⟨hab.1, hab.2, Nat.lt_succ_self _⟩⟩,
    fun hp => absurd rfl hp, fun _ hl => nomatch hl⟩

theorem TimeOk.finish {t now : Nat} {th : Thread} (h : TimeOk t now th) (op : Op) (r : Res) (a : Nat)
    (hab : th.tInv ≤ a ∧ a ≤ now) : TimeOk t (now + 1) (th.finish op r a now) :=
  .of_finish h.hist op r a hab

theorem TimeOk.invoke {t now : Nat} {th : Thread} (h : TimeOk t now th) (rest : List Op) (pc' : Pc)
    (hp : pending t { th with todo := rest, tInv := now, pc := pc' } = []) :
    TimeOk t (now + 1) { th with todo := rest, tInv := now, pc := pc' } :=
  ⟨h.mono.hist, fun _ => Nat.lt_succ_self now, fun l hl => by rw [hp] at hl; cases hl⟩

theorem TimeOk.reject {t now : Nat} {th : Thread} (h : TimeOk t now th) (rest : List Op) (op : Op) :
    TimeOk t (now + 1) (Thread.finish { th with todo := rest, tInv := now } op .rejected now now) :=
  .of_finish (th := { th with todo := rest, tInv := now }) h.hist op .rejected now ⟨Nat.le_refl _, Nat.le_refl _⟩

theorem ThStep.time {t now : Nat} {th th' : Thread} {lin : Option LinRec} (h : ThStep t now th th' lin)
    (ht : TimeOk t now th) :
    TimeOk t (now + 1) th' ∧ ∀ l ∈ lin.toList, l.tid = t ∧ l.tInv ≤ l.tLin ∧ l.tLin = now := by
  have hrun : ∀ {op}, pcOp th.pc = [op] → th.tInv ≤ now := fun h => Nat.le_of_lt (ht.run fun hi => nomatch hi ▸ h)
  cases h with
  | stay => exact ⟨ht.mono, fun _ h => nomatch h⟩
  | start _ _ _ hp => exact ⟨ht.invoke _ _ hp, fun _ h => nomatch h⟩
  | reject => exact ⟨ht.reject _ _, List.forall_mem_singleton.2 ⟨rfl, Nat.le_refl _, rfl⟩⟩
  | goto h1 _ hp =>
    exact ⟨⟨ht.mono.hist, fun _ => Nat.lt_succ_of_le (hrun h1), fun l hl => ht.mono.pend l (hp ▸ hl)⟩, fun _ h => nomatch h⟩
  | lin h1 =>
    exact ⟨ht.finish _ _ now ⟨hrun h1, Nat.le_refl _⟩, List.forall_mem_singleton.2 ⟨rfl, hrun h1, rfl⟩⟩
  | commit h1 =>
    exact ⟨⟨ht.mono.hist, fun _ => Nat.lt_succ_of_le (hrun h1), List.forall_mem_singleton.2 ⟨hrun h1, Nat.lt_succ_self _⟩⟩,
      List.forall_mem_singleton.2 ⟨rfl, hrun h1, rfl⟩⟩
  | ret _ hp =>
    have := ht.pend _ (hp ▸ List.mem_singleton_self _)
    exact ⟨ht.finish _ _ _ ⟨this.1, Nat.le_of_lt this.2⟩, fun _ h => nomatch h⟩

end ParsecVerif.Lifo
