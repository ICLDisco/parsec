import ParsecVerif.Model.TermdetLocal
import ParsecVerif.Base.Interleave
/-!
  Inductive invariant of the local termination detector, for any number of threads.  The thread
  list is abstracted by the SUMS of per-thread weights (holdings, "is parked at program point X").
  A step of thread `i` leaves the sums `R` over the other threads alone, so preservation is linear
  arithmetic about `R` and the weights of one thread before and after its step (`Keeps`, `local_step`),
  lifted to thread lists by `total_set` (`inv_step`).  `Inv'` states the invariant clause by clause, as
  `Props/C10.lean` reads it; the step proofs use the equivalent `Core`, which spares them the case splits on
  `0 < nb_tasks` (clause `b`) and on the premise of clause `q`.
-/
namespace ParsecVerif.TermdetLocal

def sumBy (f : Thread → Nat) : List Thread → Nat
  | [] => 0
  | a :: t => f a + sumBy f t

theorem sumBy_eq (f : Thread → Nat) (l : List Thread) : sumBy f l = (l.map f).sum := by
  induction l with
  | nil => rfl
  | cons a t ih => rw [sumBy, ih, List.map_cons, List.sum_cons]

theorem sumBy_set (f : Thread → Nat) (l : List Thread) (i : Nat) (y : Thread) (h : i < l.length) :
    sumBy f (l.set i y) = sumBy f (l.eraseIdx i) + f y := by
  rw [sumBy_eq, sumBy_eq, ← Interleave.sum_map_eraseIdx f _ i y (List.getElem?_set_self h), List.eraseIdx_set_eq]

theorem sumBy_add (f g : Thread → Nat) (l : List Thread) :
    sumBy (fun th => f th + g th) l = sumBy f l + sumBy g l := by
  induction l with
  | nil => simp [sumBy]
  | cons a t ih => simp only [sumBy]; omega

theorem sumBy_eq_zero (f : Thread → Nat) (l : List Thread) : sumBy f l = 0 ↔ ∀ th ∈ l, f th = 0 := by
  rw [sumBy_eq, List.sum_eq_zero_iff_forall_eq_nat, List.forall_mem_map]

theorem exists_of_sumBy_pos (f : Thread → Nat) (l : List Thread) (h : 1 ≤ sumBy f l) :
    ∃ i, ∃ hi : i < l.length, 1 ≤ f l[i] := by
  rw [sumBy_eq] at h
  obtain ⟨_, hm, hx⟩ := List.sum_pos_iff_exists_pos_nat.1 h
  obtain ⟨th, hth, rfl⟩ := List.mem_map.1 hm
  obtain ⟨i, hi, rfl⟩ := List.getElem_of_mem hth
  exact ⟨i, hi, hx⟩

def wT (th : Thread) : Nat := th.hT
def wA (th : Thread) : Nat := th.hA
def wK (th : Thread) : Nat := th.hK
def wInc (th : Thread) : Nat := match th.pc with | .tInc _ => 1 | _ => 0
/-- 0 iff a thread parked at the `fetch_inc` after a 0→positive crossing holds one of the task units it
    just added and one action unit (or the token) of its own -/
def wBad (th : Thread) : Nat := match th.pc with | .tInc _ => (1 - th.hT) + (1 - (th.hA + th.hK)) | _ => 0
def wDec (th : Thread) : Nat := match th.pc with | .tDec _ => 1 | _ => 0
def wC2 (th : Thread) : Nat := match th.pc with | .dCas2 _ => 1 | _ => 0
def wC3 (th : Thread) : Nat := match th.pc with | .dCas3 _ => 1 | _ => 0
def wRet (th : Thread) : Nat := match th.pc with | .rRetain => 1 | _ => 0
def wRel (th : Thread) : Nat := match th.pc with | .dRel _ => 1 | _ => 0
/-- holdings their owner is free to release: it is not parked at the `fetch_inc` -/
def wFT (th : Thread) : Nat := match th.pc with | .tInc _ => 0 | _ => th.hT
def wFA (th : Thread) : Nat := match th.pc with | .tInc _ => 0 | _ => th.hA + th.hK

structure Sums where
  hT : Nat
  hA : Nat
  hK : Nat
  inc : Nat
  bad : Nat
  dec : Nat
  c2 : Nat
  c3 : Nat
  ret : Nat
  rel : Nat
  fT : Nat
  fA : Nat

def Sums.add (R w : Sums) : Sums :=
  ⟨R.hT + w.hT, R.hA + w.hA, R.hK + w.hK, R.inc + w.inc, R.bad + w.bad, R.dec + w.dec, R.c2 + w.c2,
   R.c3 + w.c3, R.ret + w.ret, R.rel + w.rel, R.fT + w.fT, R.fA + w.fA⟩

/-- The twelve weights as one record (`W_eq`), written out by program point so that `dsimp only [W]` computes it
    at a known program point; `total` sums the scalar weights, so that a single sum can be read back on the
    thread list (`sumBy_eq_zero`, `exists_of_sumBy_pos`). -/
def W (th : Thread) : Sums :=
  match th.pc with
  | .tInc _ => ⟨th.hT, th.hA, th.hK, 1, (1 - th.hT) + (1 - (th.hA + th.hK)), 0, 0, 0, 0, 0, 0, 0⟩
  | .tDec _ => ⟨th.hT, th.hA, th.hK, 0, 0, 1, 0, 0, 0, 0, th.hT, th.hA + th.hK⟩
  | .dCas2 _ => ⟨th.hT, th.hA, th.hK, 0, 0, 0, 1, 0, 0, 0, th.hT, th.hA + th.hK⟩
  | .dCas3 _ => ⟨th.hT, th.hA, th.hK, 0, 0, 0, 0, 1, 0, 0, th.hT, th.hA + th.hK⟩
  | .rRetain => ⟨th.hT, th.hA, th.hK, 0, 0, 0, 0, 0, 1, 0, th.hT, th.hA + th.hK⟩
  | .dRel _ => ⟨th.hT, th.hA, th.hK, 0, 0, 0, 0, 0, 0, 1, th.hT, th.hA + th.hK⟩
  | _ => ⟨th.hT, th.hA, th.hK, 0, 0, 0, 0, 0, 0, 0, th.hT, th.hA + th.hK⟩

theorem W_eq (th : Thread) :
    W th = ⟨wT th, wA th, wK th, wInc th, wBad th, wDec th, wC2 th, wC3 th, wRet th, wRel th, wFT th, wFA th⟩ := by
  obtain ⟨pc, _, _, _, _, _⟩ := th
  cases pc <;> rfl

def total (l : List Thread) : Sums :=
  ⟨sumBy wT l, sumBy wA l, sumBy wK l, sumBy wInc l, sumBy wBad l, sumBy wDec l, sumBy wC2 l, sumBy wC3 l,
   sumBy wRet l, sumBy wRel l, sumBy wFT l, sumBy wFA l⟩

theorem total_set (l : List Thread) (i : Nat) (y : Thread) (h : i < l.length) :
    total (l.set i y) = (total (l.eraseIdx i)).add (W y) := by
  simp only [total, W_eq, Sums.add, sumBy_set _ l i y h]

theorem inc_le_bad (th : Thread) :
    wInc th + wFT th ≤ wBad th + wT th ∧ wInc th + wFA th ≤ wBad th + (wA th + wK th) := by
  unfold wInc wBad wT wFT wA wK wFA; split <;> omega

/-- Holds of the sums over any thread list, protocol or not (`total_bounded`): a thread at `tInc` counts in `inc`
    and, unless in `bad`, holds a task unit and an action unit or the token; the holdings of any other count in
    `fT`, `fA`. -/
structure Sums.Bounded (S : Sums) : Prop where
  incT : S.inc + S.fT ≤ S.bad + S.hT
  incAK : S.inc + S.fA ≤ S.bad + (S.hA + S.hK)

theorem total_bounded (l : List Thread) : (total l).Bounded := by
  induction l with
  | nil => exact ⟨Nat.le_refl _, Nat.le_refl _⟩
  | cons a t ih =>
    have := inc_le_bad a
    obtain ⟨hT, hA⟩ := ih
    simp only [total] at hT hA
    constructor <;> simp only [total, sumBy] <;> omega

structure Inv' (sh : Shared) (S : Sums) : Prop where
  mon3 : sh.mon ≤ 3
  rdy : (sh.mon = 1 → sh.rdy = 0) ∧ (sh.mon ≠ 1 → sh.rdy = 1)
  a : sh.nt = ((S.hT + sh.pT : Nat) : Int)
  /-- nb_pending_actions = actions + [nb_tasks > 0] + #pending decrements − #pending increments -/
  b : (sh.nt ≤ 0 → sh.npa + ((S.inc : Nat) : Int) = ((S.hA + sh.pA + S.dec : Nat) : Int)) ∧
      (0 < sh.nt → sh.npa + ((S.inc : Nat) : Int) = ((S.hA + sh.pA + 1 + S.dec : Nat) : Int))
  c : (sh.mon = 1 → S.hK + sh.pK = 1) ∧ (sh.mon ≠ 1 → S.hK + sh.pK = 0)
  d : S.bad = 0
  /-- once detected — or as soon as a thread has observed BUSY ∧ nbpa = 0 and goes for the CAS — everything is
      at rest -/
  q : (sh.mon = 3 ∨ sh.mon = 0 ∨ 1 ≤ S.c2) →
      (sh.mon ≠ 1 ∧ sh.nt = 0 ∧ sh.npa = 0 ∧ S.hA + sh.pA = 0 ∧ S.inc = 0 ∧ S.dec = 0)
  h : (sh.mon = 1 ∨ sh.mon = 2 → sh.cb = 0 ∧ S.c3 = 0) ∧ (sh.mon = 3 → sh.cb = 1 ∧ S.c3 = 1) ∧
      (sh.mon = 0 → sh.cb = 1 ∧ S.c3 = 0)
  /-- BUSY with nb_pending_actions = 0 is never left unattended -/
  l : sh.mon = 2 ∧ sh.npa = 0 → 1 ≤ S.c2 + S.ret
  /-- implied by `rdy.1` and `r.1` -/
  j : 1 ≤ S.ret → sh.mon ≠ 1
  /-- reference count: +1 by ready's RETAIN, −1 by the RELEASE of termination_detected -/
  r : (sh.rdy = 0 → sh.rc = 0 ∧ S.ret = 0) ∧ S.ret ≤ 1 ∧ S.rel ≤ 1 ∧ (1 ≤ S.rel → sh.mon = 0) ∧
      (sh.rdy = 1 → ((sh.mon = 0 ∧ S.rel = 0) → sh.rc + ((S.ret : Nat) : Int) = 0) ∧
                     (¬(sh.mon = 0 ∧ S.rel = 0) → sh.rc + ((S.ret : Nat) : Int) = 1))

def Inv (s : State) : Prop := Inv' s.sh (total s.ths)

variable {sh : Shared} {S : Sums}

/-- `[0 < x]`, kept folded so that `omega` takes it for an atom -/
def pos (x : Int) : Nat := if 0 < x then 1 else 0

theorem pos_of_pos {x : Int} (h : 0 < x) : pos x = 1 := if_pos h
theorem pos_of_le {x : Int} (h : x ≤ 0) : pos x = 0 := if_neg (Int.not_lt.2 h)
theorem pos_congr {x y : Int} (h : 0 < x ↔ 0 < y) : pos x = pos y := by unfold pos; simp only [h]

/-- one row per value of the monitor word -/
def Row (sh : Shared) (S : Sums) : Nat → Prop
  | 1 => sh.rdy = 0 ∧ sh.cb = 0 ∧ S.c3 = 0 ∧ S.ret = 0 ∧ S.rel = 0 ∧ sh.rc = 0
  | 2 => sh.rdy = 1 ∧ sh.cb = 0 ∧ S.c3 = 0 ∧ S.ret ≤ 1 ∧ S.rel = 0 ∧ sh.rc + (S.ret : Int) = 1
  | 3 => sh.rdy = 1 ∧ sh.cb = 1 ∧ S.c3 = 1 ∧ S.ret ≤ 1 ∧ S.rel = 0 ∧ sh.rc + (S.ret : Int) = 1
  | 0 => sh.rdy = 1 ∧ sh.cb = 1 ∧ S.c3 = 0 ∧ S.ret ≤ 1 ∧ S.rel ≤ 1 ∧ sh.rc + (S.ret : Int) = S.rel
  | _ => False

/-- Whoever goes for the CAS BUSY→TERMINATING (`c2`) has seen `nb_pending_actions` (`n`) at 0 past NOT_READY, and
    it stays there; and clause l of `Inv'`, `ret` being the threads in `ready` that have not yet read the counter. -/
def Det (m : Nat) (n : Int) (c2 ret : Nat) : Prop :=
  ((m = 3 ∨ m = 0 ∨ 1 ≤ c2) → m ≠ 1 ∧ n = 0) ∧ (m = 2 ∧ n = 0 → 1 ≤ c2 + ret)

/-- a thread moves the counter from `x` to `n` and runs `detect`; `h0`: in a state at rest the move is void -/
theorem Det.detect {m c2 ret : Nat} {x n : Int} (h : Det m x c2 ret) (h0 : m ≠ 1 → x = 0 → n = 0) :
    Det m n (c2 + if m = 2 ∧ n = 0 then 1 else 0) ret := by
  unfold Det
  split
  · next hc => exact ⟨fun _ => ⟨by omega, hc.2⟩, fun _ => by omega⟩
  · next hc => exact ⟨fun hq => ⟨(h.1 hq).1, h0 (h.1 hq).1 (h.1 hq).2⟩, fun hl => absurd hl hc⟩

/-- `Inv'` in the form the step proofs use: clause b is one equation, `Det` keeps of q only what a–d do not imply
    (`Core.rest`), and the clauses that go by the value of the monitor word are one row of `Row`. -/
structure Core (sh : Shared) (S : Sums) : Prop where
  a : sh.nt = ((S.hT + sh.pT : Nat) : Int)
  b : sh.npa + ((S.inc : Nat) : Int) = ((S.hA + sh.pA + pos sh.nt + S.dec : Nat) : Int)
  c : (sh.mon = 1 → S.hK + sh.pK = 1) ∧ (sh.mon ≠ 1 → S.hK + sh.pK = 0)
  d : S.bad = 0
  det : Det sh.mon sh.npa S.c2 S.ret
  row : Row sh S sh.mon

/-- Once the token is gone, every thread about to `fetch_inc` holds an action unit
    of its own (`hS`, `bad = 0`), so by b `nb_pending_actions` is at least the action units that can still be released
    (free or pooled) plus the pending decrements, plus one while `nb_tasks > 0`; and a pending `fetch_inc` means
    `nb_tasks > 0`.  Hence `nb_pending_actions = 0` past NOT_READY is a state at rest. -/
theorem Core.rest (hI : Core sh S) (hS : S.Bounded) (hm : sh.mon ≠ 1) (h0 : sh.npa = 0) :
    sh.nt = 0 ∧ S.hA + sh.pA = 0 ∧ S.inc = 0 ∧ S.dec = 0 := by
  have := hI.a
  have := hI.b
  have := hI.c.2 hm
  have := hI.d
  have := hS.incT
  have := hS.incAK
  have := @pos_of_pos sh.nt
  omega

theorem b_iff {nt x : Int} {s d : Nat} :
    ((nt ≤ 0 → x = ((s + d : Nat) : Int)) ∧ (0 < nt → x = ((s + 1 + d : Nat) : Int))) ↔
    x = ((s + pos nt + d : Nat) : Int) := by
  unfold pos; split <;> omega

theorem Inv'.core (hI : Inv' sh S) : Core sh S where
  a := hI.a
  b := b_iff.1 hI.b
  c := hI.c
  d := hI.d
  det := ⟨fun h => ⟨(hI.q h).1, (hI.q h).2.2.1⟩, hI.l⟩
  row := by
    obtain ⟨m3, y, -, -, -, -, -, h, -, j, r⟩ := hI
    have : sh.mon = 0 ∨ sh.mon = 1 ∨ sh.mon = 2 ∨ sh.mon = 3 := by omega
    rcases this with hm | hm | hm | hm <;> simp [hm, Row] at y h j r ⊢ <;> omega

theorem Core.inv' (hI : Core sh S) (hS : S.Bounded) : Inv' sh S := by
  have ip := hI.row
  have : sh.mon = 0 ∨ sh.mon = 1 ∨ sh.mon = 2 ∨ sh.mon = 3 := by
    unfold Row at ip; split at ip <;> first | exact ip.elim | omega
  refine { a := hI.a, b := b_iff.2 hI.b, c := hI.c, d := hI.d, l := hI.det.2,
           q := fun h => have ⟨hm, h0⟩ := hI.det.1 h; have hr := hI.rest hS hm h0; ⟨hm, hr.1, h0, hr.2⟩,
           mon3 := ?_, rdy := ?_, h := ?_, j := ?_, r := ?_ } <;>
    rcases this with hm | hm | hm | hm <;> rw [hm] at ip <;> simp only [Row] at ip <;> omega

end ParsecVerif.TermdetLocal
