import ParsecVerif.Model.Context
import ParsecVerif.Base.Interleave
/-!
  `step?` of the context machine (Model/Context.lean) as a relation, `Step`, whose case `thread` covers the branches
  that rewrite one taskpool descriptor (the rows of `Upd`); every proof about the machine goes by cases on it.
  Then the inductive invariant `Inv`: counter accounting
  `active = token + Σ contribution(taskpool state)`, thread ↔ taskpool consistency (who runs a task of
  p, who runs p's completion callback, who is adding q), the modes of master and workers, and the two
  facts about the end-of-epoch barrier that make `parsec_context_wait` sound.  The thread ↔ taskpool clauses are
  used through `Owner` (the six clauses cbFwd … nBack are its three instances) and `Tasks` (running tasks are
  counted).
-/
namespace ParsecVerif.Context

structure Loc where
  active : Int
  bases : List Base
  subs : List Sub
  nests : List (List Nat)

/-- The branches of `step?` in which a thread rewrites one taskpool descriptor: `Upd s tr p tp tp' d` says that
    from `s` the transition `tr`, its guard holding, takes descriptor `p` from `tp` to `tp'` and the rest to `d`. -/
inductive Upd (s : St) : Tr → Nat → Tp → Tp → Loc → Prop
  | taskBegin {t p tp} (hg : canExec s t = true ∧ idleT s t = true ∧ tp.st = .added ∧ tp.started < tp.total) :
      Upd s (.taskBegin t p) p tp
        { tp with started := tp.started + 1, firstBegin := if tp.firstBegin = 0 then s.clock else tp.firstBegin }
        ⟨s.active, s.bases.set t (.task p), s.subs, s.nests⟩
  | taskEnd {t p tp} (hb : s.bases[t]? = some (.task p)) (hu : s.subs[t]? = some .none) :
      Upd s (.taskEnd t) p tp { tp with ended := tp.ended + 1, lastEnd := s.clock }
        ⟨s.active, s.bases.set t .idle, s.subs, s.nests⟩
  | detect {t p tp}
      (hg : canExec s t = true ∧ idleT s t = true ∧ tp.st = .added ∧ tp.ready = true ∧ (tp.ended = tp.total ∧ tp.pend = 0)) :
      Upd s (.detect t p) p tp { tp with st := .inCb, cbs := tp.cbs + 1, cbAt := s.clock, by_ := t }
        ⟨s.active, s.bases.set t (.cb p), s.subs, s.nests⟩
  | dec {t p tp} (hb : s.bases[t]? = some (.cb p)) (hu : s.subs[t]? = some .none) (hn : s.nests[t]? = some []) :
      Upd s (.dec t) p tp { tp with st := .done, decAt := s.clock } ⟨s.active - 1, s.bases.set t .idle, s.subs, s.nests⟩
  | addCall {t q tp} (hg : mayAdd s t = true ∧ tp.st = .notAdded) :
      Upd s (.addCall t q) q tp { tp with st := .adding, by_ := t } ⟨s.active, s.bases, s.subs.set t (.adding q), s.nests⟩
  | startupAdd {t q q0 tp} (hu : s.subs[t]? = some (.startup q0)) (hg : tp.st = .notAdded) :
      Upd s (.startupAdd t q) q tp { tp with st := .adding, by_ := t } ⟨s.active, s.bases, s.subs.set t (.adding q), s.nests⟩
  | earlyCb {t q tp} (hu : s.subs[t]? = some (.adding q)) (hg : tp.st = .adding ∧ tp.early = true) :
      Upd s (.earlyCb t) q tp { tp with st := .earlyCb, cbs := tp.cbs + 1, cbAt := s.clock } ⟨s.active, s.bases, s.subs, s.nests⟩
  | earlyDec {t q tp} (hu : s.subs[t]? = some (.adding q)) (hg : tp.st = .earlyCb) :
      Upd s (.earlyDec t) q tp { tp with st := .earlyDec, decAt := s.clock } ⟨s.active - 1, s.bases, s.subs, s.nests⟩
  | addInc {t q tp} (hu : s.subs[t]? = some (.adding q)) (hg : tp.st = .adding ∧ tp.early = false) :
      Upd s (.addInc t) q tp { tp with st := .added, ready := !tp.dtd, addAt := s.clock }
        ⟨s.active + 1, s.bases, s.subs.set t (.startup q), s.nests⟩
  | addIncEarly {t q tp} (hu : s.subs[t]? = some (.adding q)) (hg : tp.st = .earlyDec) :
      Upd s (.addInc t) q tp { tp with st := .done, addAt := s.clock } ⟨s.active + 1, s.bases, s.subs.set t (.startup q), s.nests⟩
  | arm {p tp} (hg : (s.mm = .waiting ∨ isTpWait s.mm = true) ∧ idleT s 0 = true ∧ tp.st = .added) :
      Upd s (.arm p) p tp { tp with ready := true } ⟨s.active, s.bases, s.subs, s.nests⟩
  | insert {t p tp}
      (hg : tp.st = .added ∧ tp.dtd = true ∧ s.subs[t]? = some .none ∧
        (s.bases[t]? = some (.task p) ∨ (t = 0 ∧ s.bases[0]? = some .idle ∧ s.mm = .out))) :
      Upd s (.insert t p) p tp { tp with total := tp.total + 1 } ⟨s.active, s.bases, s.subs, s.nests⟩
  | startupReady {t n q tp} (hu : s.subs[t]? = some (.startup q)) (hg : tp.st = .added ∧ tp.ready = false) :
      Upd s (.startupReady t n) q tp { tp with ready := true, pend := tp.pend + n } ⟨s.active, s.bases, s.subs, s.nests⟩
  | actionLast {t q m tp} (hb : s.bases[t]? = some (.cb m)) (hu : s.subs[t]? = some .none)
      (hg : tp.st = .added ∧ 0 < tp.pend) (hf : tp.ready = true ∧ tp.pend = 1 ∧ tp.ended = tp.total ∧ tp.started = tp.total) :
      Upd s (.actionDone t q) q tp { tp with pend := 0, st := .inCbN, cbs := tp.cbs + 1, cbAt := s.clock, by_ := t }
        ⟨s.active, s.bases, s.subs, s.nests.set t (q :: (s.nests[t]?).getD [])⟩
  | actionDone {t q m tp} (hb : s.bases[t]? = some (.cb m)) (hu : s.subs[t]? = some .none)
      (hg : tp.st = .added ∧ 0 < tp.pend)
      (hnf : ¬ (tp.ready = true ∧ tp.pend = 1 ∧ tp.ended = tp.total ∧ tp.started = tp.total)) :
      Upd s (.actionDone t q) q tp { tp with pend := tp.pend - 1 } ⟨s.active, s.bases, s.subs, s.nests⟩
  | nestDec {t q rest tp} (hu : s.subs[t]? = some .none) (hn : s.nests[t]? = some (q :: rest)) :
      Upd s (.nestDec t) q tp { tp with st := .done, decAt := s.clock } ⟨s.active - 1, s.bases, s.subs, s.nests.set t rest⟩

inductive Step (s : St) : Tr → St → Prop
  | startBarrier (hg : s.mm = .out ∧ s.started = false ∧ idleT s 0 = true) :
      Step s .startBarrier (tick { s with started := true, mm := .starting, wm := s.wm.map (fun _ => .looping) })
  | startToken (hg : s.mm = .starting) :
      Step s .startToken (tick { s with active := s.active + 1, token := true, mm := .out })
  | waitBegin (hg : s.mm = .out ∧ s.started = true ∧ idleT s 0 = true) :
      Step s .waitBegin (tick { s with active := s.active - 1, token := false, mm := .waiting })
  | sawZero (hg : s.mm = .waiting ∧ idleT s 0 = true ∧ s.active = 0) :
      Step s .sawZero (tick { s with mm := .atBarrier })
  | leave {w} (hg : s.wm[w]? = some .looping ∧ idleT s (w + 1) = true ∧ s.active = 0) :
      Step s (.leave w) (tick { s with wm := s.wm.set w .exited })
  | barrier (hg : s.mm = .atBarrier ∧ (∀ m ∈ s.wm, m = .exited)) :
      Step s .barrier (tick { s with mm := .leaving, wm := s.wm.map (fun _ => .parked), epochEnd := s.clock })
  | waitReturn (hg : s.mm = .leaving) :
      Step s .waitReturn (tick { s with mm := .out, started := false, waitRets := s.clock :: s.waitRets })
  | tpWaitBegin {p tp} (htp : s.tps[p]? = some tp)
      (hg : s.mm = .out ∧ s.started = true ∧ idleT s 0 = true ∧ tp.st ≠ .notAdded) :
      Step s (.tpWaitBegin p) (tick { s with mm := .tpWait p })
  | tpWaitReturn {p tp} (hm : s.mm = .tpWait p) (htp : s.tps[p]? = some tp) (hg : tp.st = .done ∧ idleT s 0 = true) :
      Step s .tpWaitReturn (tick { s with mm := .out, tpWaitRets := (p, s.clock) :: s.tpWaitRets })
  | addReturn {t q0} (hu : s.subs[t]? = some (.startup q0)) :
      Step s (.addReturn t) (tick { s with subs := s.subs.set t .none })
  | thread {tr p tp tp' d} (htp : s.tps[p]? = some tp) (hw : Upd s tr p tp tp' d) :
      Step s tr
        (tick { s with active := d.active, bases := d.bases, subs := d.subs, nests := d.nests, tps := s.tps.set p tp' })

theorem Step.of_step? {s s' : St} {tr : Tr} (hs : step? s tr = some s') : Step s tr s' := by
  unfold step? at hs
  split at hs <;> (repeat' first | cases hs | split at hs) <;>
    first | (refine .thread (d := ⟨_, _, _, _⟩) ‹_› ?_; constructor <;> assumption) | (constructor <;> assumption)

theorem Upd.early {s : St} {tr : Tr} {p : Nat} {tp tp' : Tp} {d : Loc} (h : Upd s tr p tp tp' d) : tp'.early = tp.early := by
  cases h <;> rfl

def contrib : TpSt → Int
  | .added => 1 | .inCb => 1 | .inCbN => 1 | .earlyDec => -1 | _ => 0

def csum (l : List Tp) : Int := (l.map (fun p => contrib p.st)).sum

theorem csum_set (l : List Tp) (i : Nat) (x y : Tp) (h : l[i]? = some x) :
    csum (l.set i y) = csum l + contrib y.st - contrib x.st := by
  induction l generalizing i with
  | nil => simp at h
  | cons a t ih =>
    cases i with
    | zero =>
      cases Option.some.inj h
      simp [csum]; omega
    | succ k =>
      have := ih k h
      simp only [csum, List.set_cons_succ, List.map_cons, List.sum_cons] at *
      omega

theorem csum_eq_zero (l : List Tp) (h : ∀ tp ∈ l, contrib tp.st = 0) : csum l = 0 := by
  rw [csum, List.map_eq_replicate_iff.2 h, List.sum_replicate_int, Int.mul_zero]

theorem csum_nonneg (l : List Tp) (hn : ∀ tp ∈ l, 0 ≤ contrib tp.st) :
    0 ≤ csum l ∧ (csum l = 0 → ∀ tp ∈ l, contrib tp.st = 0) := by
  induction l with
  | nil => exact ⟨Int.le_refl 0, fun _ tp h => nomatch h⟩
  | cons a t ih =>
    rw [List.forall_mem_cons] at hn
    obtain ⟨h1, h2⟩ := ih hn.2
    simp only [csum, List.map_cons, List.sum_cons, List.forall_mem_cons] at h1 h2 ⊢
    exact ⟨by omega, fun h0 => ⟨by omega, h2 (by omega)⟩⟩

def NF (nests : List (List Nat)) (tps : List Tp) : Prop :=
  ∀ (t : Nat) (l : List Nat) (q : Nat), nests[t]? = some l → q ∈ l → ∃ tp : Tp, tps[q]? = some tp ∧ tp.st = .inCbN ∧ tp.by_ = t
def NB (nests : List (List Nat)) (tps : List Tp) : Prop :=
  ∀ (q : Nat) (tp : Tp), tps[q]? = some tp → tp.st = .inCbN → ∃ l : List Nat, nests[tp.by_]? = some l ∧ q ∈ l

structure Inv (s : St) : Prop where
  len1 : s.subs.length = s.bases.length
  len2 : s.wm.length + 1 = s.bases.length
  cnt : s.active = (if s.token = true then 1 else 0) + csum s.tps
  tokM : s.token = true ↔ (s.started = true ∧ (s.mm = .out ∨ isTpWait s.mm = true))
  notSt : s.started = false → s.mm = .out ∧ ∀ m ∈ s.wm, m = .parked
  wIdle : ∀ (w : Nat) (m : WMode), s.wm[w]? = some m → m ≠ .looping → s.bases[w+1]? = some .idle ∧ s.subs[w+1]? = some .none
  mIdle : (s.mm = .atBarrier ∨ s.mm = .leaving ∨ s.mm = .starting) → s.bases[0]? = some .idle ∧ s.subs[0]? = some .none
  taskSt : ∀ (t p : Nat), s.bases[t]? = some (Base.task p) → ∃ tp : Tp, s.tps[p]? = some tp ∧ tp.st = .added
  taskCnt : ∀ (p : Nat) (tp : Tp), s.tps[p]? = some tp → tp.started = tp.ended + s.bases.count (Base.task p) ∧ tp.started ≤ tp.total
  cbFwd : ∀ (t p : Nat), s.bases[t]? = some (Base.cb p) → ∃ tp : Tp, s.tps[p]? = some tp ∧ tp.st = .inCb ∧ tp.by_ = t
  cbBack : ∀ (p : Nat) (tp : Tp), s.tps[p]? = some tp → tp.st = .inCb → s.bases[tp.by_]? = some (Base.cb p)
  addFwd : ∀ (t q : Nat), s.subs[t]? = some (Sub.adding q) →
    ∃ tp : Tp, s.tps[q]? = some tp ∧ (tp.st = .adding ∨ tp.st = .earlyCb ∨ tp.st = .earlyDec) ∧ tp.by_ = t
  addBack : ∀ (q : Nat) (tp : Tp), s.tps[q]? = some tp → (tp.st = .adding ∨ tp.st = .earlyCb ∨ tp.st = .earlyDec) →
    s.subs[tp.by_]? = some (Sub.adding q)
  nFwd : NF s.nests s.tps
  nBack : NB s.nests s.tps
  len3 : s.nests.length = s.bases.length
  nIdle : ∀ (t : Nat) (l : List Nat), s.nests[t]? = some l → l ≠ [] → ∃ m : Nat, s.bases[t]? = some (Base.cb m)
  nNodup : ∀ (t : Nat) (l : List Nat), s.nests[t]? = some l → l.Nodup
  allOut : s.mm = .atBarrier → (∀ m ∈ s.wm, m = .exited) → s.active = 0
  leaving : s.mm = .leaving → (∀ m ∈ s.wm, m = .parked) ∧ ∀ tp ∈ s.tps, tp.st = .notAdded ∨ tp.st = .done

theorem mkTp_fresh (n : Nat) (e d : Bool) : (mkTp n e d).fresh := by
  cases e <;> cases d <;> simp [mkTp, Tp.fresh]

theorem Tp.fresh.addAt {tp : Tp} (h : tp.fresh) : tp.addAt = 0 :=
  h.2.2.2.2.1

theorem inv_init (k : Nat) (tps : List Tp) (hf : ∀ tp ∈ tps, tp.fresh) : Inv (init k tps) := by
  have hst : ∀ (p : Nat) (tp : Tp), tps[p]? = some tp → tp.st = .notAdded := fun p tp h => (hf tp (List.mem_of_getElem? h)).1
  have rep : ∀ {α : Type} {n t : Nat} {a b : α}, (List.replicate n a)[t]? = some b → b = a :=
    fun h => List.eq_of_mem_replicate (List.mem_of_getElem? h)
  exact {
    len1 := by simp [init], len2 := by simp [init], len3 := by simp [init]
    cnt := by simp [init, csum_eq_zero tps (fun tp h => by rw [(hf tp h).1]; rfl)]
    tokM := by simp [init], notSt := fun _ => by simp [init], mIdle := by simp [init]
    allOut := by simp [init], leaving := by simp [init]
    wIdle := fun w m h _ => by
      have hw : w < k := by simpa [init] using (List.getElem?_eq_some_iff.1 h).1
      simp [init, hw]
    taskSt := fun t p h => nomatch rep h
    taskCnt := fun p tp h => by
      obtain ⟨_, h2, h3, _⟩ := hf tp (List.mem_of_getElem? h)
      simp [init, h2, h3, List.count_replicate]
    cbFwd := fun t p h => nomatch rep h
    cbBack := fun p tp h hs => nomatch (hst p tp h).symm.trans hs
    addFwd := fun t q h => nomatch rep h
    addBack := fun q tp h hs => by rw [hst q tp h] at hs; rcases hs with hs | hs | hs <;> cases hs
    nFwd := fun t l q h hq => by rw [rep h] at hq; cases hq
    nBack := fun q tp h hs => nomatch (hst q tp h).symm.trans hs
    nIdle := fun t l h hne => absurd (rep h) hne
    nNodup := fun t l h => rep h ▸ List.nodup_nil }

theorem idleT_iff (s : St) (t : Nat) : idleT s t = true ↔ s.bases[t]? = some .idle ∧ s.subs[t]? = some .none := by
  simp [idleT]

theorem Inv.no_token {s : St} (h : Inv s) (hn : ¬ (s.started = true ∧ (s.mm = .out ∨ isTpWait s.mm = true))) :
    s.token = false :=
  Bool.eq_false_iff.2 (mt h.tokM.1 hn)

theorem set_keep {α} {l : List α} {i j : Nat} {a : α} (h : l[j]? = some a) : (l.set i a)[j]? = some a := by
  rw [List.getElem?_set', h]
  split <;> rfl

theorem of_get {α} {l : List α} {p : Nat} {a : α} {P : α → Prop} (ha : l[p]? = some a)
    (h : ∃ x, l[p]? = some x ∧ P x) : P a := by
  obtain ⟨x, hx, hP⟩ := h
  cases ha.symm.trans hx
  exact hP

theorem Inv.task_tp {s : St} (h : Inv s) {t p : Nat} {tp : Tp} (hb : s.bases[t]? = some (.task p))
    (htp : s.tps[p]? = some tp) : tp.st = .added ∧ tp.ended < tp.started := by
  have hst := of_get htp (h.taskSt t p hb)
  have := (h.taskCnt p tp htp).1
  have := List.count_pos_iff.2 (List.mem_of_getElem? hb)
  exact ⟨hst, by omega⟩

/-- How a step that leaves one of `bases`, `subs`, `nests` alone is put to `Inv.thread_step`, which is stated for a
    write at `t` to all three: it writes back what entry `t` holds.  `Owner` and `thread_step` read the old entries
    through `getD` for that reason (for an absent thread `set` does nothing). -/
theorem eq_set_getD {α} {l : List α} {i : Nat} (d : α) : l = l.set i ((l[i]?).getD d) := by
  by_cases h : i < l.length
  · simp [List.getElem?_eq_getElem h]
  · exact (List.set_eq_of_length_le (Nat.le_of_not_lt h)).symm

/-- the exclusive holds a thread can have on a taskpool: running its completion callback, adding it, running its
    callback nested in another one -/
inductive Hold | cb | add | nest

def holdOf : TpSt → Option Hold
  | .inCb => some .cb
  | .adding | .earlyCb | .earlyDec => some .add
  | .inCbN => some .nest
  | _ => none

def claims (b : Base) (u : Sub) (l : List Nat) : Hold → Nat → Prop
  | .cb, p => b = .cb p
  | .add, p => u = .adding p
  | .nest, p => p ∈ l

def Owner (B : List Base) (U : List Sub) (N : List (List Nat)) (T : List Tp) : Prop :=
  ∀ k t p, claims ((B[t]?).getD .idle) ((U[t]?).getD .none) ((N[t]?).getD []) k p ↔
    ∃ tp, T[p]? = some tp ∧ holdOf tp.st = some k ∧ tp.by_ = t

/-- `h1`: the claim of `t` on `p` changes exactly when the hold of `t` on `p` does; `h2`: the claims of `t` on other
    taskpools stay; `h3`: so do the holds of other threads on `p`. -/
theorem Owner.set {B : List Base} {U : List Sub} {N : List (List Nat)} {T : List Tp} (h : Owner B U N T)
    {t p : Nat} {tp tp' : Tp} {b' : Base} {u' : Sub} {l' : List Nat}
    (htB : t < B.length) (htU : t < U.length) (htN : t < N.length) (htp : T[p]? = some tp)
    (h1 : ∀ k, (claims b' u' l' k p ↔ claims ((B[t]?).getD .idle) ((U[t]?).getD .none) ((N[t]?).getD []) k p) ↔
      ((holdOf tp'.st = some k ∧ tp'.by_ = t) ↔ (holdOf tp.st = some k ∧ tp.by_ = t)))
    (h2 : ∀ k p', p' ≠ p →
      (claims b' u' l' k p' ↔ claims ((B[t]?).getD .idle) ((U[t]?).getD .none) ((N[t]?).getD []) k p'))
    (h3 : ∀ k t', t' ≠ t → ((holdOf tp'.st = some k ∧ tp'.by_ = t') ↔ (holdOf tp.st = some k ∧ tp.by_ = t'))) :
    Owner (B.set t b') (U.set t u') (N.set t l') (T.set p tp') := by
  have hpl := (List.getElem?_eq_some_iff.1 htp).1
  intro k t' p'
  have old := h k t' p'
  simp only [List.getElem?_set, htB, htU, htN, hpl, ↓reduceIte]
  by_cases ht : t = t'
  · subst ht
    simp only [↓reduceIte, Option.getD_some]
    by_cases hp : p = p'
    · subst hp
      have := h1 k
      simp only [htp, ↓reduceIte, Option.some.injEq, exists_eq_left'] at old ⊢
      grind
    · simp only [hp, ↓reduceIte]
      exact (h2 k p' (Ne.symm hp)).trans old
  · simp only [ht, ↓reduceIte]
    by_cases hp : p = p'
    · subst hp
      simp only [htp, ↓reduceIte, Option.some.injEq, exists_eq_left'] at old ⊢
      exact old.trans (h3 k t' (Ne.symm ht)).symm
    · simp only [hp, ↓reduceIte]
      exact old

theorem holdOf_eq_some {st : TpSt} {k : Hold} : holdOf st = some k ↔
    match k with
    | .cb => st = .inCb
    | .add => st = .adding ∨ st = .earlyCb ∨ st = .earlyDec
    | .nest => st = .inCbN := by
  cases st <;> cases k <;> simp [holdOf]

theorem mem_getD_nil {α} {o : Option (List α)} {q : α} : q ∈ o.getD [] ↔ ∃ l, o = some l ∧ q ∈ l := by
  cases o <;> simp

theorem Inv.owner {s : St} (h : Inv s) : Owner s.bases s.subs s.nests s.tps := by
  intro k t p
  cases k <;>
    simp only [claims, holdOf_eq_some, Option.getD_eq_iff, reduceCtorEq, and_false, or_false, mem_getD_nil]
  · exact ⟨h.cbFwd t p, fun ⟨tp, htp, hs, hb⟩ => hb ▸ h.cbBack p tp htp hs⟩
  · exact ⟨h.addFwd t p, fun ⟨tp, htp, hs, hb⟩ => hb ▸ h.addBack p tp htp hs⟩
  · exact ⟨fun ⟨l, hl, hq⟩ => h.nFwd t l p hl hq, fun ⟨tp, htp, hs, hb⟩ => hb ▸ h.nBack p tp htp hs⟩

def Tasks (B : List Base) (T : List Tp) : Prop :=
  (∀ t p : Nat, B[t]? = some (Base.task p) → ∃ tp : Tp, T[p]? = some tp ∧ tp.st = .added) ∧
  ∀ (p : Nat) (tp : Tp), T[p]? = some tp → tp.started = tp.ended + B.count (Base.task p) ∧ tp.started ≤ tp.total

/-- `hrun`: thread `t` neither starts nor ends a task of a taskpool other than `p`; `hcnt`: `started − ended` of `p`
    moves with the thread's running a task of `p`; `hadd`: only an `added` taskpool has a task running. -/
theorem Tasks.set {B : List Base} {T : List Tp} (h : Tasks B T) {t p : Nat} {tp tp' : Tp} {b' : Base}
    (htB : t < B.length) (htp : T[p]? = some tp)
    (hrun : ∀ p', p' ≠ p → (b' = .task p' ↔ (B[t]?).getD .idle = .task p'))
    (hcnt : tp'.started + tp.ended + (if (B[t]?).getD .idle = .task p then 1 else 0) =
      tp.started + tp'.ended + (if b' = .task p then 1 else 0))
    (hle : tp'.started ≤ tp'.total) (hadd : tp'.st = .added ∨ tp'.started = tp'.ended) :
    Tasks (B.set t b') (T.set p tp') := by
  have hpl := (List.getElem?_eq_some_iff.1 htp).1
  rw [List.getElem?_eq_getElem htB, Option.getD_some] at hrun hcnt
  have hmv := fun q => Interleave.count_set_of_getElem? (List.getElem?_eq_getElem htB) b' (Base.task q)
  have hnew : tp'.started = tp'.ended + (B.set t b').count (Base.task p) := by
    have := (h.2 p tp htp).1
    have := hmv p
    omega
  refine ⟨fun t' p' hb => ?_, fun p' x hx => ?_⟩
  · by_cases hp : p' = p
    · subst hp
      have := List.count_pos_iff.2 (List.mem_of_getElem? hb)
      exact ⟨tp', List.getElem?_set_self hpl, hadd.resolve_right (by omega)⟩
    · rw [List.getElem?_set_ne (Ne.symm hp)]
      rcases Interleave.getElem?_set_cases hb with ⟨rfl, hx⟩ | ⟨_, hb'⟩
      · exact h.1 t' p' (by rw [List.getElem?_eq_getElem htB, (hrun p' hp).1 hx.symm])
      · exact h.1 t' p' hb'
  · rcases Interleave.getElem?_set_cases hx with ⟨rfl, rfl⟩ | ⟨hp, hx'⟩
    · exact ⟨hnew, hle⟩
    · have := h.2 p' x hx'
      have := hmv p'
      simp only [hrun p' hp] at this
      omega

theorem Inv.nest_cb {s : St} (h : Inv s) (t : Nat) :
    (s.nests[t]?).getD [] ≠ [] → ∃ m, (s.bases[t]?).getD .idle = .cb m := by
  cases hl : s.nests[t]? with
  | none => simp
  | some l =>
    exact fun hne => (h.nIdle t l hl hne).imp fun m hb => by simp [hb]

theorem Inv.nest_nodup {s : St} (h : Inv s) (t : Nat) : ((s.nests[t]?).getD []).Nodup := by
  cases hl : s.nests[t]? with
  | none => simp
  | some l => exact h.nNodup t l hl

theorem Inv.no_task {s : St} (h : Inv s) {p : Nat} {tp : Tp} (htp : s.tps[p]? = some tp) (hne : tp.st ≠ .added) :
    tp.started = tp.ended := by
  have hno : Base.task p ∉ s.bases := fun hm => by
    obtain ⟨t, hb⟩ := List.getElem?_of_mem hm
    exact hne (h.task_tp hb htp).1
  have hc := (h.taskCnt p tp htp).1
  rwa [List.count_eq_zero.2 hno] at hc

theorem contrib_of_free {st : TpSt} (h : holdOf st = none) :
    0 ≤ contrib st ∧ (contrib st = 0 → st = .notAdded ∨ st = .done) := by
  cases st <;> simp [holdOf, contrib] at h ⊢

theorem Inv.holder_busy {s : St} (h : Inv s) {q : Nat} {tp : Tp} {k : Hold} (htp : s.tps[q]? = some tp)
    (hk : holdOf tp.st = some k) :
    tp.by_ < s.bases.length ∧ ¬ (s.bases[tp.by_]? = some .idle ∧ s.subs[tp.by_]? = some .none) := by
  cases k
  · have hb := h.cbBack q tp htp (holdOf_eq_some.1 hk)
    exact ⟨(List.getElem?_eq_some_iff.1 hb).1, fun e => by rw [hb] at e; cases e.1⟩
  · have hu := h.addBack q tp htp (holdOf_eq_some.1 hk)
    exact ⟨h.len1 ▸ (List.getElem?_eq_some_iff.1 hu).1, fun e => by rw [hu] at e; cases e.2⟩
  · obtain ⟨l, hl, hq⟩ := h.nBack q tp htp (holdOf_eq_some.1 hk)
    obtain ⟨m, hb⟩ := h.nIdle _ l hl (List.ne_nil_of_mem hq)
    exact ⟨(List.getElem?_eq_some_iff.1 hb).1, fun e => by rw [hb] at e; cases e.1⟩

end ParsecVerif.Context
