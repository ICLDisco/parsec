import ParsecVerif.Proofs.FourCounterStep
/-
  After the root's decision: the DOWN(true) wave terminates one process per delivery.
  Quiescent states: no deadlock, and deliveries keep the state quiescent.
  The replay of delayed messages by taskpool_ready is a run of deliveries.
-/
namespace ParsecVerif.FourCounter

def numTerm (s : State) : Nat := sumTo s.n (fun q => if (s.procs q).st = .term then 1 else 0)

def AllTerm (s : State) : Prop := ∀ q, q < s.n → (s.procs q).st = .term

theorem numTerm_le (s : State) : numTerm s ≤ s.n := by
  unfold numTerm
  generalize s.n = n
  induction n with
  | zero => exact Nat.le_refl 0
  | succ k ih => unfold sumTo; split <;> omega

theorem deliver_enabled {s : State} {k : Nat} {pk : Packet} (hk : s.net[k]? = some pk)
    (hctl : isApp pk = false) (hdst : pk.dst < s.n) (hr : (s.procs pk.dst).st ≠ .notReady) :
    ∃ s', step s (.deliver k) = some s' := by
  unfold isApp at hctl
  cases hkind : pk.kind <;> simp [FourCounter.step, hk, hdst, hkind, hr] at hctl ⊢

theorem allTerm_of_no_down {s : State} (h : Struct s) (ht : (s.procs 0).st = .term) (hD : ∀ q, D s q true = 0) :
    AllTerm s :=
  tree_induction ht fun q hq0 hq ih => by
    have e := h.edge q hq0 hq
    unfold Edge at e; rw [ih, hD] at e
    exact cls_eq.1 (edge_term e)

theorem term_deliver {s s' : State} (h : Inv s) (ht : (s.procs 0).st = .term) {k : Nat}
    (hs : step s (.deliver k) = some s') :
    numTerm s' = numTerm s + 1 ∧ (s'.procs 0).st = .term := by
  -- once the root has terminated nobody collects: the only message a ready process can receive is DOWN(true)
  cases step_ev hs with
  | workKeep ha | workFlip ha | workUp ha => exact ha.elim
  | hold hk hdst hnr =>
    rcases ((h.fi.q ht).1 _ hdst).2.2 with t | t <;> rw [hnr] at t <;> cases t
  | up hk hkind hr =>
    obtain ⟨h1, -, hd⟩ := h.st.up_finds (List.mem_of_getElem? hk) hkind hr
    have := st_of_fin h.fi ht hd
    omega
  | @downIdle _ pk hk hkind | @downBusy _ pk hk hkind =>
    obtain ⟨-, b, h0, hme⟩ := h.st.down_finds (List.mem_of_getElem? hk) hkind
    have := st_of_fin h.fi ht (q := parent pk.dst) (by have := parent_lt h0; omega)
    have b : cls (s.procs (parent pk.dst)).st = 1 := b
    omega
  | @downT _ pk hk hkind =>
    obtain ⟨hip, -, -, h0, hme⟩ := h.downT_finds (List.mem_of_getElem? hk) hkind
    refine ⟨?_, (setP_procs_ne _ _ (Nat.ne_of_lt h0)).symm ▸ ht⟩
    have := sumTo_setP s (s.net.eraseIdx k ++ downs s.n pk.dst true) hme
      { s.procs pk.dst with st := .term, cbs := (s.procs pk.dst).cbs + 1 } fun v => if v.st = .term then 1 else 0
    rw [hip] at this
    exact this

def qOK (p : Proc) : Prop :=
  (p.st = .idleWC ∨ p.st = .idleWP ∨ p.st = .term) ∧ p.wl = 0 ∧ p.opn = 0

def Quiescent (s : State) : Prop := (∀ q, q < s.n → qOK (s.procs q)) ∧ cnt isApp s.net = 0

theorem Fin.quiescent {s : State} (h : Fin s) (ht : (s.procs 0).st = .term) : Quiescent s :=
  ⟨fun q hq => ⟨Or.inr ((h.q ht).1 q hq).2.2, ((h.q ht).1 q hq).1, ((h.q ht).1 q hq).2.1⟩, (h.q ht).2⟩

theorem quiescent_no_deadlock {s : State} (h : Inv s) (hl : Live s) (hq : Quiescent s) :
    AllTerm s ∨ ∃ k s', step s (.deliver k) = some s' := by
  have hready : ∀ q, q < s.n → (s.procs q).st ≠ .notReady := fun q hqn e => by
    rcases (hq.1 q hqn).1 with t | t | t <;> rw [e] at t <;> cases t
  by_cases hc : ∃ pk, pk ∈ s.net ∧ isApp pk = false
  · right
    obtain ⟨pk, hm, hctl⟩ := hc
    obtain ⟨k, hk⟩ := List.getElem?_of_mem hm
    have hpk := h.st.pk pk hm
    have hdst : pk.dst < s.n := by
      unfold PkOK at hpk; unfold isApp at hctl
      split at hpk
      · have := parent_lt hpk.1; omega
      · exact hpk.2.1
      · simp_all
    exact ⟨k, deliver_enabled hk hctl hdst (hready _ hdst)⟩
  · left
    have hempty : ∀ f, cnt f s.net = 0 := fun f => (cnt_eq_zero f).2 fun pk hm =>
      absurd ⟨pk, hm, (cnt_eq_zero isApp).1 hq.2 pk hm⟩ hc
    have hU : ∀ q, U s q = 0 := fun _ => hempty _
    have hD : ∀ q x, D s q x = 0 := fun _ _ => hempty _
    -- nobody is idle waiting for children: by `Live` one of its children would still owe its
    -- contribution, and with no UP message in flight that child is idle waiting for children itself
    have noIC : ∀ d q, s.n - q = d → q < s.n → (s.procs q).st ≠ .idleWC := by
      intro d
      induction d using Nat.strongRecOn with
      | _ d ih =>
        intro q hd hqn hic
        have h1 : cls (s.procs q).st = 1 := by rw [hic]; rfl
        have hchild : ∀ c, parent c = q → 0 < c → pend s c = 0 := by
          intro c hpar hc0
          unfold pend
          refine if_neg fun ⟨hcn, hnp⟩ => ?_
          have e := h.st.edge c hc0 hcn
          unfold Edge at e
          rw [hpar, h1, hU, hD, hD] at e
          rw [hU] at hnp
          have ha : cls (s.procs c).st ≤ 1 := (edge_quiet e).resolve_right fun t => hnp ⟨t.1, t.2, rfl⟩
          have hcic : (s.procs c).st = .idleWC := by
            rcases (hq.1 c hcn).1 with t | t | t
            · exact t
            · rw [t] at ha; simp [cls] at ha
            · rw [t] at ha; simp [cls] at ha
          have hlt : q < c := by have := parent_lt hc0; omega
          exact ih (s.n - c) (by omega) c rfl hcn hcic
        have hn1 := h.st.ncl1 q hqn h1
        rw [hchild _ (by unfold parent; omega) (by omega), hchild _ (by unfold parent; omega) (by omega)] at hn1
        exact (hl q hqn).2 hic hn1
    by_cases hn : s.n = 0
    · intro q hqn; omega
    · have hroot : (s.procs 0).st = .term := by
        rcases (hq.1 0 (by omega)).1 with t | t | t
        · exact (noIC _ 0 rfl (by omega) t).elim
        · have := h.st.root.1; rw [t] at this; simp [cls] at this
        · exact t
      exact allTerm_of_no_down h.st hroot fun q => hD q true

theorem sendUp_q (s : State) (me : Nat) :
    (qOK (s.procs me) → qOK ((sendUp s me).procs me)) ∧ cnt isApp (sendUp s me).net = cnt isApp s.net := by
  unfold sendUp; split
  · rename_i h0; subst h0
    refine ⟨fun h => ?_, by simp [rootDecide, cnt_app_downs]⟩
    simp only [rootDecide, upd_same]
    unfold rootAfter
    split
    · exact ⟨Or.inr (Or.inr rfl), h.2⟩
    · exact h
  · refine ⟨fun h => ?_, by simp [sampleUp, isApp]⟩
    simp only [sampleUp, upd_same]
    exact ⟨Or.inr (Or.inl rfl), h.2⟩

theorem checkMsg_q (s : State) (me : Nat) :
    (qOK (s.procs me) → qOK ((checkMsg s me).procs me)) ∧ cnt isApp (checkMsg s me).net = cnt isApp s.net := by
  unfold checkMsg; split
  · exact sendUp_q s me
  · exact ⟨id, rfl⟩

theorem quiescent_deliver {s s' : State} (h : Inv s) (hq : Quiescent s) {k : Nat}
    (hs : step s (.deliver k) = some s') : Quiescent s' := by
  -- a quiescent monitor `v` replaces that of `me`, control messages come and go, `checkMsg` may follow
  have key : ∀ {me : Nat} {l : List Packet} {v : Proc}, cnt isApp l = cnt isApp s.net → (me < s.n → qOK v) →
      Quiescent (setP { s with net := l } me v) ∧ Quiescent (checkMsg (setP { s with net := l } me v) me) := by
    intro me l v hl hv
    have hv' : me < s.n → qOK ((setP { s with net := l } me v).procs me) := by rwa [setP_procs_same]
    have hc := checkMsg_q (setP { s with net := l } me v) me
    exact ⟨⟨(Local.setP s me v l).forall hq.1 hv', hl.trans hq.2⟩,
      (Local.setP s me v l).checkMsg.forall hq.1 fun hh => hc.1 (hv' hh), hc.2.trans (hl.trans hq.2)⟩
  cases step_ev hs with
  | workKeep ha | workFlip ha | workUp ha => exact ha.elim
  | @hold _ pk hk =>
    have := (key (me := pk.dst) (cnt_hold _ hk rfl) (hq.1 _)).1
    rwa [setP_self] at this
  | up hk hkind =>
    refine (key (cnt_eraseIdx_of_false isApp hk (by simp [isApp, hkind])) fun hh => ?_).2
    exact hq.1 _ hh
  | downT hk hkind =>
    refine (key (pDown_app (v := s.procs 0) hk hkind) fun hh => ?_).1
    exact ⟨Or.inr (Or.inr rfl), (hq.1 _ hh).2⟩
  | downIdle hk hkind =>
    refine (key (pDown_app (v := s.procs 0) hk hkind) fun hh => ?_).2
    exact ⟨Or.inl rfl, (hq.1 _ hh).2⟩
  | @downBusy _ pk hk hkind hnip =>
    obtain ⟨a2, -, -, hme⟩ := h.st.down_finds (List.mem_of_getElem? hk) hkind
    rcases (hq.1 _ hme).1 with t | t | t
    · rw [t] at a2; cases a2
    · exact (hnip t).elim
    · rw [t] at a2; cases a2

theorem replay_reach {n : Nat} (p : Nat) (f : Nat) {s : State} (h : Reach n s) : Reach n (replay p f s) := by
  induction f generalizing s with
  | zero => exact h
  | succ f ih =>
    unfold replay
    split
    · exact h
    · rename_i k _
      split
      · rename_i s' hs'; exact ih (Reach.step _ h hs')
      · exact h

end ParsecVerif.FourCounter
