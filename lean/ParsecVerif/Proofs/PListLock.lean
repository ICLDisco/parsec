import ParsecVerif.Model.PList
import ParsecVerif.Base.Interleave
/-!
  The locked list calls as a small-step machine (`lstep`): the invariant `LInv` that makes the ghost history a
  linearization, kept by every step (`LInv.move` for a step without a linearization point, `LInv.emit` for one with).
-/
namespace ParsecVerif.C31
open ParsecVerif.PList

def isFence : Pc → Bool
  | .fence _ => true
  | _ => false

/-- number of own calls whose linearization point has passed -/
def linCount : Pc → Nat
  | .idle k => k | .cas k => k | .fence k => k + 1

def proj (t : Nat) (h : List Ev) : List LOp := (h.filter (fun e => e.tid == t)).map (·.call)

def effOk (e : Ev) : Prop := e.op = e.call ∨ (e.op = .tryFail ∧ isTry e.call = true)

-- `h0` is the history at some earlier moment: the history only grows (`pre`).  No other clause mentions `h0`, so the
-- invariant can be restarted at any reached state with that state's history for `h0` (`locked_realtime` does).
structure LInv (progs : List (List LOp)) (l0 : List Item) (h0 : List Ev) (s : LState) : Prop where
  pre   : h0 <+: s.hist
  rep   : replay l0 s.hist = (s.l, true)
  mutex : s.pcs.countP isFence = if s.lock then 1 else 0
  order : ∀ t pc, s.pcs[t]? = some pc → ∀ prog, progs[t]? = some prog → proj t s.hist = prog.take (linCount pc)
  eff   : ∀ e ∈ s.hist, effOk e

theorem replay_append (l0 : List Item) (h : List Ev) (e : Ev) :
    replay l0 (h ++ [e]) = ((sem e.op (replay l0 h).1).1, (replay l0 h).2 && retOk e (replay l0 h).1) := by
  induction h generalizing l0 with
  | nil => simp only [List.nil_append, replay, Bool.and_true, Bool.true_and]
  | cons a t ih =>
    simp only [List.cons_append, replay, ih, Bool.and_assoc]

theorem proj_append (t : Nat) (h : List Ev) (e : Ev) :
    proj t (h ++ [e]) = proj t h ++ if e.tid = t then [e.call] else [] := by
  unfold proj
  by_cases he : e.tid = t <;> simp [List.filter_append, he]

theorem sem_precheck_nil (op : LOp) (h : precheck op = true) : sem op [] = ([], .item none) := by
  cases op <;> simp [precheck] at h <;> simp [sem, popFront, popBack]

theorem linv_init (progs : List (List LOp)) (l0 : List Item) : LInv progs l0 [] (linit l0 progs.length) := by
  refine ⟨List.prefix_rfl, rfl, by simp [linit, List.countP_replicate, isFence], fun t pc hpc prog _ => ?_, fun _ h => nomatch h⟩
  obtain ⟨_, rfl⟩ := List.getElem?_eq_some_iff.1 hpc
  simp [linit, proj, linCount]

section
variable {progs : List (List LOp)} {l0 : List Item} {h0 : List Ev} {s : LState} {t : Nat} {pc : Pc}

/-- `hm`: the lock word keeps counting the threads between their CAS and their unlock. -/
theorem LInv.move (h : LInv progs l0 h0 s) (hpc : s.pcs[t]? = some pc) {pc' : Pc} {lock' : Bool}
    (hlc : linCount pc' = linCount pc)
    (hm : (if lock' then 1 else 0) + (if isFence pc then 1 else 0) =
      (if s.lock then 1 else 0) + if isFence pc' then 1 else 0) :
    LInv progs l0 h0 ⟨lock', s.l, s.pcs.set t pc', s.hist⟩ := by
  have hc := Interleave.countP_set_of_getElem? isFence hpc pc'
  have hmu := h.mutex
  exact ⟨h.pre, h.rep, by simp only; omega,
    Interleave.forall_getElem?_set (fun prog => hlc ▸ h.order t _ hpc prog) fun u pcu _ => h.order u pcu, h.eff⟩

theorem LInv.emit (h : LInv progs l0 h0 s) {prog : List LOp} (hpc : s.pcs[t]? = some pc)
    (hpr : progs[t]? = some prog) {pc' : Pc} {lock' : Bool} {l' : List Item} (call op : LOp) (ret : Ret)
    (heff : effOk ⟨t, call, op, ret⟩) (hcall : prog[linCount pc]? = some call)
    (hlc : linCount pc' = linCount pc + 1) (hsem : sem op s.l = (l', ret))
    (hm : (if lock' then 1 else 0) + (if isFence pc then 1 else 0) =
      (if s.lock then 1 else 0) + if isFence pc' then 1 else 0) :
    LInv progs l0 h0 ⟨lock', l', s.pcs.set t pc', s.hist ++ [⟨t, call, op, ret⟩]⟩ := by
  have hc := Interleave.countP_set_of_getElem? isFence hpc pc'
  have hmu := h.mutex
  refine ⟨h.pre.trans (List.prefix_append ..), ?_, by simp only; omega,
    Interleave.forall_getElem?_set (fun prog' h2 => ?_) fun u pcu hu h1 prog' h2 => ?_,
    List.forall_mem_append.2 ⟨h.eff, List.forall_mem_singleton.2 heff⟩⟩
  · rw [replay_append, h.rep, hsem]; simp [retOk, hsem]
  · cases hpr.symm.trans h2
    rw [proj_append, if_pos rfl, h.order _ _ hpc _ hpr, hlc, List.take_add_one, hcall]; rfl
  · rw [proj_append, if_neg (Ne.symm hu), List.append_nil]; exact h.order u pcu h1 prog' h2

theorem linv_step (t : Nat) (h : LInv progs l0 h0 s) : LInv progs l0 h0 (lstep progs s t) := by
  unfold lstep
  split
  · next k prog hpc hpr =>
    split
    · exact h
    · next op hop =>
      split
      · -- emptiness pre-check succeeded: the call returns NULL, linearized at this read
        next hc =>
        simp only [Bool.and_eq_true, List.isEmpty_iff] at hc
        exact h.emit hpc hpr op op (.item none) (.inl rfl) hop rfl
          (hc.2 ▸ sem_precheck_nil op hc.1) (by simp [isFence])
      · exact h.move hpc rfl (by simp [isFence])
  · next k prog hpc hpr =>
    split
    · exact h
    · next op hop =>
      split
      · next hl =>
        split
        · -- trylock failed: returns NULL, no effect
          next htry =>
          exact h.emit hpc hpr op .tryFail (.item none) (.inr ⟨rfl, htry⟩) hop rfl rfl
            (by simp [isFence, hl])
        · exact h
      · -- lock taken: the critical section runs now; this is the linearization point
        next hl =>
        exact h.emit hpc hpr op op (sem op s.l).2 (.inl rfl) hop rfl rfl (by simp [isFence, hl])
  · next k _ hpc _ =>
    have hpos : 0 < s.pcs.countP isFence := List.countP_pos_iff.2 ⟨_, List.mem_of_getElem? hpc, rfl⟩
    have hl : s.lock = true :=
      Decidable.by_contra fun hn => by rw [h.mutex, if_neg hn] at hpos; exact Nat.lt_irrefl 0 hpos
    exact h.move hpc rfl (by simp [isFence, hl])
  · exact h

theorem linv_run (sched : List Nat) (h : LInv progs l0 h0 s) : LInv progs l0 h0 (lrun progs s sched) :=
  Interleave.foldl_inv (fun _ t => linv_step t) sched h

end

end ParsecVerif.C31
