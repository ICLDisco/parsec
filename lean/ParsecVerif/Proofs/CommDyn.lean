/-
  C14 — the dynamic region of the request array and its two FIFOs: its invariant between passes and inside a pass, and
  what the loops at the end of a pass may change.
-/
import ParsecVerif.Model.CommEngine
import ParsecVerif.Proofs.CommList

namespace ParsecVerif.CommEngine
open ParsecVerif.Interleave (lt_of_getElem? getElem?_set_cases forall_getElem?_set)

/-- The dynamic request a slot is responsible for: live in the array, or completed with its callback still to run. -/
def Slot.held (sl : Slot) : Option Dyn :=
  if sl.req.isSome || sl.fin then (match sl.cb with | .dyn x => some x | _ => none) else none

def heldOf (l : List Slot) : List Dyn := l.filterMap Slot.held

def Slot.cntRecv (sl : Slot) : Bool := sl.isRecv && (sl.req.isSome || sl.fin)

def nRecv (l : List Slot) : Nat := l.countP Slot.cntRecv

def DynR.refs (d : DynR) : List Dyn := heldOf d.slots ++ d.sendq ++ d.recvq

theorem heldOf_append (a b : List Slot) : heldOf (a ++ b) = heldOf a ++ heldOf b := by
  simp [heldOf, List.filterMap_append]

theorem nRecv_append (a b : List Slot) : nRecv (a ++ b) = nRecv a + nRecv b := by
  simp [nRecv, List.countP_append]

theorem heldOf_cons (sl : Slot) (l : List Slot) : heldOf (sl :: l) = sl.held.toList ++ heldOf l := by
  simp only [heldOf, List.filterMap_cons]; cases sl.held <;> rfl

theorem nRecv_cons (sl : Slot) (l : List Slot) : nRecv (sl :: l) = nRecv l + (if sl.cntRecv then 1 else 0) := by
  simp [nRecv, List.countP_cons]

theorem heldOf_concat (l : List Slot) (sl : Slot) : heldOf (l ++ [sl]) = heldOf l ++ sl.held.toList := by
  rw [heldOf_append, heldOf_cons]; exact congrArg _ (List.append_nil _)

theorem nRecv_concat (l : List Slot) (sl : Slot) : nRecv (l ++ [sl]) = nRecv l + (if sl.cntRecv then 1 else 0) := by
  rw [nRecv_append, nRecv_cons]; exact congrArg _ (Nat.zero_add _)

@[simp] theorem held_dynSlot (x : Dyn) (a : Nat) (b : Bool) : (dynSlot x a b).held = some x := rfl
@[simp] theorem cntRecv_dynSlot (x : Dyn) (a : Nat) (b : Bool) : (dynSlot x a b).cntRecv = b := by
  simp [Slot.cntRecv, dynSlot]

theorem held_hole {sl : Slot} (hreq : sl.req = none) (hfin : sl.fin = false) : sl.held = none ∧ sl.cntRecv = false := by
  simp [Slot.held, Slot.cntRecv, hreq, hfin]

/-- Invariant of the region, valid also inside a pass of the progress loop (completed requests not yet
    removed leave holes). -/
structure DMid (d : DynR) : Prop where
  len_le : d.slots.length ≤ d.cap
  slots : ∀ j sl, d.slots[j]? = some sl → ∃ x, sl.cb = .dyn x ∧ sl.st1 = d.base + j ∧ sl.isRecv = x.kind.isRecv ∧
            ((sl.req = some (.dyn x) ∧ sl.fin = false) ∨ sl.req = none)
  nrecv_eq : d.nrecv = nRecv d.slots
  nrecv_le : d.nrecv ≤ d.quota
  sendq_kind : ∀ x, x ∈ d.sendq → x.kind.isRecv = false
  recvq_kind : ∀ x, x ∈ d.recvq → x.kind.isRecv = true

/-- Between passes: no hole. -/
structure DInv (d : DynR) : Prop where
  mid : DMid d
  live : ∀ sl, sl ∈ d.slots → sl.req ≠ none

theorem DInv.slot_eq {d : DynR} (h : DInv d) {j : Nat} {sl : Slot} (hj : d.slots[j]? = some sl) :
    ∃ x, sl = dynSlot x (d.base + j) x.kind.isRecv := by
  obtain ⟨x, h1, h2, h3, h4⟩ := h.mid.slots j sl hj
  obtain ⟨h4, h5⟩ := h4.resolve_right (h.live sl (List.mem_of_getElem? hj))
  exact ⟨x, by cases sl; simp_all [dynSlot]⟩

theorem DMid.queues {d : DynR} (h : DMid d) {s r : List Dyn} (hs : ∀ x, x ∈ s → x.kind.isRecv = false)
    (hr : ∀ x, x ∈ r → x.kind.isRecv = true) : DMid { d with sendq := s, recvq := r } :=
  ⟨h.len_le, h.slots, h.nrecv_eq, h.nrecv_le, hs, hr⟩

theorem DMid_append {d : DynR} (h : DMid d) (x : Dyn) (hlen : d.slots.length < d.cap)
    (hq : x.kind.isRecv = true → d.nrecv < d.quota) :
    DMid ({ d with nrecv := d.nrecv + (if x.kind.isRecv then 1 else 0) }.append x x.kind.isRecv) := by
  refine ⟨?_, ?_, ?_, ?_, h.sendq_kind, h.recvq_kind⟩
  · show (d.slots ++ [_]).length ≤ d.cap
    rw [List.length_append]; exact hlen
  · intro j sl hj
    rcases getElem?_concat_cases hj with hj | ⟨rfl, rfl⟩
    · exact h.slots j sl hj
    · exact ⟨x, rfl, rfl, rfl, Or.inl ⟨rfl, rfl⟩⟩
  · show d.nrecv + _ = nRecv (d.slots ++ [dynSlot x _ _])
    rw [nRecv_concat, cntRecv_dynSlot, h.nrecv_eq]
  · show d.nrecv + _ ≤ d.quota
    have := h.nrecv_le
    split
    · exact hq ‹_›
    · exact this

theorem refs_append (d : DynR) (x : Dyn) (b : Bool) : (d.append x b).refs.Perm (x :: d.refs) := by
  simp only [DynR.refs, DynR.append, heldOf_concat, held_dynSlot, List.append_assoc]
  exact List.perm_middle

theorem install_room {d : DynR} {x : Dyn} (hroom : d.slots.length < d.cap) (hq : x.kind.isRecv = true → d.nrecv < d.quota) :
    d.install x = { d with nrecv := d.nrecv + (if x.kind.isRecv then 1 else 0) }.append x x.kind.isRecv := by
  unfold DynR.install
  cases hk : x.kind.isRecv with
  | true => simp [DynR.installRecv, hroom, hq hk]
  | false => simp [DynR.installSend, hroom]

theorem install_full {d : DynR} {x : Dyn}
    (hc : ¬ (d.slots.length < d.cap ∧ (x.kind.isRecv = true → d.nrecv < d.quota))) :
    d.install x = if x.kind.isRecv then { d with recvq := d.recvq ++ [x] } else { d with sendq := d.sendq ++ [x] } := by
  unfold DynR.install DynR.installRecv DynR.installSend
  cases hk : x.kind.isRecv
  · simp_all; omega
  · simp_all; omega

theorem install_slots (d : DynR) (x : Dyn) :
    ((d.install x).slots = d.slots ∨ (d.install x).slots = d.slots ++ [dynSlot x d.last x.kind.isRecv]) ∧
    (d.install x).base = d.base ∧ (d.install x).cap = d.cap ∧ (d.install x).quota = d.quota := by
  by_cases hc : d.slots.length < d.cap ∧ (x.kind.isRecv = true → d.nrecv < d.quota)
  · rw [install_room hc.1 hc.2]; exact ⟨Or.inr rfl, rfl, rfl, rfl⟩
  · rw [install_full hc]
    split
    · exact ⟨Or.inl rfl, rfl, rfl, rfl⟩
    · exact ⟨Or.inl rfl, rfl, rfl, rfl⟩

theorem DMid_install {d : DynR} (h : DMid d) (x : Dyn) :
    DMid (d.install x) ∧ (d.install x).refs.Perm (x :: d.refs) := by
  by_cases hc : d.slots.length < d.cap ∧ (x.kind.isRecv = true → d.nrecv < d.quota)
  · rw [install_room hc.1 hc.2]
    exact ⟨DMid_append h x hc.1 hc.2, refs_append _ x _⟩
  · rw [install_full hc]
    split
    · rename_i hk
      refine ⟨h.queues h.sendq_kind ?_, ?_⟩
      · simpa [or_imp, forall_and, hk] using h.recvq_kind
      · simp only [DynR.refs]
        rw [← List.append_assoc]; exact List.perm_append_singleton x _
    · rename_i hk
      refine ⟨h.queues ?_ h.recvq_kind, ?_⟩
      · simpa [or_imp, forall_and, hk] using h.sendq_kind
      · simp only [DynR.refs]
        rw [← List.append_assoc, List.append_assoc _ [x]]; exact List.perm_middle

theorem complete_eq {d : DynR} {j : Nat} {sl : Slot} (h : d.slots[j]? = some sl) :
    d.complete j = { d with slots := d.slots.set j sl.finish } := by
  unfold DynR.complete; rw [h]

theorem DMid_complete {d : DynR} (h : DMid d) {j : Nat} {sl : Slot} (hj : d.slots[j]? = some sl) (hlive : sl.req ≠ none) :
    DMid (d.complete j) ∧ (d.complete j).refs = d.refs := by
  rw [complete_eq hj]
  obtain ⟨x, h1, h2, h3, h4⟩ := h.slots j sl hj
  obtain ⟨h4, h5⟩ := h4.resolve_right hlive
  have hheld : sl.finish.held = sl.held := by simp [Slot.held, Slot.finish, h4]
  have hcnt : sl.finish.cntRecv = sl.cntRecv := by simp [Slot.cntRecv, Slot.finish, h4]
  obtain ⟨L, R, e1, e2⟩ := set_split hj sl.finish
  refine ⟨⟨by simp [h.len_le], ?_, ?_, h.nrecv_le, h.sendq_kind, h.recvq_kind⟩, ?_⟩
  · exact forall_getElem?_set ⟨x, h1, h2, h3, Or.inr rfl⟩ fun i s' _ => h.slots i s'
  · show d.nrecv = nRecv (d.slots.set j _)
    rw [h.nrecv_eq, e2, e1, nRecv_append, nRecv_append, nRecv_cons, nRecv_cons, hcnt]
  · simp only [DynR.refs]
    rw [e2, e1, heldOf_append, heldOf_append, heldOf_cons, heldOf_cons, hheld]

theorem serve_eq {d : DynR} {j : Nat} {sl : Slot} (h : d.slots[j]? = some sl) :
    d.serve j = { d with nrecv := if sl.isRecv then d.nrecv - 1 else d.nrecv, slots := d.slots.set j sl.unfin } := by
  unfold DynR.serve; rw [h]

theorem DMid_serve {d : DynR} (h : DMid d) {j : Nat} {sl : Slot} {x : Dyn} (hj : d.slots[j]? = some sl)
    (hcb : sl.cb = .dyn x) (hfin : sl.fin = true) (hreq : sl.req = none) :
    DMid (d.serve j) ∧ (x :: (d.serve j).refs).Perm d.refs := by
  rw [serve_eq hj]
  obtain ⟨x', h1, h2, h3, h4⟩ := h.slots j sl hj
  have hheld0 : sl.held = some x := by simp [Slot.held, hfin, hcb]
  have hcnt0 : sl.cntRecv = sl.isRecv := by simp [Slot.cntRecv, hfin]
  obtain ⟨hheld1, hcnt1⟩ := held_hole (sl := sl.unfin) hreq rfl
  obtain ⟨L, R, e1, e2⟩ := set_split hj sl.unfin
  have hn := h.nrecv_eq
  rw [e1, nRecv_append, nRecv_cons, hcnt0] at hn
  refine ⟨⟨by simp [h.len_le], ?_, ?_, ?_, h.sendq_kind, h.recvq_kind⟩, ?_⟩
  · exact forall_getElem?_set ⟨x', h1, h2, h3, Or.inr hreq⟩ fun i s2 _ => h.slots i s2
  · show (if sl.isRecv then d.nrecv - 1 else d.nrecv) = nRecv (d.slots.set j _)
    rw [e2, nRecv_append, nRecv_cons, hcnt1, hn]
    cases sl.isRecv
    · rfl
    · rfl
  · show (if sl.isRecv then d.nrecv - 1 else d.nrecv) ≤ d.quota
    have := h.nrecv_le
    split <;> omega
  · simp only [DynR.refs]
    rw [e2, e1, heldOf_append, heldOf_append, heldOf_cons, heldOf_cons, hheld0, hheld1]
    simp only [List.append_assoc, Option.toList_some, Option.toList_none, List.nil_append, List.singleton_append]
    exact List.perm_middle.symm

/-- The region inside a pass.  `T j`: offset `j` was reported by `MPI_Testsome` and its callback has not run yet (its
    slot is marked finished); `A j`: offset `j` was reported in this pass (every hole is among these). -/
structure DynMid (d : DynR) (T A : Nat → Prop) : Prop where
  dyn : DMid d
  fin_pending : ∀ (j : Nat) sl, d.slots[j]? = some sl → sl.fin = true → T j ∧ sl.req = none
  hole_reported : ∀ (j : Nat) sl, d.slots[j]? = some sl → sl.req = none → A j
  reported_lt : ∀ j, A j → j < d.slots.length
  pending_fin : ∀ j, T j → ∃ sl, d.slots[j]? = some sl ∧ sl.fin = true

theorem DynMid.congr {d : DynR} {T T' A A' : Nat → Prop} (h : DynMid d T A) (he : ∀ j, T j ↔ T' j)
    (ha : ∀ j, A j ↔ A' j) : DynMid d T' A' :=
  ⟨h.dyn, fun j sl hj hf => ⟨(he j).mp (h.fin_pending j sl hj hf).1, (h.fin_pending j sl hj hf).2⟩,
    fun j sl hj hr => (ha j).mp (h.hole_reported j sl hj hr), fun j hj => h.reported_lt j ((ha j).mpr hj),
    fun j hm => h.pending_fin j ((he j).mpr hm)⟩

theorem DInv.toMid {d : DynR} (h : DInv d) {T A : Nat → Prop} (hT : ∀ j, ¬ T j) (hA : ∀ j, A j → j < d.slots.length) :
    DynMid d T A := by
  refine ⟨h.mid, fun j sl hj hf => ?_, fun j sl hj hr => absurd hr (h.live sl (List.mem_of_getElem? hj)), hA,
    fun j hj => (hT j hj).elim⟩
  obtain ⟨x, hx⟩ := h.slot_eq hj
  rw [hx] at hf; cases hf

theorem DynMid.toInv {d : DynR} {T A : Nat → Prop} (h : DynMid d T A) (hA : ∀ j, ¬ A j) : DInv d :=
  ⟨h.dyn, fun sl hsl hreq => let ⟨j, hj⟩ := List.getElem?_of_mem hsl; hA j (h.hole_reported j sl hj hreq)⟩

/-- Slot `j` is rewritten by `complete` or by `serve`: in both the new slot is empty, and marked finished exactly
    if it is pending in the new `T`. -/
theorem DynMid.set {d d' : DynR} {T T' A : Nat → Prop} (h : DynMid d T A) (hd : DMid d') {j : Nat} {sl' : Slot}
    (hs : d'.slots = d.slots.set j sl') (hj : j < d.slots.length) (he : ∀ j', j' ≠ j → (T j' ↔ T' j'))
    (hfin : sl'.fin = true ↔ T' j) (hreq : sl'.req = none) (hall : A j) : DynMid d' T' A := by
  refine ⟨hd, fun j' sl hj' hf => ?_, fun j' sl hj' hr => ?_, fun j' hm => ?_, fun j' hm => ?_⟩
  · rcases getElem?_set_cases (hs ▸ hj') with ⟨rfl, rfl⟩ | ⟨hne, e⟩
    · exact ⟨hfin.mp hf, hreq⟩
    · exact ⟨(he j' hne).mp (h.fin_pending j' sl e hf).1, (h.fin_pending j' sl e hf).2⟩
  · rcases getElem?_set_cases (hs ▸ hj') with ⟨rfl, _⟩ | ⟨_, e⟩
    · exact hall
    · exact h.hole_reported j' sl e hr
  · rw [hs, List.length_set]; exact h.reported_lt j' hm
  · rw [hs]
    by_cases hjj : j = j'
    · subst hjj; exact ⟨sl', List.getElem?_set_self hj, hfin.mpr hm⟩
    · rw [List.getElem?_set_ne hjj]
      exact h.pending_fin j' ((he j' (Ne.symm hjj)).mpr hm)

theorem DynMid.install {d : DynR} {T A : Nat → Prop} (h : DynMid d T A) (x : Dyn) : DynMid (d.install x) T A := by
  have hd := (DMid_install h.dyn x).1
  rcases (install_slots d x).1 with e | e
  · exact ⟨hd, e ▸ h.fin_pending, e ▸ h.hole_reported, e ▸ h.reported_lt, e ▸ h.pending_fin⟩
  · refine ⟨hd, fun j sl hj hf => ?_, fun j sl hj hr => ?_, fun j hm => ?_, fun j hm => ?_⟩
    · rcases getElem?_concat_cases (e ▸ hj) with e' | ⟨_, rfl⟩
      · exact h.fin_pending j sl e' hf
      · cases hf
    · rcases getElem?_concat_cases (e ▸ hj) with e' | ⟨_, rfl⟩
      · exact h.hole_reported j sl e' hr
      · cases hr
    · rw [e, List.length_append]; exact Nat.lt_add_right _ (h.reported_lt j hm)
    · obtain ⟨sl, h1, h2⟩ := h.pending_fin j hm
      exact ⟨sl, by rw [e, List.getElem?_append_left (lt_of_getElem? h1)]; exact h1, h2⟩

/-- What the removal loop and the feed loop at the end of a pass may change. -/
structure DStep (d d' : DynR) : Prop where
  base : d'.base = d.base
  cap : d'.cap = d.cap
  quota : d'.quota = d.quota
  refs : d'.refs.Perm d.refs
  fifo : ∃ a b, d.sendq = a ++ d'.sendq ∧ d.recvq = b ++ d'.recvq

theorem DStep.refl (d : DynR) : DStep d d := ⟨rfl, rfl, rfl, .refl _, [], [], rfl, rfl⟩

theorem DStep.trans {a b c : DynR} (h1 : DStep a b) (h2 : DStep b c) : DStep a c :=
  let ⟨x, y, e1, e2⟩ := h1.fifo
  let ⟨x', y', e3, e4⟩ := h2.fifo
  ⟨h2.base.trans h1.base, h2.cap.trans h1.cap, h2.quota.trans h1.quota, h2.refs.trans h1.refs,
    x ++ x', y ++ y', by rw [e1, e3, List.append_assoc], by rw [e2, e4, List.append_assoc]⟩

theorem remove1_frame (d : DynR) (j : Nat) : ∃ l, d.remove1 j = { d with slots := l } := by
  unfold DynR.remove1
  split
  · split
    · exact ⟨_, rfl⟩
    · dsimp only; split <;> exact ⟨_, rfl⟩
  · exact ⟨_, rfl⟩

theorem removeAll_frame (js : List Nat) (d : DynR) : ∃ l, d.removeAll js = { d with slots := l } := by
  induction js generalizing d with
  | nil => exact ⟨_, rfl⟩
  | cons j rest ih =>
    obtain ⟨l, e⟩ := remove1_frame d j
    obtain ⟨l', e'⟩ := ih (d.remove1 j)
    exact ⟨l', e'.trans (by rw [e])⟩

theorem remove1_noop {d : DynR} {j : Nat} {sl : Slot} (hj : d.slots[j]? = some sl) (h : sl.req ≠ none) :
    d.remove1 j = d := by
  simp [DynR.remove1, hj, Option.isSome_iff_ne_none.mpr h]

/-- Also when the hole is the last slot: then nothing is written, `L.set L.length _ = L`. -/
theorem remove1_hole {d : DynR} {L : List Slot} {z sl : Slot} {j : Nat} (hs : d.slots = L ++ [z])
    (hj : (L ++ [z])[j]? = some sl) (hreq : sl.req = none) :
    d.remove1 j = { d with slots := L.set j { z with st1 := d.base + j } } := by
  unfold DynR.remove1
  rw [hs, hj]
  by_cases hjl : j < L.length
  · simp [hreq, hjl, List.getD_eq_getElem?_getD]
  · simp [hreq, hjl, List.set_eq_of_length_le (Nat.le_of_not_lt hjl)]

theorem hole_counts {L : List Slot} {z z' sl : Slot} {j : Nat} (hj : (L ++ [z])[j]? = some sl)
    (hreq : sl.req = none) (hfin : sl.fin = false) (mheld : z'.held = z.held) (mcnt : z'.cntRecv = z.cntRecv) :
    nRecv (L.set j z') = nRecv (L ++ [z]) ∧ (heldOf (L.set j z')).Perm (heldOf (L ++ [z])) := by
  obtain ⟨hheld, hcnt⟩ := held_hole hreq hfin
  rw [nRecv_concat, heldOf_concat]
  rcases getElem?_concat_cases hj with hj | ⟨rfl, rfl⟩
  · obtain ⟨A, B, e1, e2⟩ := set_split hj z'
    rw [e2, e1]
    simp only [nRecv_append, nRecv_cons, heldOf_append, heldOf_cons, mheld, mcnt, hheld, hcnt, Option.toList_none,
      List.nil_append, List.append_assoc]
    exact ⟨(Nat.add_assoc ..).symm, List.Perm.append_left _ List.perm_append_comm⟩
  · rw [List.set_eq_of_length_le (Nat.le_refl _), hcnt, hheld]
    simp

/-- `j` is the largest offset still to visit: every hole lies at `j` or below, so the slot that moves into a hole at
    `j` is live. -/
theorem DynMid.remove1 {d : DynR} {j : Nat} {rest : List Nat} (h : DynMid d (fun _ => False) (· ∈ j :: rest))
    (hpw : ∀ i, i ∈ rest → i < j) :
    DynMid (d.remove1 j) (fun _ => False) (· ∈ rest) ∧ DStep d (d.remove1 j) := by
  have hj := h.reported_lt j List.mem_cons_self
  obtain ⟨sl, hsl⟩ : ∃ sl, d.slots[j]? = some sl := ⟨_, List.getElem?_eq_getElem hj⟩
  have hrest : ∀ {i s'}, d.slots[i]? = some s' → s'.req = none → i ≠ j → i ∈ rest := fun hi hr hne =>
    (List.mem_cons.mp (h.hole_reported _ _ hi hr)).resolve_left hne
  by_cases hreq : sl.req = none
  case neg =>
    rw [remove1_noop hsl hreq]
    refine ⟨⟨h.dyn, h.fin_pending, fun i s' hi hr => hrest hi hr ?_,
      fun i hi => h.reported_lt i (List.mem_cons_of_mem _ hi), fun _ hf => hf.elim⟩, .refl d⟩
    rintro rfl
    rw [hsl] at hi; cases hi; exact hreq hr
  have hfin : ∀ {s'}, s' ∈ d.slots → s'.fin = false := fun hm =>
    let ⟨i, hi⟩ := List.getElem?_of_mem hm; Bool.eq_false_iff.mpr fun hf => (h.fin_pending i _ hi hf).1
  have hlen := h.dyn.len_le
  have hn := h.dyn.nrecv_eq
  have hslots := h.dyn.slots
  rcases List.eq_nil_or_concat d.slots with hs | ⟨L, z, hs⟩
  · rw [hs] at hsl; cases hsl
  rw [List.concat_eq_append] at hs
  rw [hs] at hsl hfin hrest hslots hlen hn hj
  rw [remove1_hole hs hsl hreq]
  rw [List.length_append, List.length_singleton] at hlen hj
  have hz : (L ++ [z])[L.length]? = some z := List.getElem?_concat_length
  obtain ⟨y, z1, _, z3, z4⟩ := hslots _ z hz
  have hup : ∀ {i s'}, L[i]? = some s' → (L ++ [z])[i]? = some s' :=
    fun hi => (List.getElem?_append_left (lt_of_getElem? hi)).trans hi
  have hcount := hole_counts (z' := { z with st1 := d.base + j }) hsl hreq (hfin (List.mem_of_getElem? hsl)) rfl rfl
  refine ⟨⟨⟨by show (L.set j _).length ≤ d.cap; rw [List.length_set]; omega, ?_, hn.trans hcount.1.symm, h.dyn.nrecv_le,
    h.dyn.sendq_kind, h.dyn.recvq_kind⟩, fun i s' hi hf => ?_, fun i s' hi hr => ?_, fun i hi => ?_, fun _ hf => hf.elim⟩,
    ⟨rfl, rfl, rfl, ?_, [], [], rfl, rfl⟩⟩
  · exact forall_getElem?_set ⟨y, z1, rfl, z3, z4⟩ fun i s' _ hi => hslots i s' (hup hi)
  · rcases List.mem_or_eq_of_mem_set (List.mem_of_getElem? hi) with hm | rfl
    · rw [hfin (List.mem_append_left _ hm)] at hf; cases hf
    · rw [show ({ z with st1 := d.base + j } : Slot).fin = z.fin from rfl, hfin (by simp)] at hf; cases hf
  · -- a hole at `j` after the move would be the last slot, a hole above `j`
    rcases getElem?_set_cases hi with ⟨e, rfl⟩ | ⟨hne, hi⟩
    · have hlt := lt_of_getElem? hi
      rw [List.length_set] at hlt
      exact absurd (hpw _ (hrest hz hr (e ▸ Nat.ne_of_gt hlt))) (Nat.lt_asymm (e ▸ hlt))
    · exact hrest (hup hi) hr hne
  · show i < (L.set j _).length
    rw [List.length_set]
    exact Nat.lt_of_lt_of_le (hpw i hi) (Nat.le_of_lt_succ hj)
  · show (heldOf (L.set j _) ++ d.sendq ++ d.recvq).Perm (heldOf d.slots ++ d.sendq ++ d.recvq)
    rw [hs]
    exact (hcount.2.append_right _).append_right _

theorem DynMid.removeAll {js : List Nat} (hpw : js.Pairwise (fun a b => a > b)) {d : DynR}
    (h : DynMid d (fun _ => False) (· ∈ js)) : DInv (d.removeAll js) ∧ DStep d (d.removeAll js) := by
  induction js generalizing d with
  | nil => exact ⟨h.toInv fun _ => List.not_mem_nil, .refl d⟩
  | cons j rest ih =>
    rw [List.pairwise_cons] at hpw
    obtain ⟨g1, g2⟩ := h.remove1 hpw.1
    obtain ⟨k1, k2⟩ := ih hpw.2 g1
    exact ⟨k1, g2.trans k2⟩

theorem DInv_enter {d : DynR} (h : DInv d) (x : Dyn) (hroom : d.slots.length < d.cap)
    (hq : x.kind.isRecv = true → d.nrecv < d.quota) :
    DInv ({ d with nrecv := d.nrecv + (if x.kind.isRecv then 1 else 0) }.append x x.kind.isRecv) := by
  refine ⟨DMid_append h.mid x hroom hq, fun sl hsl => ?_⟩
  rcases List.mem_append.mp hsl with hsl | hsl
  · exact h.live sl hsl
  · rw [List.mem_singleton.mp hsl]; simp [dynSlot]

/-- What the feed loop must not leave behind: a free slot and a queued request that could take it. -/
def DynR.starved (d : DynR) : Prop :=
  d.slots.length < d.cap ∧ (d.sendq ≠ [] ∨ (d.recvq ≠ [] ∧ d.nrecv < d.quota))

theorem DInv_push {d : DynR} (h : DInv d) (hroom : d.slots.length < d.cap) :
    (d.push = none ∧ ¬ d.starved) ∨
    ∃ d', d.push = some d' ∧ DInv d' ∧ DStep d d' ∧ d'.slots.length = d.slots.length + 1 := by
  have hm := h.mid
  by_cases hq : d.nrecv < d.quota ∧ d.recvq ≠ []
  · obtain ⟨x, rest, hr⟩ := List.exists_cons_of_ne_nil hq.2
    have hk := hm.recvq_kind
    rw [hr, List.forall_mem_cons] at hk
    refine Or.inr ⟨_, ?_, DInv_enter (d := { d with recvq := rest }) ⟨hm.queues hm.sendq_kind hk.2, h.live⟩ x hroom
      fun _ => hq.1, ⟨rfl, rfl, rfl, (refs_append _ x _).trans ?_, [], [x], rfl, hr⟩, by simp [DynR.append]⟩
    · simp [DynR.push, hq.1, hr, hk.1]
    · simp only [DynR.refs, hr]
      exact List.perm_middle.symm
  · have : (if d.nrecv < d.quota then d.recvq else []) = [] :=
      ite_eq_right_iff.mpr fun hlt => Classical.byContradiction fun hne => hq ⟨hlt, hne⟩
    rw [DynR.push, this]
    cases hs : d.sendq with
    | nil => exact Or.inl ⟨rfl, fun hst => hst.2.elim (· hs) fun h1 => hq ⟨h1.2, h1.1⟩⟩
    | cons x rest =>
      have hk := hm.sendq_kind
      rw [hs, List.forall_mem_cons] at hk
      refine Or.inr ⟨_, ?_, DInv_enter (d := { d with sendq := rest }) ⟨hm.queues hk.2 hm.recvq_kind, h.live⟩ x hroom
        (by simp [hk.1]), ⟨rfl, rfl, rfl, (refs_append _ x _).trans ?_, [x], [], hs, rfl⟩, by simp [DynR.append]⟩
      · simp [hk.1]
      · simp only [DynR.refs, hs, List.append_assoc]
        exact List.perm_middle.symm

/-- Every iteration of the feed loop that does not end it fills one slot, so with `cap - slots.length` iterations
    (`St.finishL` gives `cap`) it ends with nothing installable left behind (`¬ starved`). -/
theorem DInv_feed (f : Nat) {d : DynR} (h : DInv d) :
    DInv (d.feed f) ∧ DStep d (d.feed f) ∧ (d.cap ≤ d.slots.length + f → ¬ (d.feed f).starved) := by
  induction f generalizing d with
  | zero => exact ⟨h, .refl d, fun hf hst => by have := hst.1; simp only [DynR.feed] at this; omega⟩
  | succ f ih =>
    unfold DynR.feed
    by_cases hc : d.slots.length < d.cap ∧ (d.sendq ≠ [] ∨ d.recvq ≠ [])
    · rw [if_pos hc]
      rcases DInv_push h hc.1 with ⟨e, hst⟩ | ⟨d', e, k1, k2, k3⟩
      · rw [e]
        exact ⟨h, .refl d, fun _ => hst⟩
      · rw [e]
        obtain ⟨i1, i2, i3⟩ := ih k1
        exact ⟨i1, k2.trans i2, fun hf => i3 (by rw [k3, k2.cap]; omega)⟩
    · rw [if_neg hc]
      exact ⟨h, .refl d, fun _ hst => hc ⟨hst.1, hst.2.imp_right And.left⟩⟩

end ParsecVerif.CommEngine
