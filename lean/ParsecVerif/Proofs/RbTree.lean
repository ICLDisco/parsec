import ParsecVerif.Proofs.RbTreeMirror
/-! Red-black invariants for C36.  The invariants of a subtree are carried as one derivation `Rbn t c n`
    (root colour `c`, black height `n`); each case of the fix-ups of insert and remove is then the derivation of
    the rebalanced tree from those of its parts. -/
namespace ParsecVerif.RbTree
open Tree

def bh : Tree → Nat
  | nil => 0
  | node c l _ _ _ => bh l + (if c = .black then 1 else 0)

def Balanced : Tree → Prop
  | nil => True
  | node _ l _ _ r => bh l = bh r ∧ Balanced l ∧ Balanced r

def NoRR : Tree → Prop
  | nil => True
  | node c l _ _ r => (c = .red → isRed l = false ∧ isRed r = false) ∧ NoRR l ∧ NoRR r

@[simp] theorem isRed_nil : isRed nil = false := rfl
@[simp] theorem isRed_red (l k i r) : isRed (node .red l k i r) = true := rfl
@[simp] theorem isRed_black (l k i r) : isRed (node .black l k i r) = false := rfl
@[simp] theorem bh_nil : bh nil = 0 := rfl
@[simp] theorem bh_red (l k i r) : bh (node .red l k i r) = bh l := by simp [bh]
@[simp] theorem bh_black (l k i r) : bh (node .black l k i r) = bh l + 1 := by simp [bh]
@[simp] theorem balanced_nil : Balanced nil := trivial
@[simp] theorem balanced_node (c l k i r) : Balanced (node c l k i r) ↔ bh l = bh r ∧ Balanced l ∧ Balanced r := Iff.rfl
@[simp] theorem noRR_nil : NoRR nil := trivial
@[simp] theorem noRR_red (l k i r) : NoRR (node .red l k i r) ↔ (isRed l = false ∧ isRed r = false) ∧ NoRR l ∧ NoRR r := by
  simp [NoRR]
@[simp] theorem noRR_black (l k i r) : NoRR (node .black l k i r) ↔ NoRR l ∧ NoRR r := by
  simp [NoRR]

structure RB (t : Tree) : Prop where
  rootBlack : isRed t = false
  noRR : NoRR t
  balanced : Balanced t

theorem rb_nil : RB nil := ⟨rfl, trivial, trivial⟩

inductive Rbn : Tree → Bool → Nat → Prop
  | nil : Rbn nil false 0
  | red {l k i r n} : Rbn l false n → Rbn r false n → Rbn (node .red l k i r) true n
  | black {l k i r cl cr n} : Rbn l cl n → Rbn r cr n → Rbn (node .black l k i r) false (n + 1)

theorem Rbn.spec {t c n} (h : Rbn t c n) : isRed t = c ∧ bh t = n ∧ NoRR t ∧ Balanced t := by
  induction h <;> simp_all

theorem rbn_of : ∀ {t}, NoRR t → Balanced t → Rbn t (isRed t) (bh t)
  | nil, _, _ => .nil
  | node .red l k i r, hn, hb => by
    have hl := rbn_of hn.2.1 hb.2.1
    have hr := rbn_of hn.2.2 hb.2.2
    rw [(hn.1 rfl).1] at hl
    rw [(hn.1 rfl).2, ← hb.1] at hr
    exact .red hl hr
  | node .black l k i r, hn, hb => by
    have hr := rbn_of hn.2.2 hb.2.2
    rw [← hb.1] at hr
    exact .black (rbn_of hn.2.1 hb.2.1) hr

theorem Rbn.rb {t n} (h : Rbn t false n) : RB t := ⟨h.spec.1, h.spec.2.2.1, h.spec.2.2.2⟩

theorem RB.rbn {t} (h : RB t) : ∃ n, Rbn t false n := ⟨_, h.rootBlack ▸ rbn_of h.noRR h.balanced⟩

/-- the final `root->color = BLACK` of insert and of the fix-up of remove -/
theorem Rbn.rb_setBlack {t c n} (h : Rbn t c n) : RB (setColor .black t) := by
  cases h with
  | nil => exact Rbn.nil.rb
  | red hl hr | black hl hr => exact (Rbn.black hl hr).rb

theorem Rbn.mirror {t c n} (h : Rbn t c n) : Rbn (mirror t) c n := by
  induction h with
  | nil => exact .nil
  | red _ _ ihl ihr => exact .red ihr ihl
  | black _ _ ihl ihr => exact .black ihr ihl

theorem Rbn.swap_children {c l k i r cg m} (h : Rbn (node c l k i r) cg m) : Rbn (node c r k i l) cg m := by
  cases h with
  | red hl hr => exact .red hr hl
  | black hl hr => exact .black hr hl

/-- what `ins` returns for an old subtree of colour `c` and black height `n`.  While the fix-up runs the returned
    root is red: `zHere` in place of a black subtree, `zLeft`/`zRight` in place of a red one. -/
inductive InsOk : Bool → Nat → Tree × IStat → Prop
  | done {t c n} : Rbn t c n → InsOk c n (t, .done)
  | zHere {t n} : Rbn t true n → InsOk false n (t, .zHere)
  | zLeft {l k i r n} : Rbn l true n → Rbn r false n → InsOk true n (node .red l k i r, .zLeft)
  | zRight {l k i r n} : Rbn l false n → Rbn r true n → InsOk true n (node .red l k i r, .zRight)

/-- `h` is for whatever colour and black height `p0` turns out to have: the recursion passes `ins_inv` -/
theorem insFixL_inv {gc p0 gk gi y c m res} (hg : Rbn (node gc p0 gk gi y) c m)
    (h : ∀ {cp n}, Rbn p0 cp n → InsOk cp n res) : InsOk c m (insFixL gc res.1 gk gi y res.2) := by
  cases hg with
  | red hp hy =>
    -- `p0` is black under a red parent, and the colour index of `InsOk` leaves no `zLeft`/`zRight` for it; here
    -- and below the statuses that a `cases` does not list are ruled out by that index
    cases h hp with
    | done ht => exact .done (.red ht hy)
    | zHere ht => exact .zLeft ht hy
  | black hp hy =>
    cases h hp with
    | done ht | zHere ht => exact .done (.black ht hy)
    | zLeft hl hr =>
      -- red uncle: recolour, `z` moves up; black uncle: one rotation at the grandparent
      cases hy with
      | red hyl hyr => exact .zHere (.red (.black hl hr) (.black hyl hyr))
      | nil => exact .done (.black hl (.red hr .nil))
      | black hyl hyr => exact .done (.black hl (.red hr (.black hyl hyr)))
    | zRight hl hr =>
      -- as before, with a rotation at the parent first: `z` itself becomes the root
      cases hr with
      | red hrl hrr =>
        cases hy with
        | red hyl hyr => exact .zHere (.red (.black hl (.red hrl hrr)) (.black hyl hyr))
        | nil => exact .done (.black (.red hl hrl) (.red hrr .nil))
        | black hyl hyr => exact .done (.black (.red hl hrl) (.red hrr (.black hyl hyr)))

theorem InsOk.mirror {c n res} (h : InsOk c n res) : InsOk c n (res.map mirror IStat.swap) := by
  cases h with
  | done ht => exact .done ht.mirror
  | zHere ht => exact .zHere ht.mirror
  | zLeft hl hr => exact .zRight hr.mirror hl.mirror
  | zRight hl hr => exact .zLeft hr.mirror hl.mirror

theorem insFixR_inv {gc p0 gk gi y c m res} (hg : Rbn (node gc y gk gi p0) c m)
    (h : ∀ {cp n}, Rbn p0 cp n → InsOk cp n res) : InsOk c m (insFixR gc y gk gi res.1 res.2) := by
  rw [insFixR_mirror]
  exact (insFixL_inv hg.mirror fun hp => (h (mirror_mirror p0 ▸ hp.mirror)).mirror).mirror

theorem ins_inv (k : Int) (z : Nat) : ∀ {t c n}, Rbn t c n → InsOk c n (ins k z t)
  | nil, _, _, .nil => .zHere (.red .nil .nil)
  | node c l x i r, _, _, hg => by
    unfold ins
    split
    · exact insFixL_inv hg (ins_inv k z)
    · exact insFixR_inv hg (ins_inv k z)

theorem rb_insert (t : Tree) (k : Int) (z : Nat) (h : RB t) : RB (insert t k z) := by
  obtain ⟨n, h⟩ := h.rbn
  have := ins_inv k z h
  unfold insert
  generalize ins k z t = res at this
  -- the old root is black, so the fix-up cannot come back with a red root over a red child
  cases this with
  | done ht | zHere ht => exact ht.rb_setBlack

/-- what `del` returns for an old subtree of colour `c` and black height `n`: a tree of the same black height,
    of the same colour or painted black, or (`deficient`) a black-rooted tree one black short -/
inductive DelOk : Bool → Nat → Tree × DStat → Prop
  | same {t c n st} : st ≠ .deficient → Rbn t c n → DelOk c n (t, st)
  | blackened {t n st} : st ≠ .deficient → Rbn t false n → DelOk true n (t, st)
  | deficient {t n} : Rbn t false n → DelOk false (n + 1) (t, .deficient)

theorem delFixL2_inv {n x w pk pi} (hx : Rbn x false n) (hw : Rbn w false (n + 1)) :
    DelOk true (n + 1) (delFixL2 .red x pk pi w) ∧ DelOk false (n + 2) (delFixL2 .black x pk pi w) := by
  cases hw with
  | @black _ _ _ _ cl cr _ hwl hwr =>
    simp only [delFixL2, hwl.spec.1, hwr.spec.1]
    cases cr with
    | true =>
      -- case 4: far nephew red, one rotation at the parent ends the loop
      cases hwr with
      | red a b =>
        cases cl <;> exact ⟨.same nofun (.red (.black hx hwl) (.black a b)),
          .same nofun (.black (.black hx hwl) (.black a b))⟩
    | false =>
      cases cl with
      | true =>
        -- case 3: near nephew red, it becomes the root of the subtree (the model does C's case 3 and the case 4 it
        -- falls into as one step)
        cases hwl with
        | red a b =>
          exact ⟨.same nofun (.red (.black hx a) (.black b hwr)), .same nofun (.black (.black hx a) (.black b hwr))⟩
      | false =>
        -- case 2: the sibling is painted red; a red parent turns black and absorbs the deficit, a black one passes
        -- it up
        exact ⟨.blackened nofun (.black hx (.red hwl hwr)), .deficient (.black hx (.red hwl hwr))⟩

theorem upL_of_ne {c t k i r} : ∀ {st}, st ≠ .deficient → upL c (t, st) k i r = (node c t k i r, st)
  | .ok, _ | .rootBlack, _ => rfl
  | .deficient, h => absurd rfl h

/-- the rebuilt node may carry another key than the old one: `delRoot_inv` uses `upR_inv` with the successor's -/
theorem upL_inv {c l k₀ i₀ r cg m res k i} (hg : Rbn (node c l k₀ i₀ r) cg m)
    (h : ∀ {cl n}, Rbn l cl n → DelOk cl n res) : DelOk cg m (upL c res k i r) := by
  cases hg with
  | red hl hr =>
    cases h hl with
    | same hst ht => rw [upL_of_ne hst]; exact .same hst (.red ht hr)
    | deficient hx => cases hr with | black a b => exact (delFixL2_inv hx (.black a b)).1
  | black hl hr =>
    cases h hl with
    | same hst ht | blackened hst ht => rw [upL_of_ne hst]; exact .same hst (.black ht hr)
    | deficient hx =>
      cases hr with
      | black a b => exact (delFixL2_inv hx (.black a b)).2
      | red a b =>
        -- case 1: the red sibling is rotated up; below it `x` has a red parent and the black sibling `wl`
        have := (delFixL2_inv (pk := k) (pi := i) hx a).1
        simp only [upL, delFixL]
        generalize delFixL2 .red _ k i _ = res at this
        cases this with
        | same hst ht | blackened hst ht => exact .same hst (.black ht b)

theorem DelOk.mirror {c n res} (h : DelOk c n res) : DelOk c n (res.map mirror id) := by
  cases h with
  | same hst ht => exact .same hst ht.mirror
  | blackened hst ht => exact .blackened hst ht.mirror
  | deficient ht => exact .deficient ht.mirror

theorem upR_inv {c l k₀ i₀ r cg m res k i} (hg : Rbn (node c l k₀ i₀ r) cg m)
    (h : ∀ {cr n}, Rbn r cr n → DelOk cr n res) : DelOk cg m (upR c l k i res) := by
  rw [upR_mirror]
  exact (upL_inv hg.mirror fun hr => (h (mirror_mirror r ▸ hr.mirror)).mirror).mirror

theorem splice_inv {c x k i cg m} (hg : Rbn (node c nil k i x) cg m) : DelOk cg m (splice c x) := by
  cases hg with
  | red a hx => cases a; cases hx; exact .blackened nofun .nil
  | black a hx =>
    cases a
    cases hx with
    | nil => exact .deficient .nil
    | red a b => cases a; cases b; exact .same nofun (.black .nil .nil)

theorem delMin_inv : ∀ {t c n}, Rbn t c n → DelOk c n (delMin t)
  | nil, _, _, .nil => .same nofun .nil
  | node _ nil _ _ _, _, _, hg => splice_inv hg
  | node _ (node ..) _ _ _, _, _, hg => upL_inv hg delMin_inv

theorem delRoot_inv : ∀ {t c n}, Rbn t c n → DelOk c n (delRoot t)
  | nil, _, _, .nil => .same nofun .nil
  | node _ nil _ _ _, _, _, hg => splice_inv hg
  | node _ (node ..) _ _ nil, _, _, hg => splice_inv hg.swap_children
  | node _ (node ..) _ _ (node rc rl rk ri rr), _, _, hg => by
    simp only [delRoot]
    cases minNode (node rc rl rk ri rr) with
    -- `none` is not reached (`minNode` of a node is `some`); `delRoot` returns the tree as it is
    | none => exact .same nofun hg
    | some y => exact upR_inv hg delMin_inv

theorem del_inv (z : Nat) : ∀ {t c n}, Rbn t c n → DelOk c n (del z t)
  | nil, _, _, .nil => .same nofun .nil
  | node c l k i r, _, _, hg => by
    unfold del
    split
    · exact upL_inv hg (del_inv z)
    · split
      · exact delRoot_inv hg
      · exact upR_inv hg (del_inv z)

theorem rb_remove (t : Tree) (z : Nat) (h : RB t) : RB (remove t z) := by
  obtain ⟨n, h⟩ := h.rbn
  have := del_inv z h
  unfold remove
  generalize del z t = res at this
  cases this with
  | same _ ht =>
    split
    · exact ht.rb
    · exact ht.rb_setBlack
  | deficient ht => exact ht.rb_setBlack

theorem rbn_setKey (z : Nat) (new : Int) {t c n} (h : Rbn t c n) : Rbn (setKey z new t) c n := by
  induction h with
  | nil => exact .nil
  | red hl hr ihl ihr | black hl hr ihl ihr =>
    unfold setKey
    split
    · constructor <;> assumption
    · split <;> constructor <;> assumption

theorem rb_setKey (t : Tree) (z : Nat) (new : Int) (h : RB t) : RB (setKey z new t) :=
  have ⟨_, h⟩ := h.rbn
  (rbn_setKey z new h).rb

theorem rb_update {t t' : Tree} {z : Nat} {new : Int} (h : RB t) (hu : update t z new = some t') : RB t' := by
  unfold update at hu
  split at hu
  · nomatch hu
  · split at hu
    · nomatch hu
    · cases hu; exact rb_insert _ _ _ (rb_remove _ _ h)
  · cases hu; exact rb_setKey _ _ _ h

def height : Tree → Nat
  | nil => 0
  | node _ l _ _ r => max (height l) (height r) + 1

theorem Rbn.height_le {t c n} (h : Rbn t c n) : height t ≤ 2 * n + c.toNat := by
  induction h with
  | nil => exact Nat.le_refl 0
  | red _ _ ihl ihr => simp only [height, Bool.toNat_false, Bool.toNat_true] at *; omega
  | @black _ _ _ _ cl cr _ _ _ ihl ihr =>
    have := Bool.toNat_le cl
    have := Bool.toNat_le cr
    simp only [height, Bool.toNat_false]
    omega

theorem Rbn.size_ge {t c n} (h : Rbn t c n) : 2 ^ n ≤ size t + 1 := by
  induction h with
  | nil => exact Nat.le_refl 1
  | red _ _ ihl ihr => simp only [size]; omega
  | black _ _ ihl ihr => simp only [size, Nat.pow_succ]; omega

theorem RB.height_bound {t} (h : RB t) : 2 ^ (height t / 2) ≤ size t + 1 := by
  obtain ⟨n, h⟩ := h.rbn
  have h1 : height t ≤ 2 * n := h.height_le
  exact Nat.le_trans (Nat.pow_le_pow_right (by decide) (by omega)) h.size_ge

end ParsecVerif.RbTree
