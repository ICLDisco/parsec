import ParsecVerif.Model.FourCounter
import ParsecVerif.Base.Interleave
namespace ParsecVerif.FourCounter

@[simp] theorem upd_same {α} (f : Nat → α) (p : Nat) (v : α) : upd f p v p = v := by simp [upd]
@[simp] theorem upd_ne {α} (f : Nat → α) (p q : Nat) (v : α) (h : q ≠ p) : upd f p v q = f q := by
  simp [upd, h]

theorem setP_procs_same (s : State) (p : Nat) (v : Proc) : (setP s p v).procs p = v := upd_same ..
theorem setP_procs_ne (s : State) {p q : Nat} (v : Proc) (h : q ≠ p) :
    (setP s p v).procs q = s.procs q := upd_ne _ _ _ _ h

theorem upd_rel {α} {R : α → α → Prop} (hr : ∀ a, R a a) {f : Nat → α} {p : Nat} {v : α}
    (h : R v (f p)) (q : Nat) : R (upd f p v q) (f q) := by
  by_cases e : q = p
  · subst e; rw [upd_same]; exact h
  · rw [upd_ne _ _ _ _ e]; exact hr _

theorem setP_rel {R : Proc → Proc → Prop} (hr : ∀ a, R a a) {s : State} {p : Nat} {v : Proc}
    (h : R v (s.procs p)) (q : Nat) : R ((setP s p v).procs q) (s.procs q) := upd_rel hr h q

theorem setP_self (s : State) (p : Nat) : setP s p (s.procs p) = s := by
  unfold setP; rw [funext (upd_rel (R := Eq) (fun _ => rfl) rfl)]

theorem sumTo_mono {n : Nat} {f g : Nat → Nat} (h : ∀ q, q < n → f q ≤ g q) : sumTo n f ≤ sumTo n g := by
  induction n with
  | zero => simp [sumTo]
  | succ k ih =>
    simp only [sumTo]
    have := ih (fun q hq => h q (by omega))
    have := h k (by omega)
    omega

theorem sumTo_congr {n : Nat} {f g : Nat → Nat} (h : ∀ q, q < n → f q = g q) : sumTo n f = sumTo n g :=
  Nat.le_antisymm (sumTo_mono fun q hq => Nat.le_of_eq (h q hq)) (sumTo_mono fun q hq => Nat.le_of_eq (h q hq).symm)

theorem sumTo_zero {n : Nat} {f : Nat → Nat} (h : ∀ q, q < n → f q = 0) : sumTo n f = 0 := by
  induction n with
  | zero => rfl
  | succ k ih =>
    simp only [sumTo]
    rw [ih (fun q hq => h q (by omega)), h k (by omega)]

theorem sumTo_add (n : Nat) (f g : Nat → Nat) : sumTo n (fun q => f q + g q) = sumTo n f + sumTo n g := by
  induction n with
  | zero => rfl
  | succ k ih => simp only [sumTo]; omega

theorem sumTo_change {n p : Nat} {f g : Nat → Nat} (hp : p < n) (h : ∀ q, q < n → q ≠ p → g q = f q) :
    sumTo n g + f p = sumTo n f + g p := by
  induction n with
  | zero => omega
  | succ k ih =>
    simp only [sumTo]
    by_cases hk : p = k
    · subst hk
      have : sumTo p g = sumTo p f := sumTo_congr (fun q hq => h q (by omega) (by omega))
      omega
    · have := ih (by omega) (fun q hq hne => h q (by omega) hne)
      have := h k (by omega) (fun e => hk e.symm)
      omega

theorem sumTo_change2 {n p r : Nat} {f g : Nat → Nat} (hp : p < n) (hr : r < n) (hpr : p ≠ r)
    (h : ∀ q, q < n → q ≠ p → q ≠ r → g q = f q) :
    sumTo n g + f p + f r = sumTo n f + g p + g r := by
  have h1 := sumTo_change (f := f) (g := fun q => if q = p then g p else f q) hp
    (fun q _ hne => by simp [hne])
  have h2 := sumTo_change (f := fun q => if q = p then g p else f q) (g := g) hr
    (fun q hq hne => by
      by_cases hqp : q = p
      · simp [hqp]
      · simp [hqp, h q hq hqp hne])
  simp only [if_true, if_neg (Ne.symm hpr)] at h1 h2
  omega

theorem sumTo_single {n p : Nat} {f : Nat → Nat} (hp : p < n) (h : ∀ q, q < n → q ≠ p → f q = 0) :
    sumTo n f = f p := by
  have := sumTo_change (f := fun _ => 0) (g := f) hp (fun q hq hne => h q hq hne)
  have hz : sumTo n (fun _ => 0) = 0 := sumTo_zero (fun _ _ => rfl)
  omega

theorem sumTo_setP (s : State) (l : List Packet) {p : Nat} (hp : p < s.n) (v : Proc) (f : Proc → Nat) :
    sumTo s.n (fun q => f ((setP { s with net := l } p v).procs q)) + f (s.procs p) =
      sumTo s.n (fun q => f (s.procs q)) + f v := by
  have := sumTo_change (f := fun q => f (s.procs q)) (g := fun q => f ((setP { s with net := l } p v).procs q)) hp
    (fun q _ e => by rw [setP_procs_ne _ _ e])
  rwa [setP_procs_same] at this

theorem sumTo_eq_of_le {n : Nat} {f g : Nat → Nat} (hle : ∀ q, q < n → f q ≤ g q)
    (hs : sumTo n g ≤ sumTo n f) : ∀ q, q < n → f q = g q := by
  induction n with
  | zero => intro q hq; omega
  | succ k ih =>
    simp only [sumTo] at hs
    have hm : sumTo k f ≤ sumTo k g := sumTo_mono (fun q hq => hle q (by omega))
    have hk := hle k (by omega)
    intro q hq
    by_cases hqk : q = k
    · subst hqk; omega
    · exact ih (fun q hq => hle q (by omega)) (by omega) q (by omega)

theorem le_sumTo {n q : Nat} (f : Nat → Nat) (hq : q < n) : f q ≤ sumTo n f := by
  induction n with
  | zero => omega
  | succ k ih =>
    simp only [sumTo]
    by_cases e : q = k
    · subst e; omega
    · have := ih (by omega); omega

theorem eq_zero_of_sumTo {n : Nat} {f : Nat → Nat} (h : sumTo n f = 0) : ∀ q, q < n → f q = 0 := by
  intro q hq; have := le_sumTo f hq; omega

/-- Mattern's squeeze.  `a`, `c` (`a'`, `c'`): what each process contributed as its send (receive)
    counter to two consecutive waves; `b`, `b'`: the counters at an instant between the two, at which
    `t` messages were in transit. -/
theorem sumTo_squeeze {n t : Nat} {a b c a' b' c' : Nat → Nat}
    (hab : ∀ q, q < n → a q ≤ b q) (hbc : ∀ q, q < n → b q ≤ c q)
    (hab' : ∀ q, q < n → a' q ≤ b' q) (hbc' : ∀ q, q < n → b' q ≤ c' q)
    (eS : sumTo n a = sumTo n c) (eR : sumTo n a' = sumTo n c') (eSR : sumTo n c = sumTo n c')
    (hb : sumTo n b = sumTo n b' + t) :
    t = 0 ∧ (∀ q, q < n → a' q = b' q) ∧ (∀ q, q < n → b' q = c' q) := by
  have m1 := sumTo_mono hab; have m2 := sumTo_mono hbc
  have m1' := sumTo_mono hab'; have m2' := sumTo_mono hbc'
  exact ⟨by omega, sumTo_eq_of_le hab' (by omega), sumTo_eq_of_le hbc' (by omega)⟩

def b2n (b : Bool) : Nat := if b then 1 else 0

@[simp] theorem b2n_true : b2n true = 1 := rfl
@[simp] theorem b2n_false : b2n false = 0 := rfl
theorem b2n_le (b : Bool) : b2n b ≤ 1 := by cases b <;> simp
theorem b2n_eq_one {x : Bool} : b2n x = 1 ↔ x = true := by cases x <;> simp

def cnt (f : Packet → Bool) : List Packet → Nat
  | [] => 0
  | k :: t => b2n (f k) + cnt f t

@[simp] theorem cnt_nil (f : Packet → Bool) : cnt f [] = 0 := rfl
@[simp] theorem cnt_cons (f : Packet → Bool) (k : Packet) (t : List Packet) :
    cnt f (k :: t) = b2n (f k) + cnt f t := rfl

theorem cnt_eq_countP (f : Packet → Bool) (l : List Packet) : cnt f l = l.countP f := by
  induction l with
  | nil => rfl
  | cons a t ih => simp [List.countP_cons, ih, b2n]; omega

@[simp] theorem cnt_append (f : Packet → Bool) (l m : List Packet) : cnt f (l ++ m) = cnt f l + cnt f m := by
  simp only [cnt_eq_countP, List.countP_append]

theorem cnt_eq_sum (f : Packet → Bool) (l : List Packet) : cnt f l = (l.map fun k => b2n (f k)).sum := by
  induction l with
  | nil => rfl
  | cons a t ih => simp [ih]

theorem cnt_eraseIdx (f : Packet → Bool) {l : List Packet} {k : Nat} {pk : Packet} (h : l[k]? = some pk) :
    cnt f (l.eraseIdx k) + b2n (f pk) = cnt f l := by
  rw [cnt_eq_sum, cnt_eq_sum]; exact Interleave.sum_map_eraseIdx _ l k pk h

theorem cnt_eraseIdx_of_false (f : Packet → Bool) {l : List Packet} {k : Nat} {pk : Packet}
    (h : l[k]? = some pk) (hf : f pk = false) : cnt f (l.eraseIdx k) = cnt f l := by
  have := cnt_eraseIdx f h; rw [hf] at this; exact this

theorem cnt_hold (f : Packet → Bool) {l : List Packet} {k : Nat} {pk : Packet} (hk : l[k]? = some pk)
    (hf : f { pk with held := true } = f pk) :
    cnt f (l.eraseIdx k ++ [{ pk with held := true }]) = cnt f l := by
  have := cnt_eraseIdx f hk
  simp only [cnt_append, cnt_cons, cnt_nil, hf]; omega

theorem cnt_pos_of_mem (f : Packet → Bool) {l : List Packet} {pk : Packet} (hm : pk ∈ l) (hf : f pk = true) :
    0 < cnt f l := by
  rw [cnt_eq_countP]; exact List.countP_pos_iff.2 ⟨pk, hm, hf⟩

theorem cnt_eq_zero (f : Packet → Bool) {l : List Packet} : cnt f l = 0 ↔ ∀ pk, pk ∈ l → f pk = false := by
  rw [cnt_eq_countP, List.countP_eq_zero]; simp only [Bool.not_eq_true]

theorem appCount_eq_cnt (l : List Packet) : appCount l = cnt isApp l := by
  induction l with
  | nil => rfl
  | cons a t ih => simp [appCount, ih, b2n]

def isUpFrom (q : Nat) (k : Packet) : Bool := match k.kind with | .up _ _ => k.src == q | _ => false
def isDownTo (q : Nat) (r : Bool) (k : Packet) : Bool :=
  match k.kind with | .down x => k.dst == q && x == r | _ => false

theorem parent_lt {q : Nat} (h : 0 < q) : parent q < q := by unfold parent; omega
theorem parent_ne_self {q : Nat} (h : 0 < q) : parent q ≠ q := by have := parent_lt h; omega
theorem tree_induction {n : Nat} {P : Nat → Prop} (h0 : P 0) (hs : ∀ q, 0 < q → q < n → P (parent q) → P q) :
    ∀ q, q < n → P q := by
  intro q
  induction q using Nat.strongRecOn with
  | _ q ih =>
    intro hq
    rcases Nat.eq_zero_or_pos q with rfl | hq0
    · exact h0
    · exact hs q hq0 hq (ih _ (parent_lt hq0) (by have := parent_lt hq0; omega))
theorem parent_child (me i : Nat) (h : i < 2) : parent (child me i) = me := by unfold parent child; omega
theorem child_pos (me i : Nat) : 0 < child me i := by unfold child; omega
theorem parent_eq_iff {q me : Nat} (h : 0 < q) : parent q = me ↔ q = 2 * me + 1 ∨ q = 2 * me + 2 := by
  unfold parent; omega
theorem nbChildren_eq (n me : Nat) :
    nbChildren n me = (if 2 * me + 1 < n then 1 else 0) + (if 2 * me + 2 < n then 1 else 0) := by
  unfold nbChildren; split <;> split <;> omega

theorem downs_eq (n me : Nat) (r : Bool) :
    downs n me r =
      (if 2 * me + 1 < n then [({ src := me, dst := 2 * me + 1, kind := .down r } : Packet)] else []) ++
      (if 2 * me + 2 < n then [({ src := me, dst := 2 * me + 2, kind := .down r } : Packet)] else []) := by
  unfold downs child; rw [nbChildren_eq]
  by_cases h1 : 2 * me + 1 < n
  · by_cases h2 : 2 * me + 2 < n <;> simp [h1, h2, List.range_succ]
  · simp [h1, show ¬ 2 * me + 2 < n by omega]

theorem cnt_up_downs (q n me : Nat) (r : Bool) : cnt (isUpFrom q) (downs n me r) = 0 := by
  rw [downs_eq]; split <;> split <;> simp [isUpFrom]

theorem cnt_app_downs (n me : Nat) (r : Bool) : cnt isApp (downs n me r) = 0 := by
  rw [downs_eq]; split <;> split <;> simp [isApp]

theorem mem_downs {n me : Nat} {r : Bool} {k : Packet} (h : k ∈ downs n me r) :
    k.kind = .down r ∧ k.src = me ∧ (k.dst = 2 * me + 1 ∨ k.dst = 2 * me + 2) ∧ k.dst < n ∧ k.held = false := by
  rw [downs_eq] at h
  by_cases h1 : 2 * me + 1 < n <;> by_cases h2 : 2 * me + 2 < n <;> simp [h1, h2] at h
  · rcases h with rfl | rfl <;> simp <;> omega
  · subst h; simp; omega
  · omega

theorem cnt_down_downs (q n me : Nat) (r x : Bool) :
    cnt (isDownTo q x) (downs n me r) = if 0 < q ∧ parent q = me ∧ q < n then b2n (r == x) else 0 := by
  by_cases hc : 0 < q ∧ parent q = me ∧ q < n
  · obtain ⟨h0, hpar, hq⟩ := hc
    rw [if_pos ⟨h0, hpar, hq⟩, downs_eq]
    rcases (parent_eq_iff h0).1 hpar with e | e <;> subst e
    · rw [if_pos hq]; split <;> simp [isDownTo, beq_false_of_ne (show 2 * me + 1 ≠ 2 * me by omega)]
    · rw [if_pos (by omega), if_pos hq]; simp [isDownTo, beq_false_of_ne (show 2 * me ≠ 2 * me + 1 by omega)]
  · rw [if_neg hc]
    refine (cnt_eq_zero _).2 fun pk hm => ?_
    obtain ⟨e1, -, e3, e4, -⟩ := mem_downs hm
    have : pk.dst ≠ q := fun e => hc ⟨by omega, (parent_eq_iff (by omega)).2 (e ▸ e3), e ▸ e4⟩
    simp [isDownTo, e1, this]

end ParsecVerif.FourCounter
