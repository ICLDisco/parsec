import ParsecVerif.Model.MatrixOps
import ParsecVerif.Base.Interleave
/-!
  The column-claiming chains of map_operator.c.  Inductive invariant over all interleavings of the
  chains' steps (task execution, atomic fetch-and-increment of `next_n`): every local tile is, at
  every moment, in exactly one of three places — already executed (in the log), ahead of exactly
  one chain in the column that chain owns, or in a column nobody has claimed yet (`next_n < column`).
-/
namespace ParsecVerif.MatrixOps

/-- The invariant does not go through this: `scan_head` says what it needs of a scan, about the chain
    the scan leaves, by an induction of its own. -/
theorem scan_spec (loc : Nat → Nat → Bool) (n : Nat) : ∀ fuel m,
    match scan loc n fuel m with
    | some r => m ≤ r ∧ r < m + fuel ∧ loc r n = true ∧ ∀ k, m ≤ k → k < r → loc k n = false
    | none => ∀ k, m ≤ k → k < m + fuel → loc k n = false := by
  intro fuel
  induction fuel with
  | zero => intro m k h1 h2; omega
  | succ fuel ih =>
    intro m
    rw [scan]
    by_cases hl : loc m n = true
    · rw [if_pos hl]; exact ⟨Nat.le_refl _, by omega, hl, fun k h1 h2 => by omega⟩
    · have skip : ∀ k, m ≤ k → (m + 1 ≤ k → loc k n = false) → loc k n = false := fun k h1 h =>
        (Nat.eq_or_lt_of_le h1).elim (fun e => e ▸ Bool.eq_false_iff.2 hl) h
      rw [if_neg hl]
      have := ih (m + 1)
      revert this
      cases scan loc n fuel (m + 1) <;> intro this
      · exact fun k h1 h2 => skip k h1 fun h => this k h (by omega)
      · obtain ⟨a, b, c, d⟩ := this
        exact ⟨by omega, by omega, c, fun k h1 h2 => skip k h1 fun h => d k h h2⟩

/-- the chain's weight in the count of who is still to visit `t` -/
def cov (t : Nat × Nat) : Chain → Nat
  | .ready m n => if n = t.2 ∧ m ≤ t.1 then 1 else 0
  | _ => 0

def Chain.ok (cfg : MapCfg) : Chain → Prop
  | .ready m n => m < cfg.mt ∧ n < cfg.nt ∧ cfg.loc m n = true
  | _ => True

/-- the `match` that `afterClaim` and `afterExec` write out (`afterClaim_eq`, `afterExec_eq`) -/
def headOf (o : Option Nat) (n : Nat) : Chain :=
  match o with
  | some m => .ready m n
  | none => .claiming

/-- `once` is the count of the header; `heads` (a ready chain stands on a local tile, `Chain.ok`)
    makes the tile a step logs one that `only` allows.  `live`: while columns remain unclaimed some
    chain is not done, so when all chains are done the third summand of `once` is 0
    (`map_exactly_once`). -/
structure MapInv (cfg : MapCfg) (s : MapState) : Prop where
  heads : ∀ c ∈ s.chains, c.ok cfg
  once  : ∀ t, isLocalTile cfg t →
            s.log.count t + (s.chains.map (cov t)).sum + (if s.nextN < t.2 then 1 else 0) = 1
  only  : ∀ t, ¬ isLocalTile cfg t → s.log.count t = 0
  live  : cfg.nt ≤ s.nextN ∨ ∃ c ∈ s.chains, c ≠ Chain.done

variable (cfg : MapCfg)

theorem cov_succ (t : Nat × Nat) (m n : Nat) :
    cov t (.ready m n) = cov t (.ready (m + 1) n) + (if t = (m, n) then 1 else 0) := by
  obtain ⟨tm, tn⟩ := t
  simp only [cov, Prod.mk.injEq]
  split <;> split <;> split <;> omega

theorem scan_head (n : Nat) : ∀ fuel m0,
    headOf (scan cfg.loc n fuel m0) n ≠ .done ∧
    (m0 + fuel ≤ cfg.mt → n < cfg.nt → (headOf (scan cfg.loc n fuel m0) n).ok cfg) ∧
    (cfg.mt ≤ m0 + fuel → ∀ t, isLocalTile cfg t →
      cov t (headOf (scan cfg.loc n fuel m0) n) = cov t (.ready m0 n)) := by
  intro fuel
  induction fuel with
  | zero =>
    intro m0
    refine ⟨nofun, fun _ _ => trivial, fun h t ht => (if_neg fun ⟨_, h'⟩ => ?_).symm⟩
    have := ht.1
    omega
  | succ fuel ih =>
    intro m0
    rw [scan]
    split
    · exact ⟨nofun, fun h hn => ⟨by omega, hn, ‹_›⟩, fun _ _ _ => rfl⟩
    · rename_i hl
      obtain ⟨h1, h2, h3⟩ := ih (m0 + 1)
      refine ⟨h1, fun h hn => h2 (by omega) hn, fun h t ht => ?_⟩
      have ne : t ≠ (m0, n) := fun e => hl (by rw [e] at ht; exact ht.2.2)
      rw [h3 (by omega) t ht, cov_succ t m0 n, if_neg ne]; rfl

theorem cov_zero (t : Nat × Nat) (n : Nat) : cov t (.ready 0 n) = if t.2 = n then 1 else 0 :=
  ite_cond_congr (propext ⟨fun h => h.1.symm, fun h => ⟨h.symm, Nat.zero_le _⟩⟩)

theorem ite_le_split (n a : Nat) :
    (if n ≤ a then 1 else 0) = (if a = n then 1 else 0) + (if n < a then 1 else 0) := by
  split <;> split <;> split <;> omega

theorem afterClaim_eq (c : Nat) :
    afterClaim cfg c = if c < cfg.nt then headOf (scan cfg.loc c cfg.mt 0) c else .done := rfl

theorem afterExec_eq (m n : Nat) :
    afterExec cfg m n = headOf (scan cfg.loc n (cfg.mt - (m + 1)) (m + 1)) n := rfl

/-! Of the chain that replaces one of the others, or joins them, `mapInv_step` and the start-up loop
    need one fact per clause: that it stands on a local tile (`heads`), whether it is done (`live`),
    which local tiles it covers (`once`). -/

theorem afterExec_spec (m n : Nat) (hm : m < cfg.mt) (hn : n < cfg.nt) :
    (afterExec cfg m n).ok cfg ∧ afterExec cfg m n ≠ .done ∧ ∀ t, isLocalTile cfg t →
      cov t (.ready m n) = cov t (afterExec cfg m n) + (if t = (m, n) then 1 else 0) := by
  obtain ⟨h1, h2, h3⟩ := scan_head cfg n (cfg.mt - (m + 1)) (m + 1)
  rw [afterExec_eq]
  exact ⟨h2 (by omega) hn, h1, fun t ht => by rw [cov_succ, h3 (by omega) t ht]⟩

theorem afterClaim_spec (c : Nat) :
    (afterClaim cfg c).ok cfg ∧ (afterClaim cfg c = .done → cfg.nt ≤ c) ∧ ∀ t, isLocalTile cfg t →
      cov t (afterClaim cfg c) = if t.2 = c then 1 else 0 := by
  obtain ⟨h1, h2, h3⟩ := scan_head cfg c cfg.mt 0
  rw [afterClaim_eq]
  split
  · exact ⟨h2 (by omega) ‹_›, fun e => absurd e h1, fun t ht => (h3 (by omega) t ht).trans (cov_zero t c)⟩
  · exact ⟨trivial, fun _ => by omega, fun t ht => (if_neg (show ¬ t.2 = c by have := ht.2.1; omega)).symm⟩

theorem count_snoc (l : List (Nat × Nat)) (x t : Nat × Nat) :
    (l ++ [x]).count t = l.count t + (if t = x then 1 else 0) := by
  simp only [List.count_append, List.count_singleton, beq_iff_eq, @eq_comm _ x t]

theorem live_set (nx' : Nat) {cs : List Chain} {i : Nat} {c : Chain} (y : Chain) (hc : cs[i]? = some c)
    (hy : y = .done → cfg.nt ≤ nx') :
    cfg.nt ≤ nx' ∨ ∃ c ∈ cs.set i y, c ≠ Chain.done := by
  by_cases hd : y = .done
  · exact Or.inl (hy hd)
  · exact Or.inr ⟨y, List.mem_set (List.getElem?_eq_some_iff.1 hc).1 y, hd⟩

theorem mapInv_step (s : MapState) (i : Nat) (h : MapInv cfg s) :
    MapInv cfg (mapStep cfg s i) := by
  unfold mapStep
  have heads : ∀ y : Chain, y.ok cfg → ∀ c ∈ s.chains.set i y, c.ok cfg := fun y hy c hc =>
    (List.mem_or_eq_of_mem_set hc).elim (h.heads c) fun e => e ▸ hy
  split
  · rename_i m n hc
    obtain ⟨hm, hn, hl⟩ := h.heads _ (List.mem_of_getElem? hc)
    obtain ⟨ok, nd, cv⟩ := afterExec_spec cfg m n hm hn
    refine ⟨heads _ ok, fun t ht => ?_, fun t ht => ?_, live_set cfg s.nextN _ hc fun e => absurd e nd⟩
    · have E := h.once t ht
      have M := Interleave.sum_map_set (cov t) s.chains i _ (afterExec cfg m n) hc
      rw [cv t ht] at M
      have L := count_snoc s.log (m, n) t
      dsimp only
      omega
    · have L := count_snoc s.log (m, n) t
      rw [if_neg fun e : t = (m, n) => ht (e ▸ ⟨hm, hn, hl⟩)] at L
      exact L.trans (h.only t ht)
  · rename_i hc
    obtain ⟨ok, dn, cv⟩ := afterClaim_spec cfg (s.nextN + 1)
    refine ⟨heads _ ok, fun t ht => ?_, h.only, live_set cfg (s.nextN + 1) _ hc dn⟩
    have E := h.once t ht
    have M := Interleave.sum_map_set (cov t) s.chains i _ (afterClaim cfg (s.nextN + 1)) hc
    rw [cv t ht, show cov t .claiming = 0 from rfl] at M
    have S : (if s.nextN < t.2 then 1 else 0) = _ := ite_le_split (s.nextN + 1) t.2
    dsimp only
    omega
  · exact h
  · exact h

theorem mapInv_run (s : MapState) (h : MapInv cfg s) (sched : List Nat) :
    MapInv cfg (mapRun cfg s sched) := by
  induction sched generalizing s with
  | nil => exact h
  | cons i t ih => exact ih _ (mapInv_step cfg s i h)

theorem startup_inv :
    ∀ fuel n cs, n + fuel = cfg.nt → (∀ c ∈ cs, c.ok cfg) →
      (∀ t, isLocalTile cfg t → (cs.map (cov t)).sum + (if n ≤ t.2 then 1 else 0) = 1) →
      MapInv cfg ⟨(startupLoop cfg fuel n cs).1, (startupLoop cfg fuel n cs).2, []⟩ := by
  intro fuel
  induction fuel with
  | zero =>
    intro n cs hn heads once
    refine ⟨heads, fun t ht => ?_, fun _ _ => rfl, Or.inl (by show cfg.nt ≤ n; omega)⟩
    have lt := ht.2.1
    have := once t ht
    rw [if_neg (show ¬ n ≤ t.2 by omega)] at this
    show 0 + (cs.map (cov t)).sum + (if n < t.2 then 1 else 0) = 1
    rw [if_neg (show ¬ n < t.2 by omega)]
    omega
  | succ fuel ih =>
    intro n cs hn heads once
    -- the chain a claim of column `n` would start covers exactly the local tiles of that column
    obtain ⟨O, -, cv⟩ := afterClaim_spec cfg n
    have C : ∀ t, isLocalTile cfg t → (cs.map (cov t)).sum +
        (cov t (afterClaim cfg n) + (if n < t.2 then 1 else 0)) = 1 := fun t ht => by
      rw [cv t ht, ← ite_le_split]; exact once t ht
    rw [afterClaim_eq, if_pos (by omega)] at C O
    unfold startupLoop
    cases hs : scan cfg.loc n cfg.mt 0 with
    | none =>
      rw [hs] at C
      refine ih (n + 1) cs (by omega) heads fun t ht => ?_
      have := C t ht
      rwa [show cov t (headOf none n) = 0 from rfl, Nat.zero_add] at this
    | some m =>
      rw [hs] at C O
      have hh : ∀ c ∈ cs ++ [Chain.ready m n], c.ok cfg := fun c hc =>
        (List.mem_append.1 hc).elim (heads c) fun e => List.mem_singleton.1 e ▸ O
      have hcov : ∀ t, isLocalTile cfg t →
          ((cs ++ [Chain.ready m n]).map (cov t)).sum + (if n + 1 ≤ t.2 then 1 else 0) = 1 := fun t ht => by
        rw [List.map_append, List.sum_append, List.map_singleton, List.sum_singleton, Nat.add_assoc]; exact C t ht
      dsimp only
      split
      · refine ⟨hh, fun t ht => ?_, fun _ _ => rfl,
          Or.inr ⟨_, List.mem_append_right _ (List.mem_singleton_self _), nofun⟩⟩
        show 0 + _ + _ = 1
        rw [Nat.zero_add]; exact hcov t ht
      · exact ih (n + 1) _ (by omega) hh hcov

theorem mapInv_init : MapInv cfg (mapInit cfg) :=
  startup_inv cfg cfg.nt 0 [] (Nat.zero_add _) nofun fun _ _ => rfl

theorem sum_cov_allDone (s : MapState) (hd : allDone s) (t : Nat × Nat) :
    (s.chains.map (cov t)).sum = 0 :=
  (List.sum_eq_zero_iff_forall_eq_nat.trans List.forall_mem_map).2 fun c hc => by rw [hd c hc]; rfl

end ParsecVerif.MatrixOps
