/-
  C14 — `next_tag`: blocks handed out by consecutive calls.
-/
import ParsecVerif.Model.CommEngine

namespace ParsecVerif.CommEngine

theorem nextTag_cases (m v k : Nat) :
    (nextTag m v k = (v, v + k) ∧ v + k ≤ m) ∨ (nextTag m v k = (0, k) ∧ m < v + k) := by
  unfold nextTag
  split
  · exact Or.inr ⟨rfl, ‹_›⟩
  · exact Or.inl ⟨rfl, by omega⟩

theorem nextTag_range (m v k : Nat) (hk : k ≤ m) :
    (nextTag m v k).1 + k ≤ m ∧ (nextTag m v k).2 = (nextTag m v k).1 + k := by
  rcases nextTag_cases m v k with ⟨e, _⟩ | ⟨e, _⟩
  all_goals
    rw [e]
    exact ⟨by omega, by simp⟩

/-- `m` is `MAX_MPI_TAG`, `K` bounds the sizes.  The second disjunct is a block handed out after a roll-over: so low
    that it stays below everything handed out before the roll-over as long as the total stays under `m - K`; that is
    what makes the blocks disjoint across a roll-over. -/
theorem allocs_spec (m K : Nat) (hK : K ≤ m) : ∀ (ks : List Nat) (v : Nat), (∀ k, k ∈ ks → k ≤ K) →
    (∀ T k, (T, k) ∈ allocs m v ks →
      T + k ≤ m ∧ ((v ≤ T ∧ T + k ≤ v + ks.sum) ∨ (T + k + m < v + ks.sum + K))) ∧
    (ks.sum + K ≤ m → (allocs m v ks).Pairwise (fun a b => a.1 + a.2 ≤ b.1 ∨ b.1 + b.2 ≤ a.1))
  | [], _, _ => ⟨fun _ _ h => (nomatch h), fun _ => List.Pairwise.nil⟩
  | k1 :: rest, v, hk => by
    have hk1 : k1 ≤ K := hk k1 List.mem_cons_self
    obtain ⟨ih1, ih2⟩ := allocs_spec m K hK rest (nextTag m v k1).2 fun k hk' => hk k (List.mem_cons_of_mem _ hk')
    simp only [allocs, List.mem_cons, Prod.mk.injEq, List.sum_cons, List.pairwise_cons]
    rcases nextTag_cases m v k1 with ⟨e, _⟩ | ⟨e, _⟩
    all_goals
      rw [e] at ih1 ih2 ⊢
      refine ⟨fun T k h => ?_, fun hsum => ⟨fun ⟨T, k⟩ hb => ?_, ih2 (by omega)⟩⟩
      · rcases h with ⟨rfl, rfl⟩ | h
        · omega
        · have := ih1 T k h; omega
      · have := ih1 T k hb
        show _ + k1 ≤ T ∨ T + k ≤ _
        omega

end ParsecVerif.CommEngine
