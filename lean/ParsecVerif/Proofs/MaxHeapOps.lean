import ParsecVerif.Proofs.MaxHeap
/-!
  heap_insert, heap_remove and heap_split_and_steal against the invariant of a heap object.
-/
namespace ParsecVerif.MaxHeap

/-- `prio` asks for a top: a heap that heap_create has just made has none, and its priority field is the 0 of `calloc` -/
structure Inv (h : Heap) : Prop where
  shape : Shape h.size h.t
  ord : Ord h.t
  prio : ∀ x, h.t.root? = some x → h.prio = x.prio

def hcount (a : Task) : Option Heap → Nat
  | none => 0
  | some h => h.t.elems.count a

def OInv (o : Option Heap) : Prop := ∀ h, o = some h → Inv h

-- as in Proofs/MaxHeap.lean: keeps `Shape` from being reduced down to `log2`
attribute [local irreducible] lsz rsz pathOf

theorem hcount_none (a : Task) : hcount a none = 0 := rfl
theorem hcount_some (a : Task) (h : Heap) : hcount a (some h) = h.t.elems.count a := rfl

theorem inv_create : Inv create := ⟨rfl, trivial, nofun⟩

theorem oinv_none : OInv none := nofun

theorem oinv_some {h : Heap} (hi : Inv h) : OInv (some h) := fun _ e => Option.some.inj e ▸ hi

theorem topPrio_root (t : Tree) (d : Int) : ∀ x, t.root? = some x → topPrio t d = x.prio := by
  cases t with
  | nil => nofun
  | node l y r => rintro _ ⟨⟩; rfl

theorem inv_mk {k : Nat} {t : Tree} (d : Int) (hs : Shape k t) (ho : Ord t) : Inv ⟨k, topPrio t d, t⟩ :=
  ⟨hs, ho, topPrio_root t d⟩

theorem top_is_max (h : Heap) (hi : Inv h) (x : Task) (hx : h.t.root? = some x) :
    ∀ a ∈ h.t.elems, a.prio ≤ x.prio := by
  apply Ord_max h.t hi.ord
  cases ht : h.t with
  | nil => trivial
  | node l y r => rw [ht] at hx; cases hx; exact Int.le_refl _

theorem insert_t (h : Heap) (e : Task) :
    (insert h e).t = (insPath e (pathOf (h.size + 1)) h.t).1 := by
  by_cases h0 : h.size = 0
  · simp only [insert, h0, Nat.zero_add, if_true, pathOf_one]; rfl
  · simp only [insert, show h.size + 1 ≠ 1 by omega, if_false, pathBits_eq _ (show 2 ≤ h.size + 1 by omega)]

theorem insert_spec (h : Heap) (e : Task) (hi : Inv h) :
    Inv (insert h e) ∧ (insert h e).size = h.size + 1 ∧
    ∀ a, (insert h e).t.elems.count a = h.t.elems.count a + (if e = a then 1 else 0) := by
  have ht := insert_t h e
  obtain ⟨s1, s2⟩ := insPath_shape_count e h.t h.size hi.shape
  have o1 := (insPath_ord e (pathOf (h.size + 1)) h.t hi.ord).1
  rw [← ht] at s1 s2 o1
  exact ⟨inv_mk h.prio s1 o1, rfl, s2⟩

/-- what heap_remove and heap_split_and_steal alike make of a heap `h` -/
structure TopTaken (h : Heap) (o : Out) : Prop where
  top : h.t.root? = some o.ret
  heap : OInv o.heap
  fresh : OInv o.fresh
  count : ∀ a, h.t.elems.count a = hcount a o.heap + hcount a o.fresh + (if o.ret = a then 1 else 0)

theorem remove_spec (h : Heap) (hi : Inv h) (h0 : h.size ≠ 0) :
    ∃ o, remove h = some o ∧ o.fresh = none ∧ TopTaken h o := by
  obtain ⟨n, pr, t⟩ := h
  obtain ⟨hs, ho, -⟩ := hi
  simp only at hs ho h0 ⊢
  obtain ⟨hn, hrl⟩ := lsz_add_rsz n h0
  cases t with
  | nil => exact absurd hs h0
  | node l x r =>
    have ⟨_, sl, sr⟩ := hs
    cases l with
    | nil =>
      -- no left child: a single node
      have hl0 : lsz n = 0 := sl
      obtain rfl : r = .nil := Shape_zero ((show rsz n = 0 by omega) ▸ sr)
      exact ⟨⟨none, none, x⟩, rfl, rfl, rfl, oinv_none, oinv_none,
        fun a => by simp [hcount, Tree.elems, List.count_cons]⟩
    | node ll p lr =>
      cases r with
      | nil =>
        refine ⟨⟨some ⟨n - 1, topPrio _ pr, _⟩, none, x⟩, rfl, rfl, rfl, oinv_some (inv_mk pr ?_ ho.2.2.1), oinv_none,
          fun a => by rw [count_node]; exact Nat.add_comm (if x = a then 1 else 0) _⟩
        have : rsz n = 0 := sr
        rwa [show n - 1 = lsz n by omega]
      | node rl q rr =>
        -- `hroot`: the root that `sift` drops is still `x`
        have n2 : 2 ≤ n := by have := sl.1; have := sr.1; omega
        obtain ⟨m, rfl⟩ : ∃ m, n = m + 1 := ⟨n - 1, by omega⟩
        obtain ⟨last, d1, d2, hroot, d3⟩ := detachPath_spec _ m hs
        have q1 := (detachPath_ord (pathOf (m + 1)) _ ho).1
        refine ⟨⟨some ⟨m + 1 - 1, topPrio _ pr, sift last _⟩, none, x⟩, ?_, rfl, rfl,
          oinv_some (inv_mk pr ((sift_spec last _).shape m d2) ((sift_spec last _).ord q1).1), oinv_none, fun a => ?_⟩
        · simp only [remove]
          rw [pathBits_eq _ n2, d1]
        · have := (sift_spec last _).count a x (hroot (by omega))
          have := d3 a
          simp only [hcount]
          omega

theorem split_spec (h : Heap) (hi : Inv h) (h0 : h.size ≠ 0) (h32 : h.size < 2 ^ 32) :
    ∃ o, split h = some o ∧ TopTaken h o := by
  -- with at most one child `split` does what `remove` does
  have small := (remove_spec h hi h0).imp fun _ r => And.intro r.1 r.2.2
  obtain ⟨n, pr, t⟩ := h
  obtain ⟨hs, ho, -⟩ := hi
  simp only at hs ho h0 h32 ⊢
  cases t with
  | nil => exact absurd hs h0
  | node l x r =>
    cases l with
    | nil => exact small
    | node ll p lr =>
      cases r with
      | nil => exact small
      | node rl q rr =>
        obtain ⟨-, sl, sr⟩ := hs
        have hn := (lsz_add_rsz n h0).1
        have hsz := splitSizes_eq n (by have := sl.1; have := sr.1; omega) h32
        -- `0` is what heap_create's `calloc` leaves in the priority field of the new heap; never read, `l` has a root
        refine ⟨⟨some ⟨(splitSizes n).2, topPrio _ pr, _⟩, some ⟨(splitSizes n).1, topPrio _ 0, _⟩, x⟩, rfl, rfl,
          oinv_some (inv_mk pr (by rw [hsz]; exact sr) ho.2.2.2),
          oinv_some (inv_mk 0 (by rw [hsz]; exact sl) ho.2.2.1), fun a => ?_⟩
        simp only [hcount, count_node a _ x]; omega

end ParsecVerif.MaxHeap
