/-
  C14 — the list facts the proofs about the request array share.
-/
import ParsecVerif.Base.Interleave
namespace ParsecVerif.CommEngine
open ParsecVerif.Interleave (lt_of_getElem?)

theorem getElem?_concat_cases {α} {l : List α} {a b : α} {j : Nat} (h : (l ++ [a])[j]? = some b) :
    l[j]? = some b ∨ (j = l.length ∧ b = a) := by
  rcases Nat.lt_or_ge j l.length with hj | hj
  · rw [List.getElem?_append_left hj] at h
    exact Or.inl h
  · have hl : j < l.length + 1 := by simpa using lt_of_getElem? h
    obtain rfl : j = l.length := by omega
    rw [List.getElem?_concat_length] at h
    exact Or.inr ⟨rfl, (Option.some.inj h).symm⟩

theorem set_split {α} {l : List α} {j : Nat} {a : α} (h : l[j]? = some a) (b : α) :
    ∃ L R, l = L ++ a :: R ∧ l.set j b = L ++ b :: R := by
  induction l generalizing j with
  | nil => simp at h
  | cons c rest ih =>
    cases j with
    | zero =>
      obtain rfl : c = a := by simpa using h
      exact ⟨[], rest, rfl, rfl⟩
    | succ j =>
      obtain ⟨L, R, e1, e2⟩ := ih (by simpa using h)
      exact ⟨c :: L, R, by rw [e1]; rfl, by rw [List.set_cons_succ, e2]; rfl⟩

theorem nodup_concat {α} {l : List α} {a : α} : (l ++ [a]).Nodup ↔ a ∉ l ∧ l.Nodup :=
  (List.perm_append_singleton a l).nodup_iff.trans List.nodup_cons

theorem getD_set_self {α} {l : List α} {i : Nat} (h : i < l.length) (v d : α) : (l.set i v).getD i d = v := by
  simp [List.getD_eq_getElem?_getD, h]

theorem getD_set_ne {α} {i j : Nat} (h : i ≠ j) (l : List α) (v d : α) : (l.set i v).getD j d = l.getD j d := by
  simp [List.getD_eq_getElem?_getD, h]

theorem getD_set_default (l : List Bool) (i j : Nat) (d : Bool) :
    (l.set i d).getD j d = !d ↔ j ≠ i ∧ l.getD j d = !d := by
  by_cases h : i = j
  · subst h
    by_cases hl : i < l.length
    · rw [getD_set_self hl]; simp
    · simp [List.getD_eq_getElem?_getD, hl]
  · rw [getD_set_ne h]; simp [Ne.symm h]

theorem getD_set_flip (l : List Bool) (i j : Nat) (d : Bool) :
    (l.set i (!d)).getD j d = !d ↔ (j = i ∧ i < l.length) ∨ l.getD j d = !d := by
  by_cases h : i = j
  · subst h
    by_cases hl : i < l.length
    · rw [getD_set_self hl]; simp [hl]
    · simp [List.getD_eq_getElem?_getD, hl]
  · rw [getD_set_ne h]; simp [Ne.symm h]

end ParsecVerif.CommEngine
