import ParsecVerif.Model.Profile
/-
  C42 — what the driver runs on a real file beside the reader: the executable placement check decides
  `LayoutAt`, and the dictionary merge only extends the global table and sends every key to an entry with the
  same name, info length and convertor.
-/
namespace ParsecVerif.Profile

theorem chunksAtB_iff (B : Nat) (f : Bytes) (typ : Nat) :
    ∀ offs cs, chunksAtB B f typ offs cs = true ↔ ChunksAt B f typ offs cs
  | [], [] => by simp [chunksAtB, ChunksAt]
  | [o], [c] => by
    cases hrb : readBuf B f o with
    | none => simp [chunksAtB, ChunksAt, hrb]
    | some b =>
      simp only [chunksAtB, ChunksAt, hrb, Bool.and_eq_true, decide_eq_true_eq, Option.some.injEq]
      exact ⟨fun h => ⟨b.next, h⟩, fun ⟨nx, h1, h2⟩ => by subst h2; exact ⟨h1, rfl⟩⟩
  | o :: o' :: os, c :: c' :: cs => by
    simp only [chunksAtB, ChunksAt, Bool.and_eq_true, decide_eq_true_eq, chunksAtB_iff B f typ (o' :: os) (c' :: cs)]
  | [], _ :: _ | _ :: _, [] | [_], _ :: _ :: _ | _ :: _ :: _, [_] => by
    simp [chunksAtB, ChunksAt]

theorem evChunksAtB_iff (B : Nat) (f : Bytes) :
    ∀ oss ss, evChunksAtB B f oss ss = true ↔ EvChunksAt B f oss ss
  | [], [] => by simp [evChunksAtB, EvChunksAt]
  | os :: oss, s :: ss => by
    simp only [evChunksAtB, EvChunksAt, Bool.and_eq_true, decide_eq_true_eq, chunksAtB_iff, evChunksAtB_iff B f oss ss,
      and_assoc]
  | [], _ :: _ | _ :: _, [] => by simp [evChunksAtB, EvChunksAt]

theorem layoutAtB_iff (f : Bytes) (t : Trace) (p : Place) : layoutAtB f t p = true ↔ LayoutAt f t p := by
  simp only [layoutAtB, LayoutAt, Bool.and_eq_true, decide_eq_true_eq, chunksAtB_iff, evChunksAtB_iff, and_assoc]
  cases decHeader f <;> simp

theorem findKey_eq (k : KeyDef) (g : List KeyDef) : findKey k g = g.findIdx? (sameKey · k) := by
  induction g with
  | nil => rfl
  | cons x xs ih => rw [findKey, ih, List.findIdx?_cons]

theorem sameKey_refl (k : KeyDef) : sameKey k k = true := by simp [sameKey]

theorem mergeOne_spec (g : List KeyDef) (k : KeyDef) :
    (∃ x, (mergeOne g k).1[(mergeOne g k).2]? = some x ∧ sameKey x k = true) ∧
    ∃ r, (mergeOne g k).1 = g ++ r := by
  unfold mergeOne
  cases hf : findKey k g with
  | some i =>
    obtain ⟨hi, hs, -⟩ := List.findIdx?_eq_some_iff_getElem.1 (findKey_eq k g ▸ hf)
    exact ⟨⟨g[i], List.getElem?_eq_getElem hi, hs⟩, [], by simp⟩
  | none => exact ⟨⟨k, by simp, sameKey_refl k⟩, [k], rfl⟩

theorem mergeDict_prefix (g d : List KeyDef) : ∃ r, (mergeDict g d).1 = g ++ r := by
  induction d generalizing g with
  | nil => exact ⟨[], by simp [mergeDict]⟩
  | cons k ks ih =>
    obtain ⟨r1, h1⟩ := (mergeOne_spec g k).2
    obtain ⟨r2, h2⟩ := ih (mergeOne g k).1
    refine ⟨r1 ++ r2, ?_⟩
    show (mergeDict (mergeOne g k).1 ks).1 = _
    rw [h2, h1, List.append_assoc]

end ParsecVerif.Profile
