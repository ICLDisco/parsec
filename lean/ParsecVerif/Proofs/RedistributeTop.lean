/-
  C21: the wrapper's validation, and the task space of the reshuffle `Send` against that of `Receive`.
-/
import ParsecVerif.Proofs.Redistribute
namespace ParsecVerif.Redistribute

theorem validate_eq_some (dY dT : Desc) (sr sc diY djY diT djT : Int) (x : Params × Path) :
    validate dY dT sr sc diY djY diT djT = some x ↔
      ¬ (sr < 1 ∨ sc < 1) ∧ ¬ (diY < 0 ∨ djY < 0 ∨ diT < 0 ∨ djT < 0) ∧
      ¬ (diY + sr > dY.lmt * dY.mb ∨ djY + sc > dY.lnt * dY.nb) ∧
      ¬ (diT + sr > dT.lmt * dT.mb ∨ djT + sc > dT.lnt * dT.nb) ∧
      ¬ (!regionIsStored dY sr.toNat sc.toNat diY.toNat djY.toNat) = true ∧
      ¬ (!regionIsStored dT sr.toNat sc.toNat diT.toNat djT.toNat) = true ∧
      ¬ pairNumCols dY dT sc.toNat ≤ 0 ∧
      (mkParams dY dT sr sc diY djY diT djT, pathOf (mkParams dY dT sr sc diY djY diT djT)) = x := by
  simp only [validate, Option.ite_none_left_eq_some, Option.some.injEq]

/-- After tests 1 and 2 of `validate` `toNat` truncates nothing; `num_col` is positive by test 7; the window lies
    inside both matrices by tests 3 and 4. -/
theorem validate_spec (dY dT : Desc) (hY : 0 < dY.mb ∧ 0 < dY.nb) (hT : 0 < dT.mb ∧ 0 < dT.nb)
    (sr sc diY djY diT djT : Int) (p : Params) (path : Path)
    (h : validate dY dT sr sc diY djY diT djT = some (p, path)) :
    p = mkParams dY dT sr sc diY djY diT djT ∧ path = pathOf p ∧ p.Valid ∧
    ((p.sizeRow : Int) = sr ∧ (p.sizeCol : Int) = sc ∧ (p.diY : Int) = diY ∧ (p.djY : Int) = djY ∧
     (p.diT : Int) = diT ∧ (p.djT : Int) = djT) ∧
    (p.diY + p.sizeRow ≤ dY.lmt * dY.mb ∧ p.djY + p.sizeCol ≤ dY.lnt * dY.nb ∧
     p.diT + p.sizeRow ≤ dT.lmt * dT.mb ∧ p.djT + p.sizeCol ≤ dT.lnt * dT.nb) := by
  obtain ⟨h1, h2, h3, h4, -, -, h7, hx⟩ := (validate_eq_some ..).mp h
  cases hx
  have c1 : (sr.toNat : Int) = sr := Int.toNat_of_nonneg (by omega)
  have c2 : (sc.toNat : Int) = sc := Int.toNat_of_nonneg (by omega)
  have c3 : (diY.toNat : Int) = diY := Int.toNat_of_nonneg (by omega)
  have c4 : (djY.toNat : Int) = djY := Int.toNat_of_nonneg (by omega)
  have c5 : (diT.toNat : Int) = diT := Int.toNat_of_nonneg (by omega)
  have c6 : (djT.toNat : Int) = djT := Int.toNat_of_nonneg (by omega)
  refine ⟨rfl, rfl, ⟨⟨hY.1, hT.1, ?_⟩, ⟨hY.2, hT.2, ?_⟩, ?_⟩, ⟨c1, c2, c3, c4, c5, c6⟩, ?_, ?_, ?_, ?_⟩
  · show 0 < sr.toNat; omega
  · show 0 < sc.toNat; omega
  · show 0 < (pairNumCols dY dT sc.toNat).toNat; omega
  · show diY.toNat + sr.toNat ≤ dY.lmt * dY.mb; omega
  · show djY.toNat + sc.toNat ≤ dY.lnt * dY.nb; omega
  · show diT.toNat + sr.toNat ≤ dT.lmt * dT.mb; omega
  · show djT.toNat + sc.toNat ≤ dT.lnt * dT.nb; omega

theorem mem_reshuffleSends {p : Params} {b mY nY : Nat} :
    (b, mY, nY) ∈ reshuffleSends p ↔ b ≤ p.nt ∧ (p.row.yStartR ≤ mY ∧ mY ≤ p.row.yEndR) ∧
      (b * p.numCol + p.col.yStartR ≤ nY ∧ nY ≤ min ((b + 1) * p.numCol + p.col.yStartR - 1) p.col.yEndR) := by
  unfold reshuffleSends
  simp only [List.mem_flatMap, List.mem_map, mem_rangeIncl, Prod.mk.injEq]
  constructor
  · rintro ⟨b', hb, mY', hmY, nY', hnY, rfl, rfl, rfl⟩
    exact ⟨hb.2, hmY, hnY⟩
  · rintro ⟨h1, h2, h3⟩
    exact ⟨b, ⟨Nat.zero_le _, h1⟩, mY, h2, nY, h3, rfl, rfl, rfl⟩

/-- a range of source tiles and the range of target tiles shifted by `tS - yS` -/
theorem shift_iff {A B A' B' tS yS y : Nat} (hA : A + tS = A' + yS) (hB : B + tS = B' + yS) (h0 : tS ≤ A') :
    A ≤ y ∧ y ≤ B ↔ ∃ t, (A' ≤ t ∧ t ≤ B') ∧ y = t - tS + yS := by
  constructor
  · intro h; exact ⟨y - yS + tS, by omega, by omega⟩
  · rintro ⟨t, h, rfl⟩; omega

end ParsecVerif.Redistribute
