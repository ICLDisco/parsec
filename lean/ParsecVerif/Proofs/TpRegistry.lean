import ParsecVerif.Model.TpRegistry
/-!
  The taskpool registry `Reg`: every call is a conditional growth of the array (`grownIf`) or a
  store (`setCell`); `Refines` relates a registry to the finite map it represents.
-/
namespace ParsecVerif.TpRegistry

def cell (r : Reg) (i : Nat) : Option Cell :=
  match r.arr with
  | none => none
  | some a => a[i]?

/-- invariant of ALL histories, disciplined or not -/
def WF (r : Reg) : Prop :=
  match r.arr with
  | none => r.size = 1 ∧ r.pos = 0
  | some a => a.length = r.size ∧ r.pos < r.size ∧ ∀ i, 1 ≤ i → a[i]? ≠ some .junk

/-- the assert of reserve_id tests the one cell `array[pos+1]`, after the growth -/
def Clean (r : Reg) : Prop := ∀ i, r.pos < i → cell r i = some .free ∨ cell r i = none

theorem WF_init : WF Reg.init := by simp [WF, Reg.init]

theorem cell_of_arr {r : Reg} {a : List Cell} (h : r.arr = some a) (i : Nat) : cell r i = a[i]? := by
  simp [cell, h]

theorem WF_cases {r : Reg} (h : WF r) :
    (r.arr = none ∧ r.size = 1 ∧ r.pos = 0) ∨
    ∃ a, r.arr = some a ∧ a.length = r.size ∧ r.pos < r.size ∧ ∀ i, 1 ≤ i → a[i]? ≠ some .junk := by
  unfold WF at h
  split at h
  · exact .inl ⟨‹_›, h⟩
  · exact .inr ⟨_, ‹_›, h⟩

theorem pos_lt_size {r : Reg} (h : WF r) : r.pos < r.size := by
  rcases WF_cases h with ⟨-, _, _⟩ | ⟨_, -, -, _, -⟩ <;> omega

theorem cell_of_lt_size {r : Reg} (h : WF r) {i : Nat} (h1 : 1 ≤ i) (h2 : i < r.size) :
    ∃ c, cell r i = some c ∧ c ≠ .junk := by
  rcases WF_cases h with ⟨-, _, -⟩ | ⟨a, ha, hl, -, hj⟩
  · omega
  · have hi : i < a.length := by omega
    rw [cell_of_arr ha, List.getElem?_eq_getElem hi]
    exact ⟨_, rfl, fun e => hj i h1 (by rw [List.getElem?_eq_getElem hi, e])⟩

theorem cell_none_of_size_le {r : Reg} (h : WF r) {i : Nat} (hi : r.size ≤ i) : cell r i = none := by
  rcases WF_cases h with ⟨ha, -, -⟩ | ⟨a, ha, hl, -, -⟩
  · simp [cell, ha]
  · rw [cell_of_arr ha]; exact List.getElem?_eq_none (by omega)

theorem getElem?_fill (a : List Cell) (lo hi i : Nat) :
    (fill a lo hi)[i]? = if lo ≤ i ∧ i < hi then a[i]?.map (fun _ => Cell.free) else a[i]? := by
  unfold fill
  rw [List.getElem?_mapIdx]
  split <;> cases a[i]? <;> rfl

theorem length_fill (a : List Cell) (lo hi : Nat) : (fill a lo hi).length = a.length := by
  simp [fill]

theorem realloc_eq (a : Option (List Cell)) (n : Nat) :
    realloc a n = (a.getD [] ++ List.replicate n Cell.junk).take n := by
  cases a with
  | none => simp [realloc]
  | some l => simp [realloc, List.take_append, List.take_replicate, Nat.min_eq_left (Nat.sub_le _ _)]

theorem length_realloc (a : Option (List Cell)) (n : Nat) : (realloc a n).length = n := by
  rw [realloc_eq, List.length_take, List.length_append, List.length_replicate]
  exact Nat.min_eq_left (Nat.le_add_left ..)

theorem getElem?_realloc (a : Option (List Cell)) (n i : Nat) :
    (realloc a n)[i]? = if i < n then some (((a.getD [])[i]?).getD .junk) else none := by
  rw [realloc_eq, List.getElem?_take]
  split
  · rw [List.getElem?_append]
    split
    · rw [List.getElem?_eq_getElem ‹_›]; rfl
    · rw [List.getElem?_replicate, if_pos (Nat.lt_of_le_of_lt (Nat.sub_le ..) ‹i < n›),
        List.getElem?_eq_none (Nat.le_of_not_lt ‹_›)]; rfl
  · rfl

def grow (r : Reg) (n : Nat) : Reg :=
  { r with size := n, arr := some (fill (realloc r.arr n) r.size n) }

theorem growDouble_eq (r : Reg) : growDouble r = grow r (r.size * 2) := by
  simp [growDouble, grow]

theorem cell_grow (r : Reg) (n i : Nat) :
    cell (grow r n) i =
      if i < n then some (if r.size ≤ i then .free else (cell r i).getD .junk) else none := by
  simp only [cell, grow, getElem?_fill, getElem?_realloc]
  by_cases h1 : i < n <;> by_cases h2 : r.size ≤ i <;> cases r.arr <;> simp [h1, h2]

def grownIf (c : Prop) [Decidable c] (r : Reg) (n p : Nat) : Reg :=
  { (if c then grow r n else r) with pos := p }

theorem WF_grownIf {c : Prop} [Decidable c] {r : Reg} {n p : Nat} (h : WF r) (hp : p < if c then n else r.size) :
    WF (grownIf c r n p) := by
  unfold grownIf
  split <;> rename_i hc <;> simp only [hc, if_true, if_false] at hp
  · refine ⟨(length_fill ..).trans (length_realloc ..), hp, fun i hi => ?_⟩
    rw [← cell_of_arr (r := grow r n) rfl, cell_grow]
    split
    · split
      · nofun
      · obtain ⟨c, hc, hj⟩ := cell_of_lt_size h hi (Nat.lt_of_not_le ‹_›)
        rw [hc]; exact fun e => hj (Option.some.inj e)
    · nofun
  · unfold WF
    rcases WF_cases h with ⟨ha, hs, -⟩ | ⟨a, ha, hl, -, hj⟩ <;> simp only [ha]
    · exact ⟨hs, by omega⟩
    · exact ⟨hl, hp, hj⟩

theorem needGrow_iff (r : Reg) (idx : Nat) : needGrow r idx = true ↔ r.arr = none ∨ r.size ≤ idx := by
  cases h : r.arr <;> simp [needGrow, h]

theorem reserveReg_eq (r : Reg) :
    reserveReg r = grownIf (r.arr = none ∨ r.size ≤ r.pos + 1) r (r.size * 2) (r.pos + 1) := by
  simp only [reserveReg, needGrow_iff, grownIf, growDouble_eq]
  split <;> rfl

theorem pos_reserveReg (r : Reg) : (reserveReg r).pos = r.pos + 1 := by rw [reserveReg_eq]; rfl

theorem WF_reserve {r : Reg} (h : WF r) : WF (reserveReg r) := by
  have := pos_lt_size h
  rw [reserveReg_eq]
  exact WF_grownIf h (by split <;> omega)

theorem regGrown_eq (r : Reg) (idx : Nat) :
    regGrown r idx = grownIf (r.arr = none ∨ r.size ≤ idx) r (r.size * 2) r.pos := by
  simp only [regGrown, needGrow_iff, grownIf, growDouble_eq]
  split <;> rfl

theorem WF_regGrown {r : Reg} (idx : Nat) (h : WF r) : WF (regGrown r idx) := by
  have := pos_lt_size h
  rw [regGrown_eq]
  exact WF_grownIf h (by split <;> omega)

def setCell (r : Reg) (i : Nat) (c : Cell) : Reg := { r with arr := r.arr.map (·.set i c) }

theorem cell_setCell (r : Reg) (i : Nat) (c : Cell) (j : Nat) :
    cell (setCell r i c) j = if i = j then (cell r j).map (fun _ => c) else cell r j := by
  unfold cell setCell
  cases r.arr with
  | none => simp
  | some a => exact List.getElem?_set'

theorem WF_setCell {r : Reg} (h : WF r) (i : Nat) {c : Cell} (hc : c ≠ .junk) : WF (setCell r i c) := by
  unfold WF setCell
  rcases WF_cases h with ⟨ha, hs, hp⟩ | ⟨a, ha, hl, hp, hj⟩ <;> simp only [ha, Option.map_none, Option.map_some]
  · exact ⟨hs, hp⟩
  · refine ⟨by rw [List.length_set]; exact hl, hp, fun j h1 => ?_⟩
    rw [List.getElem?_set]
    split
    · split
      · exact fun e => hc (Option.some.inj e)
      · simp
    · exact hj j h1

theorem unregisterReg_eq (r : Reg) (i : Nat) : unregisterReg r i = setCell r i .free := by
  obtain ⟨arr, size, pos⟩ := r
  cases arr <;> rfl

theorem canUnregister_eq (r : Reg) (i h : Nat) : canUnregister r i h = (cell r i == some (.tp h)) := by
  unfold canUnregister cell
  cases r.arr <;> rfl

theorem registerReg_eq (r : Reg) (idx h : Nat) :
    registerReg r idx h =
      if cell (regGrown r idx) idx = none then none else some (setCell (regGrown r idx) idx (.tp h)) := by
  unfold registerReg cell setCell
  cases ha : (regGrown r idx).arr with
  | none => simp
  | some a =>
    by_cases hl : idx < a.length <;> simp [hl]

theorem registerReg_some {r r' : Reg} {idx h : Nat} (hr : registerReg r idx h = some r') :
    r' = setCell (regGrown r idx) idx (.tp h) := by
  rw [registerReg_eq] at hr
  split at hr
  · cases hr
  · exact (Option.some.inj hr).symm

theorem lookupReg_eq (r : Reg) (id : Nat) :
    lookupReg r id =
      if id ≤ r.pos then
        match cell r id with
        | none => .crash
        | some .free => .null
        | some (.tp h) => .tp h
        | some .junk => .junk
      else .null := by
  unfold lookupReg cell
  cases r.arr <;> rfl

theorem growTo_gt {idx fuel msz : Nat} (h1 : 1 ≤ msz) (h : idx < msz + fuel) : idx < growTo idx fuel msz := by
  induction fuel generalizing msz with
  | zero => exact h
  | succ f ih =>
    unfold growTo
    split
    · exact ih (by omega) (by omega)
    · omega

theorem growTo_ge (idx fuel msz : Nat) : msz ≤ growTo idx fuel msz := by
  induction fuel generalizing msz with
  | zero => exact Nat.le_refl _
  | succ f ih =>
    unfold growTo
    split
    · have := ih (msz * 2); omega
    · exact Nat.le_refl _

theorem growTo_id (idx fuel msz : Nat) (h : idx < msz) : growTo idx fuel msz = msz := by
  cases fuel with
  | zero => rfl
  | succ f => unfold growTo; rw [if_neg (by omega)]

theorem syncReg_eq (r : Reg) (m : Nat) :
    syncReg r m = grownIf (r.size < growTo m (m + 1) r.size) r (growTo m (m + 1) r.size) m := by
  have := growTo_ge m (m + 1) r.size
  unfold syncReg grownIf grow
  split
  · rfl
  · rw [show growTo m (m + 1) r.size = r.size by omega]

theorem pos_syncReg (r : Reg) (m : Nat) : (syncReg r m).pos = m := rfl

/-- the rank that holds the maximum; also the non-MPI path of the code -/
theorem syncReg_self (r : Reg) (h : WF r) : syncReg r r.pos = r := by
  rw [syncReg_eq, growTo_id r.pos (r.pos + 1) r.size (pos_lt_size h)]
  simp [grownIf]

theorem WF_sync {r : Reg} (h : WF r) (m : Nat) : WF (syncReg r m) := by
  have hp := pos_lt_size h
  have hgt : m < growTo m (m + 1) r.size := growTo_gt (by omega) (by omega)
  rw [syncReg_eq]
  exact WF_grownIf h (by split <;> omega)

/-- the hypothesis `r.pos ≤ m` of `Refines.sync` and `C37.sync_preserves_lookup`, for the `m` that
    `syncAll` passes -/
theorem le_maxPos {rs : List Reg} {r : Reg} (h : r ∈ rs) : r.pos ≤ maxPos rs := by
  induction rs with
  | nil => cases h
  | cons x xs ih =>
    simp only [maxPos]
    rcases List.mem_cons.1 h with rfl | e
    · omega
    · have := ih e; omega

def toCell : Option Nat → Cell
  | none => .free
  | some h => .tp h

structure Refines (r : Reg) (next : Nat) (live : Nat → Option Nat) : Prop where
  wf : WF r
  pos : r.pos = next
  cells : ∀ i, 1 ≤ i → cell r i = if i < r.size then some (toCell (live i)) else none
  above : ∀ i, next < i → live i = none

namespace Refines
variable {r : Reg} {next : Nat} {live : Nat → Option Nat}

theorem next_lt (h : Refines r next live) : next < r.size := h.pos ▸ pos_lt_size h.wf

/-- the hypothesis `Clean` of `C37.sync_preserves_lookup` holds under the id discipline -/
theorem clean (h : Refines r next live) : Clean r := fun i hi => by
  rw [h.cells i (Nat.zero_lt_of_lt hi), h.above i (h.pos ▸ hi)]
  split
  · exact .inl rfl
  · exact .inr rfl

theorem init : Refines Reg.init 0 (fun _ => none) :=
  ⟨WF_init, rfl, fun i hi => (if_neg (by show ¬ i < 1; omega)).symm, fun _ _ => rfl⟩

theorem of_clean (hw : WF r) (hc : Clean r) :
    Refines r r.pos (fun i => match cell r i with | some (.tp t) => some t | _ => none) := by
  refine ⟨hw, rfl, fun i hi => ?_, fun i hi => ?_⟩
  · split
    · obtain ⟨c, e, hj⟩ := cell_of_lt_size hw hi ‹_›
      rw [e]
      cases c <;> first | rfl | exact absurd rfl hj
    · exact cell_none_of_size_le hw (Nat.le_of_not_lt ‹_›)
  · rcases hc i hi with e | e <;> rw [e]

theorem grown {c : Prop} [Decidable c] {n p : Nat} (h : Refines r next live) (hp : next ≤ p)
    (hw : WF (grownIf c r n p)) : Refines (grownIf c r n p) p live := by
  refine ⟨hw, rfl, fun i hi => ?_, fun i hi => h.above i (Nat.lt_of_le_of_lt hp hi)⟩
  unfold grownIf
  split
  · show cell (grow r n) i = if i < n then _ else _
    rw [cell_grow, h.cells i hi]
    split
    · split
      · -- a fresh cell lies beyond the old size, hence above `next`, where the map has no entry
        rw [h.above i (Nat.lt_of_lt_of_le h.next_lt ‹_›)]; rfl
      · rw [if_pos (Nat.lt_of_not_le ‹_›)]; rfl
    · rfl
  · exact h.cells i hi

theorem reserve (h : Refines r next live) : Refines (reserveReg r) (next + 1) live := by
  have hw := WF_reserve h.wf
  rw [reserveReg_eq] at hw ⊢
  exact h.pos ▸ h.grown (h.pos ▸ Nat.le_succ _) hw

theorem sync {m : Nat} (h : Refines r next live) (hm : next ≤ m) : Refines (syncReg r m) m live := by
  have hw := WF_sync h.wf m
  rw [syncReg_eq] at hw ⊢
  exact h.grown hm hw

theorem of_setCell {idx : Nat} (h : Refines r next live) (x : Option Nat) (hp : idx ≤ next ∨ x = none) :
    Refines (setCell r idx (toCell x)) next (fun i => if i = idx then x else live i) := by
  refine ⟨WF_setCell h.wf idx (by cases x <;> nofun), h.pos, fun i hi => ?_, fun i hi => ?_⟩
  · show _ = if i < r.size then _ else _
    rw [cell_setCell, h.cells i hi]
    by_cases e : idx = i
    · subst e
      rw [if_pos rfl, if_pos rfl]
      split <;> rfl
    · rw [if_neg e, if_neg (Ne.symm e)]
  · show (if i = idx then x else live i) = none
    split
    · rcases hp with hp | rfl
      · omega
      · rfl
    · exact h.above i hi

theorem register {idx : Nat} (h : Refines r next live) (h1 : 1 ≤ idx) (h2 : idx ≤ next) (t : Nat) :
    ∃ r', registerReg r idx t = some r' ∧ Refines r' next (fun i => if i = idx then some t else live i) := by
  have hc := h.cells idx h1
  rw [if_pos (Nat.lt_of_le_of_lt h2 h.next_lt)] at hc
  have hg : regGrown r idx = r := by
    rw [regGrown_eq, grownIf, if_neg]
    rintro (ha | hs)
    · simp [cell, ha] at hc
    · exact Nat.not_lt.2 hs (Nat.lt_of_le_of_lt h2 h.next_lt)
  rw [registerReg_eq, hg, hc]
  exact ⟨_, rfl, h.of_setCell (some t) (.inl h2)⟩

theorem canUnregister_iff {idx : Nat} (h : Refines r next live) (h1 : 1 ≤ idx) (t : Nat) :
    canUnregister r idx t = true ↔ live idx = some t := by
  rw [canUnregister_eq, h.cells idx h1, beq_iff_eq]
  split
  · cases live idx <;> simp [toCell]
  · rw [h.above idx (Nat.lt_of_lt_of_le h.next_lt (Nat.le_of_not_lt ‹_›))]
    simp

theorem unregister (h : Refines r next live) (idx : Nat) :
    Refines (unregisterReg r idx) next (fun i => if i = idx then none else live i) :=
  unregisterReg_eq r idx ▸ h.of_setCell none (.inr rfl)

theorem lookup {id : Nat} (h : Refines r next live) (h1 : 1 ≤ id) :
    lookupReg r id = match live id with | some t => .tp t | none => .null := by
  rw [lookupReg_eq, h.cells id h1]
  split
  · rw [if_pos (Nat.lt_of_le_of_lt ‹_› (pos_lt_size h.wf))]
    cases live id <;> rfl
  · rw [h.above id (h.pos ▸ Nat.lt_of_not_le ‹_›)]

end Refines

theorem reservedIds_cons (o : Out) (outs : List Out) :
    reservedIds (o :: outs) = reservedIds [o] ++ reservedIds outs :=
  List.filterMap_append (l := [o])

theorem reservedIds_lookupReg (r : Reg) (id : Nat) : reservedIds [lookupReg r id] = [] := by
  rw [lookupReg_eq]
  split
  · split <;> rfl
  · rfl

theorem step_reserve {s : St} {t : Nat} (hd : s.dead = false) (ht : t < s.tpid.length) :
    (step s (.reserve t)).2 = .rid (s.reg.pos + 1) := by
  simp [step, hd, stepLive, ht]

/-- What one call does to the registry, with the ids it hands out; `skip` is a rejected call, a lookup,
    `setid`, a dead process.  The cell index of `register` and `unregister` is left free and `tpid`,
    `dead` do not occur: the relation carries facts about `pos` and `WF` (`RegMove.wf`,
    `C37.move_ids`), not about single cells. -/
inductive RegMove (r : Reg) : Op → Reg → List Nat → Prop
  | skip (op : Op) : RegMove r op r []
  | reserve (t : Nat) : RegMove r (.reserve t) (reserveReg r) [r.pos + 1]
  | register (t : Nat) {i : Nat} {r' : Reg} : registerReg r i t = some r' → RegMove r (.register t) r' []
  | unregister (t i : Nat) : RegMove r (.unregister t) (unregisterReg r i) []
  | sync (o : Nat) : RegMove r (.sync o) (syncReg r (max r.pos o)) []
  | fini : RegMove r .fini Reg.init []

theorem step_move (s : St) (op : Op) : RegMove s.reg op (step s op).1.reg (reservedIds [(step s op).2]) := by
  unfold step
  split
  · exact .skip op
  · cases op <;> simp only [stepLive]
    case reserve => split <;> constructor
    case setid => split <;> constructor
    case register t =>
      split
      · constructor
      · split
        · constructor
        · exact .register t ‹_›
    case unregister =>
      split
      · constructor
      · split <;> constructor
    case lookup => rw [reservedIds_lookupReg]; constructor
    case lookupOwn =>
      split
      · constructor
      · rw [reservedIds_lookupReg]; constructor
    case sync => constructor
    case fini => constructor

theorem RegMove.wf {r r' : Reg} {op : Op} {ids : List Nat} (m : RegMove r op r' ids) (h : WF r) : WF r' := by
  cases m with
  | skip => exact h
  | reserve => exact WF_reserve h
  | register t hr => rw [registerReg_some hr]; exact WF_setCell (WF_regGrown _ h) _ nofun
  | unregister => rw [unregisterReg_eq]; exact WF_setCell h _ nofun
  | sync => exact WF_sync h _
  | fini => exact WF_init

theorem runSt_append (s : St) (a b : List Op) : runSt s (a ++ b) = runSt (runSt s a) b := by
  induction a generalizing s with
  | nil => rfl
  | cons x a ih => exact ih _

theorem runOuts_append (s : St) (a b : List Op) : runOuts s (a ++ b) = runOuts s a ++ runOuts (runSt s a) b := by
  induction a generalizing s with
  | nil => rfl
  | cons x a ih => simp only [List.cons_append, runOuts, runSt, ih]

end ParsecVerif.TpRegistry
