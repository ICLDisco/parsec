import ParsecVerif.Model.Object
import ParsecVerif.Base.Interleave
/-!
  Lemmas for C34.  The block `parsec_class_initialize` builds is obtained from the closed form (`layout`)
  of the state of its filling loop.  The concurrent machine keeps a `Shape` (live / dying / dead) under every step
  that respects the usage protocol; thread-local safety of the programs implies the protocol under every
  schedule.
-/
namespace ParsecVerif.Object

/-- both filling directions overwrite the word next to what is already stored -/
theorem set_append_cons {α} (pre : List α) (x y : α) (post : List α) {n : Nat} (h : pre.length = n) :
    (pre ++ x :: post).set n y = pre ++ y :: post := by
  subst h
  simp

/-- State of the filling loop.  `rc` / `rd`: constructors / destructors still to come, i.e. the junk
    words left below `cp` and (beside the word of the closing NULL) above `dp`; `C`: constructors stored
    so far, as they will be read (the last one stored is read first); `D`: destructors stored so far,
    in reading order. -/
def layout (rc rd : Nat) (C D : List Nat) : Fill where
  mem := List.replicate rc .junk ++ (C.map .fn ++ .null :: D.map .fn) ++ List.replicate (rd + 1) .junk
  cp := rc
  dp := rc + C.length + 1 + D.length

theorem fill0_eq (cc dc : Nat) : fill0 cc dc = layout cc dc [] [] := by
  unfold fill0 layout
  rw [show cc + dc + 2 = cc + ((dc + 1) + 1) by omega, ← List.replicate_append_replicate,
    List.replicate_succ (n := dc + 1), set_append_cons _ _ _ _ List.length_replicate]
  simp

theorem ctorOrder_cons (l : Level) (r : List Level) : ctorOrder (l :: r) = ctorOrder r ++ l.ctor.toList := by
  cases h : l.ctor <;> simp [ctorOrder, h]

theorem dtorOrder_cons (l : Level) (r : List Level) : dtorOrder (l :: r) = l.dtor.toList ++ dtorOrder r := by
  cases h : l.dtor <;> simp [dtorOrder, h]

theorem length_ctorOrder (ch : List Level) : (ctorOrder ch).length = nCtor ch := by
  rw [ctorOrder, List.length_filterMap_eq_countP, List.countP_reverse]; rfl

theorem length_dtorOrder (ch : List Level) : (dtorOrder ch).length = nDtor ch := by
  rw [dtorOrder, List.length_filterMap_eq_countP]; rfl

theorem ctorPart_layout (l : Level) (rc rd : Nat) (C D : List Nat) :
    ctorPart l (layout (rc + l.ctor.toList.length) rd C D) = layout rc rd (l.ctor.toList ++ C) D := by
  unfold ctorPart layout
  cases l.ctor with
  | none => rfl
  | some c =>
    simp only [Option.toList_some, List.length_singleton, Nat.add_sub_cancel]
    rw [List.replicate_succ' (n := rc), List.append_assoc, List.append_assoc, List.singleton_append,
      set_append_cons _ _ _ _ List.length_replicate]
    simp
    omega

theorem dtorPart_layout (l : Level) (rc rd : Nat) (C D : List Nat) :
    dtorPart l (layout rc (rd + l.dtor.toList.length) C D) = layout rc rd C (D ++ l.dtor.toList) := by
  unfold dtorPart layout
  cases l.dtor with
  | none => simp
  | some d =>
    simp only [Option.toList_some, List.length_singleton]
    rw [List.replicate_succ (n := rd + 1), set_append_cons _ _ _ _ (by simp [Nat.add_assoc, Nat.add_comm 1])]
    simp
    omega

theorem foldl_fillStep (rem : List Level) : ∀ (rc rd : Nat) (C D : List Nat),
    rem.foldl fillStep (layout (rc + (ctorOrder rem).length) (rd + (dtorOrder rem).length) C D) =
      layout rc rd (ctorOrder rem ++ C) (D ++ dtorOrder rem) := by
  induction rem with
  | nil => intro rc rd C D; simp [ctorOrder, dtorOrder]
  | cons l rem ih =>
    intro rc rd C D
    rw [List.foldl_cons, fillStep, ctorOrder_cons, dtorOrder_cons, List.length_append, List.length_append,
      ← Nat.add_assoc, ctorPart_layout, Nat.add_comm l.dtor.toList.length, ← Nat.add_assoc, dtorPart_layout, ih,
      List.append_assoc, List.append_assoc]

theorem fillLoop_eq (ch : List Level) : fillLoop ch = layout 0 0 (ctorOrder ch) (dtorOrder ch) := by
  rw [fillLoop, List.take_length, fill0_eq, ← length_ctorOrder, ← length_dtorOrder]
  simpa using foldl_fillStep ch 0 0 [] []

theorem classInitialize_eq (ch : List Level) (c : Cls) (h : c.initialized = false) :
    classInitialize ch c =
      ⟨true, ch.length, (ctorOrder ch).map .fn ++ .null :: ((dtorOrder ch).map .fn ++ [.null]), nCtor ch + 1⟩ := by
  simp only [classInitialize, h, Bool.false_eq_true, if_false, fillLoop_eq, layout]
  simp only [List.replicate_zero, List.nil_append, List.replicate_succ]
  rw [set_append_cons _ _ _ _ (by simp; omega)]
  simp

theorem readArr_append (pre : List Cell) (L : List Nat) (post : List Cell) {a fuel : Nat}
    (ha : pre.length = a) (hf : L.length < fuel) :
    readArr (pre ++ (L.map .fn ++ .null :: post)) a fuel = some L := by
  subst ha
  induction L generalizing pre fuel with
  | nil =>
    cases fuel with
    | zero => simp at hf
    | succ n => simp [readArr]
  | cons x L ih =>
    cases fuel with
    | zero => simp at hf
    | succ n =>
      have := ih (pre ++ [.fn x]) (fuel := n) (by simpa using hf)
      simp only [List.append_assoc, List.singleton_append, List.length_append, List.length_singleton] at this
      simp [readArr, this]

theorem step_cases {cfg : Cfg} {s : State} {t : Nat} {P : State → Prop} (idle : P s)
    (start : ∀ th, s.thr[t]? = some th → th.pc = .start → P (setThr s t (settle th)))
    (op : ∀ th o rest, s.thr[t]? = some th → th.pc = .ready → th.prog = o :: rest →
      P (execOp cfg s t th o rest))
    (last : ∀ th d, s.thr[t]? = some th → th.pc = .dtor [d] →
      P { s with trace := s.trace ++ [.dtor t d] ++ freeEv cfg t, thr := s.thr.set t (settle th) })
    (next : ∀ th d d' ds, s.thr[t]? = some th → th.pc = .dtor (d :: d' :: ds) →
      P { s with trace := s.trace ++ [.dtor t d], thr := s.thr.set t { th with pc := .dtor (d' :: ds) } }) :
    P (step cfg s t) := by
  unfold step
  split
  · exact idle
  · rename_i th hth
    split
    · exact start th hth ‹_›
    · exact idle
    · split
      · exact idle
      · exact op th _ _ hth ‹_› ‹_›
    · exact idle
    · split
      · exact last th _ hth ‹_›
      · exact next th _ _ _ hth ‹_›

theorem execOp_viol (cfg : Cfg) (s : State) (t : Nat) (th : Thread) (op : Op) (rest : List Op) :
    (execOp cfg s t th op rest).viol = (s.viol || th.held == 0) := by
  cases op with
  | retain => rfl
  | release =>
    simp only [execOp]
    split
    · unfold enterRelease; split <;> rfl
    · rfl
  | give u => rfl

theorem viol_step_mono (cfg : Cfg) (s : State) (t : Nat) (h : s.viol = true) : (step cfg s t).viol = true := by
  refine step_cases (P := fun s' => s'.viol = true) h (fun _ _ _ => h) ?_ (fun _ _ _ _ => h) (fun _ _ _ _ _ _ => h)
  intro th o rest _ _ _
  rw [execOp_viol, h]; rfl

theorem viol_run_mono (cfg : Cfg) (sched : List Nat) : ∀ s : State, s.viol = true → (run cfg s sched).viol = true :=
  fun _ => Interleave.foldl_inv (P := fun s : State => s.viol = true) (viol_step_mono cfg) sched

def heldSum (thr : List Thread) : Nat := (thr.map (·.held)).sum

/-- an operation made while the object is alive and leaving it alive -/
def liveEv : Ev → Prop
  | .retain _ v => 1 ≤ v
  | .release _ v => 1 ≤ v
  | _ => False

abbrev All (p : Thread → Prop) (thr : List Thread) : Prop := ∀ (u : Nat) (th : Thread), thr[u]? = some th → p th
abbrev NoD : List Thread → Prop := All fun th => ∀ r, th.pc ≠ .dtor r
/-- thread `t` alone is inside `obj_release`, with the destructors `rest` still to call -/
abbrev OnlyD (t : Nat) (rest : List Nat) (thr : List Thread) : Prop :=
  (∃ th : Thread, thr[t]? = some th ∧ th.pc = .dtor rest) ∧
  ∀ (u : Nat) (th : Thread), u ≠ t → thr[u]? = some th → ∀ r, th.pc ≠ .dtor r

theorem heldSum_set (thr : List Thread) (t : Nat) (th th' : Thread) (h : thr[t]? = some th) :
    heldSum (thr.set t th') + th.held = heldSum thr + th'.held :=
  Interleave.sum_map_set (·.held) thr t th th' h

theorem heldSum_set_same {thr : List Thread} {t : Nat} {th : Thread} (th' : Thread)
    (h : thr[t]? = some th) (he : th'.held = th.held) : heldSum (thr.set t th') = heldSum thr := by
  have := heldSum_set thr t th th' h
  omega

theorem heldSum_ge (thr : List Thread) (t : Nat) (th : Thread) (h : thr[t]? = some th) :
    th.held ≤ heldSum thr :=
  Interleave.le_sum_map_of_mem (·.held) thr th (List.mem_of_getElem? h)

theorem heldSum_set_succ {thr : List Thread} {t : Nat} {th : Thread} (th' : Thread) (h : thr[t]? = some th)
    (he : th'.held = th.held + 1) {c : Int} (hs : (heldSum thr : Int) ≤ c) :
    (heldSum (thr.set t th') : Int) ≤ c + 1 := by
  have := heldSum_set thr t th th' h
  omega

theorem heldSum_set_pred {thr : List Thread} {t : Nat} {th : Thread} (th' : Thread) (h : thr[t]? = some th)
    (hh : 1 ≤ th.held) (he : th'.held = th.held - 1) {c : Int} (hs : (heldSum thr : Int) ≤ c) :
    (heldSum (thr.set t th') : Int) ≤ c - 1 := by
  have := heldSum_set thr t th th' h
  omega

theorem heldSum_bump_le (thr : List Thread) (u : Nat) {c : Int} (hs : (heldSum thr : Int) ≤ c - 1) :
    (heldSum (bump thr u) : Int) ≤ c := by
  unfold bump
  cases h : thr[u]? with
  | none => exact Int.le_trans hs (Int.sub_le_self c (by decide))
  | some r => exact Int.sub_add_cancel c 1 ▸ heldSum_set_succ _ h rfl hs

theorem All.set {p : Thread → Prop} {thr : List Thread} (h : All p thr) (t : Nat) {th' : Thread}
    (hp : p th') : All p (thr.set t th') :=
  Interleave.forall_getElem?_set hp fun u th _ => h u th

theorem All.bump {p : Thread → Prop} {thr : List Thread} (h : All p thr) (u : Nat)
    (hp : ∀ th, p th → p { th with held := th.held + 1 }) : All p (bump thr u) := by
  unfold Object.bump
  cases hu : thr[u]? with
  | none => exact h
  | some r => exact h.set u (hp r (h u r hu))

theorem OnlyD.pc {thr : List Thread} {t : Nat} {rest : List Nat} {th : Thread} (h : OnlyD t rest thr)
    (ht : thr[t]? = some th) : th.pc = .dtor rest := by
  obtain ⟨th2, h1, h2⟩ := h.1
  rw [ht] at h1; cases h1; exact h2

theorem OnlyD_set {thr : List Thread} {t : Nat} {th th' : Thread} {rest : List Nat}
    (ht : thr[t]? = some th) (hp : th'.pc = .dtor rest)
    (ho : ∀ (u : Nat) (th : Thread), u ≠ t → thr[u]? = some th → ∀ r, th.pc ≠ .dtor r) :
    OnlyD t rest (thr.set t th') := by
  obtain ⟨hi, _⟩ := getElem_of_getElem? ht
  refine ⟨⟨th', List.getElem?_set_self hi, hp⟩, ?_⟩
  intro v tv hv hg
  rw [List.getElem?_set_ne (Ne.symm hv)] at hg
  exact ho v tv hv hg

theorem OnlyD_set_other {thr : List Thread} {t u : Nat} {rest : List Nat} {th' : Thread}
    (h : OnlyD t rest thr) (hne : u ≠ t) (hp : ∀ r, th'.pc ≠ .dtor r) : OnlyD t rest (thr.set u th') := by
  obtain ⟨⟨th, h1, h2⟩, h3⟩ := h
  refine ⟨⟨th, by rw [List.getElem?_set_ne hne]; exact h1, h2⟩, ?_⟩
  intro v tv hv hg
  rcases Interleave.getElem?_set_cases hg with ⟨_, e⟩ | ⟨_, e⟩
  · exact e ▸ hp
  · exact h3 v tv hv e

theorem OnlyD_leave {thr : List Thread} {t : Nat} {th' : Thread} {rest : List Nat} (h : OnlyD t rest thr)
    (hp : ∀ r, th'.pc ≠ .dtor r) : NoD (thr.set t th') :=
  Interleave.forall_getElem?_set hp h.2

theorem settle_pc (th : Thread) : ∀ r, (settle th).pc ≠ .dtor r := by
  intro r
  unfold settle
  simp only []
  split <;> simp

theorem settle_held (th : Thread) : (settle th).held = th.held := rfl
theorem settle_prog (th : Thread) : (settle th).prog = th.prog := rfl

/-- In `dying` thread `t` has observed zero and called the destructors `done`, with `rest` still to come.
    In `live` the held references bound the count only from below (`hs`): `init` lets the environment hold
    references that belong to no thread of the machine. -/
inductive Shape (cfg : Cfg) (s : State) : Prop
  | live (hl : ∀ e ∈ s.trace, liveEv e) (hc : 1 ≤ s.cnt) (hs : (heldSum s.thr : Int) ≤ s.cnt) (hn : NoD s.thr)
  | dying (t : Nat) (pre : List Ev) (done rest : List Nat)
      (ht : s.trace = pre ++ Ev.release t 0 :: done.map (Ev.dtor t)) (hl : ∀ e ∈ pre, liveEv e)
      (hc : s.cnt = 0) (hs : heldSum s.thr = 0) (hd : done ++ rest = cfg.dtors) (hr : rest ≠ [])
      (ho : OnlyD t rest s.thr)
  | dead (t : Nat) (pre : List Ev)
      (ht : s.trace = pre ++ Ev.release t 0 :: (cfg.dtors.map (Ev.dtor t) ++ freeEv cfg t)) (hl : ∀ e ∈ pre, liveEv e)
      (hc : s.cnt = 0) (hs : heldSum s.thr = 0) (hn : NoD s.thr)

theorem live_append {tr : List Ev} {e : Ev} (h : ∀ x ∈ tr, liveEv x) (he : liveEv e) :
    ∀ x ∈ tr ++ [e], liveEv x :=
  List.forall_mem_append.2 ⟨h, List.forall_mem_singleton.2 he⟩

theorem shape_execOp {cfg : Cfg} {s : State} {t : Nat} {th : Thread} (op : Op) (rest : List Op)
    (h : Shape cfg s) (hth : s.thr[t]? = some th) (hh : 1 ≤ th.held) :
    Shape cfg (execOp cfg s t th op rest) := by
  have hge := heldSum_ge s.thr t th hth
  cases h with
  -- the thread holds a reference, so the object is alive
  | dying _ _ _ _ _ _ _ hs => omega
  | dead _ _ _ _ _ hs => omega
  | live hl hc hs hn =>
    cases op with
    | retain =>
      exact .live (live_append hl (Int.le_add_one hc)) (Int.le_add_one hc)
        (heldSum_set_succ _ hth rfl hs) (hn.set t (settle_pc _))
    | give u =>
      exact .live hl hc (heldSum_bump_le _ u (heldSum_set_pred _ hth hh rfl hs))
        ((hn.set t (settle_pc _)).bump u fun _ h => h)
    | release =>
      have hs' := fun th' he => heldSum_set_pred (c := s.cnt) th' hth hh he hs
      simp only [execOp]
      split
      · rename_i hz
        have h0 := fun th' he => Int.natCast_eq_zero.1
          (Int.le_antisymm (hz ▸ hs' th' he) (Int.natCast_nonneg _))
        unfold enterRelease
        split
        · rename_i hdt
          refine .dead t s.trace ?_ hl hz (h0 _ rfl) (hn.set t (settle_pc _))
          simp only [hz, hdt, List.map_nil, List.nil_append, List.append_assoc, List.singleton_append]
        · rename_i d ds hdt
          refine .dying t s.trace [] (d :: ds) ?_ hl hz (h0 _ rfl) hdt.symm (List.cons_ne_nil _ _)
            (OnlyD_set hth rfl fun u th _ => hn u th)
          simp only [hz, List.map_nil]
      · rename_i hz
        have h1 : 1 ≤ s.cnt - 1 := by omega
        exact .live (live_append hl h1) h1 (hs' _ rfl) (hn.set t (settle_pc _))

theorem shape_in_dtor {cfg : Cfg} {s : State} {t : Nat} {th : Thread} {r : List Nat} (h : Shape cfg s)
    (hth : s.thr[t]? = some th) (hpc : th.pc = .dtor r) :
    ∃ pre done, s.trace = pre ++ Ev.release t 0 :: done.map (Ev.dtor t) ∧ (∀ e ∈ pre, liveEv e) ∧
      s.cnt = 0 ∧ heldSum s.thr = 0 ∧ done ++ r = cfg.dtors ∧ OnlyD t r s.thr := by
  cases h with
  | live _ _ _ hn => exact absurd hpc (hn t th hth _)
  | dead _ _ _ _ _ _ hn => exact absurd hpc (hn t th hth _)
  | dying t' pre done rest ht hl hc hs hd hr ho =>
    have hte : t = t' := Classical.byContradiction fun hne => ho.2 t th hne hth _ hpc
    subst hte
    cases hpc.symm.trans (ho.pc hth)
    exact ⟨pre, done, ht, hl, hc, hs, hd, ho⟩

theorem shape_step (cfg : Cfg) (s : State) (t : Nat) (hv : (step cfg s t).viol = false)
    (h : Shape cfg s) : Shape cfg (step cfg s t) := by
  revert hv
  refine step_cases (P := fun s' => s'.viol = false → Shape cfg s') (fun _ => h) ?_ ?_ ?_ ?_
  · intro th hth hpc _
    have hsum : heldSum (s.thr.set t (settle th)) = heldSum s.thr := heldSum_set_same _ hth rfl
    cases h with
    | live hl hc hs hn => exact .live hl hc (hsum ▸ hs) (hn.set t (settle_pc th))
    | dying t' pre done rest ht hl hc hs hd hr ho =>
      have hne : t ≠ t' := by
        rintro rfl
        cases hpc.symm.trans (ho.pc hth)
      exact .dying t' pre done rest ht hl hc (hsum.trans hs) hd hr (OnlyD_set_other ho hne (settle_pc th))
    | dead t' pre ht hl hc hs hn => exact .dead t' pre ht hl hc (hsum.trans hs) (hn.set t (settle_pc th))
  · intro th o rest hth _ _ hv
    rw [execOp_viol, Bool.or_eq_false_iff, beq_eq_false_iff_ne] at hv
    exact shape_execOp o rest h hth (Nat.pos_of_ne_zero hv.2)
  · intro th d hth hpc _
    obtain ⟨pre, done, ht, hl, hc, hs, hd, ho⟩ := shape_in_dtor h hth hpc
    refine .dead t pre ?_ hl hc ((heldSum_set_same (settle th) hth rfl).trans hs) (OnlyD_leave ho (settle_pc th))
    simp only [ht, ← hd, List.map_append, List.map_cons, List.map_nil, List.append_assoc, List.cons_append,
      List.nil_append]
  · intro th d d' ds hth hpc _
    obtain ⟨pre, done, ht, hl, hc, hs, hd, ho⟩ := shape_in_dtor h hth hpc
    refine .dying t pre (done ++ [d]) (d' :: ds) ?_ hl hc
      ((heldSum_set_same { th with pc := .dtor (d' :: ds) } hth rfl).trans hs) (by rw [← hd]; simp) (List.cons_ne_nil _ _) (OnlyD_set hth rfl ho.2)
    simp only [ht, List.map_append, List.map_cons, List.map_nil, List.append_assoc, List.cons_append]

theorem shape_run (cfg : Cfg) (sched : List Nat) : ∀ s : State, Shape cfg s →
    (run cfg s sched).viol = false → Shape cfg (run cfg s sched) := by
  intro s h
  refine Interleave.foldl_inv (P := fun s => s.viol = false → Shape cfg s) (fun s t ih hv => ?_) sched fun _ => h
  refine shape_step cfg s t hv (ih (Bool.eq_false_iff.2 fun hs => ?_))
  exact absurd ((viol_step_mono cfg s t hs).symm.trans hv) (by decide)

theorem shape_init (cfg : Cfg) (c0 : Int) (spec : List (Nat × List Op)) (h1 : 1 ≤ c0)
    (h2 : (((spec.map (·.1)).sum : Nat) : Int) ≤ c0) : Shape cfg (init c0 spec) := by
  refine .live (by simp [init]) h1 (by simp only [init, heldSum, List.map_map]; exact h2) ?_
  intro u th hu r
  simp only [init, List.getElem?_map, Option.map_eq_some_iff] at hu
  obtain ⟨p, _, rfl⟩ := hu
  simp

theorem safeFrom_mono (p : List Op) : ∀ h, safeFrom h p = true → safeFrom (h + 1) p = true := by
  induction p with
  | nil => intro h _; rfl
  | cons op r ih =>
    intro h hs
    cases op <;> simp only [safeFrom, Bool.and_eq_true, decide_eq_true_eq] at hs ⊢
    · exact ⟨Nat.le_succ_of_le hs.1, ih _ hs.2⟩
    all_goals exact ⟨Nat.le_succ_of_le hs.1, Nat.sub_add_comm hs.1 ▸ ih _ hs.2⟩

abbrev AllSafe : List Thread → Prop := All fun th => safeFrom th.held th.prog = true

theorem safe_step (cfg : Cfg) (s : State) (t : Nat) (hv : s.viol = false) (h : AllSafe s.thr) :
    (step cfg s t).viol = false ∧ AllSafe (step cfg s t).thr := by
  refine step_cases (P := fun s' => s'.viol = false ∧ AllSafe s'.thr) ⟨hv, h⟩
    (fun th hth _ => ⟨hv, h.set t (h t th hth)⟩) ?_ (fun th _ hth _ => ⟨hv, h.set t (h t th hth)⟩)
    (fun th _ _ _ hth _ => ⟨hv, h.set t (h t th hth)⟩)
  intro th o rest hth _ hprog
  have hsafe : safeFrom th.held th.prog = true := h t th hth
  rw [hprog] at hsafe
  have hheld : 1 ≤ th.held := by cases o <;> simp [safeFrom] at hsafe <;> exact hsafe.1
  refine ⟨by rw [execOp_viol, hv, Bool.false_or, beq_eq_false_iff_ne]; omega, ?_⟩
  cases o <;> simp only [safeFrom, Bool.and_eq_true] at hsafe <;> simp only [execOp]
  · exact h.set t hsafe.2
  · split
    · unfold enterRelease; split <;> exact h.set t hsafe.2
    · exact h.set t hsafe.2
  · exact (h.set t hsafe.2).bump _ fun th => safeFrom_mono _ _

theorem safe_run (cfg : Cfg) (sched : List Nat) : ∀ s : State, s.viol = false → AllSafe s.thr →
    (run cfg s sched).viol = false :=
  fun _ hv h => (Interleave.foldl_inv (P := fun s => s.viol = false ∧ AllSafe s.thr)
    (fun s t hs => safe_step cfg s t hs.1 hs.2) sched ⟨hv, h⟩).1

theorem allSafe_of_locallySafe (thr : List Thread) (h : locallySafe thr = true) : AllSafe thr := by
  intro u th hu
  exact List.all_eq_true.1 h th (List.mem_of_getElem? hu)

end ParsecVerif.Object
