import ParsecVerif.Model.RemoteDep
import ParsecVerif.Proofs.UserTrigger
/-! C13: the child predicates are trees; closed forms of the loops of `parsec_remote_dep_activate` (a participant
    numbered `m` sends to its children numbered above `m`).  The model's `rankToBit`/`bitToRank` have the bodies of
    `UserTrigger.shifted`/`unshift`, so the lemmas of Proofs/UserTrigger apply to them by unfolding. -/
namespace ParsecVerif.RemoteDep

theorem eq_of_pairwise {α} {R : α → α → Prop} (hs : ∀ a b, R a b → R b a) {l : List α} (h : l.Pairwise R)
    {a b : α} (ha : a ∈ l) (hb : b ∈ l) (hn : ¬ R a b) : a = b :=
  List.Pairwise.forall_of_forall_of_flip (R := fun a b => ¬ R a b → a = b) (fun _ _ _ => rfl)
    (h.imp fun hr hn => absurd hr hn) (h.imp fun hr hn => absurd (hs _ _ hr) hn) ha hb hn

theorem eq_of_nodup_map {α β} {f : α → β} {l : List α} (h : (l.map f).Nodup) {a b : α} (ha : a ∈ l) (hb : b ∈ l)
    (e : f a = f b) : a = b :=
  eq_of_pairwise (fun _ _ => Ne.symm) (List.pairwise_map.1 h) ha hb fun hne => hne e

def TreeChild (child : Nat → Nat → Bool) (B : Nat) : Prop :=
  ∀ h, 1 ≤ h → h < B → ∃ q, q < h ∧ ∀ m, (m < h ∧ child m h = true) ↔ m = q

theorem star_tree (B : Nat) : TreeChild starChild B := by
  intro h h1 _
  refine ⟨0, by omega, fun m => ?_⟩
  simp only [starChild, beq_iff_eq]
  omega

theorem chain_tree (B : Nat) : TreeChild chainChild B := by
  intro h h1 _
  refine ⟨h - 1, by omega, fun m => ?_⟩
  simp only [chainChild, beq_iff_eq]
  omega

theorem clearTop_lt : ∀ k h, 1 ≤ h → h < 2 ^ k → clearTop k h < h
  | 0, h, h1, h2 => by simp at h2; omega
  | k+1, h, h1, h2 => by
    unfold clearTop
    split
    · have : 0 < 2 ^ k := Nat.two_pow_pos k
      omega
    · exact clearTop_lt k h h1 (by omega)

theorem binomial_tree : TreeChild binomialChild (2 ^ 32) := by
  intro h h1 hB
  have := clearTop_lt 32 h h1 hB
  refine ⟨clearTop 32 h, this, fun m => ?_⟩
  simp only [binomialChild, Bool.and_eq_true, bne_iff_ne, ne_eq, beq_iff_eq]
  constructor
  · rintro ⟨_, _, h3⟩; exact h3.symm
  · intro h3; subst h3; exact ⟨this, by omega, rfl⟩

theorem topo_tree (t : Topo) : TreeChild t.child (2 ^ 32) := by
  cases t
  · exact star_tree _
  · exact chain_tree _
  · exact binomial_tree

theorem bitToRank_rankToBit (n root r : Nat) (hr : root < n) (h : r < n) :
    bitToRank n root (rankToBit n root r) = r := UserTrigger.unshift_shifted n root r hr h

theorem mem_cands (n root : Nat) (S : List Nat) (hr : root < n) (hS : ∀ r ∈ S, r < n) (r : Nat) :
    r ∈ cands n root S ↔ r ∈ S := by
  unfold cands
  simp only [List.mem_map, List.mem_filter, List.mem_range, List.contains_iff_mem]
  constructor
  · rintro ⟨_, ⟨_, s, hs, rfl⟩, rfl⟩
    exact (bitToRank_rankToBit n root s hr (hS s hs)).symm ▸ hs
  · intro h
    exact ⟨_, ⟨UserTrigger.shifted_lt n root r hr, r, h, rfl⟩, bitToRank_rankToBit n root r hr (hS r h)⟩

theorem cands_nodup (n root : Nat) (S : List Nat) (hr : root < n) : (cands n root S).Nodup :=
  UserTrigger.nodup_map_of_left_inverse (rankToBit n root)
    (fun v hv => UserTrigger.shifted_unshift n root v hr (List.mem_range.1 (List.mem_filter.1 hv).1))
    (List.Pairwise.filter _ List.nodup_range)

theorem stepRank_of_mem {child me} {s : Loop} {r : Nat} (h : r ∈ s.fw) : stepRank child me s r = s := by
  unfold stepRank; simp [h]

theorem stepRank_none {child me fw i snd} {r : Nat} (h : r ∉ fw) :
    stepRank child me ⟨fw, i, none, snd⟩ r = ⟨r :: fw, i + 1, if r = me then some (i + 1) else none, snd⟩ := by
  simp [stepRank, h]

theorem stepRank_some {child me fw i m snd} {r : Nat} (h : r ∉ fw) :
    stepRank child me ⟨fw, i, some m, snd⟩ r =
      ⟨r :: fw, i + 1, some m, if child m (i + 1) then snd ++ [r] else snd⟩ := by
  simp [stepRank, h]

theorem layer_cons_of_mem {fw : List Nat} {r : Nat} (cs : List Nat) (h : r ∈ fw) :
    layer fw (r :: cs) = layer fw cs := by
  unfold layer; simp [h]

theorem layer_cons_of_not_mem {fw : List Nat} {r : Nat} (cs : List Nat) (h : r ∉ fw) :
    layer fw (r :: cs) = r :: layer fw cs := by
  unfold layer; simp [h]

theorem layer_cons_fw {fw : List Nat} {r : Nat} (cs : List Nat) (h : r ∉ cs) :
    layer (r :: fw) cs = layer fw cs := by
  unfold layer
  apply List.filter_congr
  intro x hx
  have : x ≠ r := fun e => h (e ▸ hx)
  simp [this]

/-- what the participant numbered `m` sends inside the numbering `Z` (pairs of a rank and its number) -/
def sendsOf (child : Nat → Nat → Bool) (m : Nat) (Z : List (Nat × Nat)) : List Nat :=
  (Z.filter fun xh => decide (m < xh.2) && child m xh.2).map Prod.fst

theorem sendsOf_cons_of_lt (child) {m k : Nat} (h : m < k) (r : Nat) (Z : List (Nat × Nat)) :
    sendsOf child m ((r, k) :: Z) = (if child m k then [r] else []) ++ sendsOf child m Z := by
  unfold sendsOf
  rw [List.filter_cons, decide_eq_true h, Bool.true_and]
  split <;> rfl

theorem sendsOf_cons_of_le (child) {m k : Nat} (h : k ≤ m) (r : Nat) (Z : List (Nat × Nat)) :
    sendsOf child m ((r, k) :: Z) = sendsOf child m Z := by
  unfold sendsOf
  rw [List.filter_cons, decide_eq_false (Nat.not_lt.2 h), Bool.false_and, if_neg Bool.false_ne_true]

theorem mem_sendsOf {child : Nat → Nat → Bool} {m x : Nat} {Z : List (Nat × Nat)} :
    x ∈ sendsOf child m Z ↔ ∃ h, (x, h) ∈ Z ∧ m < h ∧ child m h = true := by
  simp [sendsOf]

theorem sendsOf_sublist (child) (m k : Nat) (L : List Nat) : (sendsOf child m (L.zipIdx k)).Sublist L := by
  unfold sendsOf
  simpa only [List.zipIdx_map_fst] using (List.filter_sublist (l := L.zipIdx k)).map Prod.fst

/-- A bitmap lists no rank twice (`hnd`), so the test against the growing mask is a test against the mask at entry.
    Until the participant has met itself its number is the one it is going to get (`idxOf`: past the end if it is not
    there); `my_idx ≤ idx` (`hmy`) is the loop invariant by which "numbered above me" is "met after me". -/
theorem foldl_stepRank (child me) (cs : List Nat) (hnd : cs.Nodup) (fw : List Nat) (i : Nat) (my : Option Nat)
    (snd : List Nat) (hmy : ∀ m ∈ my, m ≤ i) :
    (cs.foldl (stepRank child me) ⟨fw, i, my, snd⟩).fw = (layer fw cs).reverse ++ fw ∧
    (cs.foldl (stepRank child me) ⟨fw, i, my, snd⟩).sends =
      snd ++ sendsOf child (my.getD (i + 1 + (layer fw cs).idxOf me)) ((layer fw cs).zipIdx (i + 1)) := by
  induction cs generalizing fw i my snd with
  | nil => simp [layer, sendsOf]
  | cons r cs ih =>
    have ⟨hr, hnd'⟩ := List.nodup_cons.1 hnd
    rw [List.foldl_cons]
    by_cases h : r ∈ fw
    · rw [stepRank_of_mem h, layer_cons_of_mem cs h]; exact ih hnd' fw i my snd hmy
    · rw [layer_cons_of_not_mem cs h, ← layer_cons_fw cs hr, List.zipIdx_cons, List.reverse_cons, List.append_assoc,
        List.singleton_append]
      cases my with
      | none =>
        -- `me` is not numbered below `i + 1`; it is numbered `i + 1` iff it is `r`
        rw [stepRank_none h, Option.getD_none, sendsOf_cons_of_le child (Nat.le_add_right _ _), List.idxOf_cons]
        by_cases hrm : r = me
        · rw [if_pos hrm, hrm, beq_self_eq_true, cond_true]
          exact ih hnd' _ _ _ _ fun m hm => Nat.le_of_eq (Option.some.inj hm).symm
        · rw [if_neg hrm, beq_false_of_ne hrm, cond_false, ← Nat.add_assoc, Nat.add_right_comm _ _ 1]
          exact ih hnd' _ _ none _ fun _ hm => nomatch hm
      | some m =>
        have hm : m ≤ i := hmy m rfl
        rw [stepRank_some h, Option.getD_some, sendsOf_cons_of_lt child (Nat.lt_add_one_of_le hm)]
        have := ih hnd' (r :: fw) (i + 1) (some m) (if child m (i + 1) then snd ++ [r] else snd)
          fun m' hm' => Option.some.inj hm' ▸ Nat.le_succ_of_le hm
        refine ⟨this.1, this.2.trans ?_⟩
        split <;> simp

/-- the root is number 0; a participant that is not in the layer gets the number past the end and sends nothing -/
def sendsL (child : Nat → Nat → Bool) (root me : Nat) (L : List Nat) : List Nat :=
  sendsOf child ((root :: L).idxOf me) (L.zipIdx 1)

theorem activateOutput_eq (child) (n root me : Nat) (fw S : List Nat) (hr : root < n) :
    (activateOutput child n root me fw S).fw = (layer fw (cands n root S)).reverse ++ fw ∧
    (activateOutput child n root me fw S).sends = sendsL child root me (layer fw (cands n root S)) := by
  have := foldl_stepRank child me _ (cands_nodup n root S hr) fw 0 (if me = root then some 0 else none) []
    (by split <;> simp)
  refine ⟨this.1, this.2.trans ?_⟩
  unfold sendsL
  rw [List.idxOf_cons]
  by_cases h : me = root
  · simp [h]
  · simp [h, beq_false_of_ne (Ne.symm h), Nat.add_comm 1]

/-- `layersFrom` reverses each layer onto the forwarded list only so that its list is the loop's `fw` (most recent
    first) and the two sides recurse on the same argument; nothing but membership in it is ever tested. -/
theorem activateFrom_eq (child) (n root me : Nat) (hr : root < n) (Ss : List (List Nat)) (fw : List Nat) :
    activateFrom child n root me fw Ss = (layersFrom n root fw Ss).flatMap (sendsL child root me) := by
  induction Ss generalizing fw with
  | nil => rfl
  | cons S Ss ih =>
    unfold activateFrom layersFrom
    rw [(activateOutput_eq child n root me fw S hr).1, (activateOutput_eq child n root me fw S hr).2, ih,
      List.flatMap_cons]

theorem zipIdx_snd_inj {L : List Nat} {k x y h : Nat} (h1 : (x, h) ∈ L.zipIdx k) (h2 : (y, h) ∈ L.zipIdx k) :
    x = y := by
  rw [List.mk_mem_zipIdx_iff_le_and_getElem?_sub] at h1 h2
  exact Option.some.inj (h1.2.symm.trans h2.2)

theorem zipIdx_fst_inj {L : List Nat} (hnd : L.Nodup) {k x h h' : Nat} (h1 : (x, h) ∈ L.zipIdx k)
    (h2 : (x, h') ∈ L.zipIdx k) : h = h' :=
  congrArg Prod.snd (eq_of_nodup_map (f := Prod.fst) (by rwa [List.zipIdx_map_fst]) h1 h2 rfl)

end ParsecVerif.RemoteDep
