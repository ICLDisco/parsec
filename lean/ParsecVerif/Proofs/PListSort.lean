import ParsecVerif.Model.PList
/-!
  The bottom-up merge sort of `parsec_list_nolock_sort`: its merge is core's `List.merge` with the runs exchanged,
  and after the pass with run length `n` every aligned block of `2 * n` items is sorted.
-/
namespace ParsecVerif.PList

/-- the order `parsec_list_sort` produces -/
def SortedAsc (l : List Item) : Prop := l.Pairwise (fun a b => a.prio ≤ b.prio)

theorem mergeQ_eq_merge (p q : List Item) : mergeQ p q = List.merge q p (fun b a => decide (b.prio ≤ a.prio)) := by
  fun_induction mergeQ p q with
  | case1 q => exact (List.merge_right q).symm
  | case2 a p => exact (List.nil_merge _).symm
  | case3 a p b q h ih => rw [List.cons_merge_cons, if_neg (by simpa using h), ih]
  | case4 a p b q h ih => rw [List.cons_merge_cons, if_pos (by simpa using h), ih]

theorem mergeQ_perm (p q : List Item) : (mergeQ p q).Perm (p ++ q) :=
  mergeQ_eq_merge p q ▸ (List.merge_perm_append _).trans List.perm_append_comm

theorem mergeQ_sorted (p q : List Item) (hp : SortedAsc p) (hq : SortedAsc q) : SortedAsc (mergeQ p q) := by
  have le_iff : ∀ {a b : Item}, decide (a.prio ≤ b.prio) = true ↔ a.prio ≤ b.prio := decide_eq_true_iff
  rw [mergeQ_eq_merge]
  refine (List.pairwise_merge (fun a b c h1 h2 => ?_) (fun a b => ?_) q p (hq.imp le_iff.2) (hp.imp le_iff.2)).imp le_iff.1
  · exact le_iff.2 (Int.le_trans (le_iff.1 h1) (le_iff.1 h2))
  · simpa using Int.le_total a.prio b.prio

theorem pass_perm (n : Nat) (l : List Item) : (pass n l).Perm l := by
  fun_induction pass n l with
  | case1 l h => exact .refl _
  | case2 l h ih =>
    refine ((mergeQ_perm _ _).append ih).trans (.of_eq ?_)
    rw [List.append_assoc, Nat.two_mul, ← List.drop_drop, List.take_append_drop, List.take_append_drop]

def ChunkSorted (n : Nat) (l : List Item) : Prop := ∀ i, SortedAsc ((l.drop (i * n)).take n)

theorem chunkSorted_one (l : List Item) : ChunkSorted 1 l := by
  intro i
  cases l.drop (i * 1) with
  | nil => exact .nil
  | cons a t => exact List.pairwise_singleton _ a

theorem SortedAsc.chunkSorted {l : List Item} (h : SortedAsc l) (n : Nat) : ChunkSorted n l :=
  fun _ => h.sublist ((List.take_sublist _ _).trans (List.drop_sublist _ _))

theorem chunkSorted_drop {n : Nat} {l : List Item} (k : Nat) (h : ChunkSorted n l) : ChunkSorted n (l.drop (k * n)) := by
  intro i
  rw [List.drop_drop, ← Nat.add_mul]
  exact h (k + i)

theorem chunkSorted_append {m : Nat} {M R : List Item} (hM : SortedAsc M) (hl : M.length = m)
    (hR : ChunkSorted m R) : ChunkSorted m (M ++ R)
  | 0 => by rw [Nat.zero_mul, List.drop_zero, List.take_left' hl]; exact hM
  | j + 1 => by
    rw [show (j + 1) * m = M.length + j * m by rw [Nat.add_mul, hl]; omega, ← List.drop_drop, List.drop_left]
    exact hR j

theorem pass_chunk (n : Nat) (hn : 1 ≤ n) (l : List Item) (h : ChunkSorted n l) :
    ChunkSorted (2 * n) (pass n l) := by
  fun_induction pass n l with
  | case1 l hc =>
    obtain rfl : l = [] := hc.resolve_left (by omega)
    exact SortedAsc.chunkSorted .nil _
  | case2 l hc ih =>
    have hM := mergeQ_sorted _ _ (by simpa using h 0) (by simpa using h 1)
    by_cases hl : 2 * n ≤ l.length
    · refine chunkSorted_append hM ?_ (ih (chunkSorted_drop 2 h))
      simp only [length_mergeQ, List.length_take, List.length_drop]
      omega
    · rw [show l.drop (2 * n) = [] from List.drop_eq_nil_of_le (by omega), pass, dif_pos (.inr rfl), List.append_nil]
      exact hM.chunkSorted _

theorem msortLoop_sorted (n : Nat) (hn : 1 ≤ n) (l : List Item) (h : ChunkSorted n l) :
    SortedAsc (msortLoop n l) := by
  fun_induction msortLoop n l with
  | case1 n l hc =>
    have := pass_chunk n hn l h 0
    rwa [Nat.zero_mul, List.drop_zero, List.take_of_length_le (by rw [length_pass]; omega)] at this
  | case2 n l hc ih => exact ih (by omega) (pass_chunk n hn l h)

theorem msortLoop_perm (n : Nat) (l : List Item) : (msortLoop n l).Perm l := by
  fun_induction msortLoop n l with
  | case1 n l hc => exact pass_perm n l
  | case2 n l hc ih => exact ih.trans (pass_perm n l)

end ParsecVerif.PList
