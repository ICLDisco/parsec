import ParsecVerif.Model.Ptg
import ParsecVerif.Model.Dataflow
/-!
  PTG programs on the abstract runtime: the task graph of a program (`graphOf`), and the DATA semantics of the
  generated code — which data copy every flow of every task instance holds, what a body reads and writes, the
  write-back of `-> ddesc(e)` outputs — as a heap of cells on which the body of each node acts.

  Source read (parsec/interfaces/ptg/ptg-compiler/jdf2c.c and the C it generates, see docs/notes/C02.md):
    data_lookup_of_<T>   : per flow, the FIRST input dependency whose guard holds decides the copy:
                           a predecessor's flow -> the very copy that flow holds (`entry->data[flow]`, no private copy:
                           RW bodies modify it in place), `ddesc(e)` -> the collection's own copy of tile e,
                           NEW -> a fresh arena copy, NULL / nothing active -> no copy;
    hook_of_<T>          : `data_out = data_in`; the body (test-owned, harness/ptg_rt.c) reads every READ/RW flow,
                           then stores H(class, flow, locals, inputs) into every RW/WRITE flow;
    complete_hook_of_<T> : for every active `-> ddesc(e)`: if the flow's copy is not tile e's own copy its content is
                           copied into tile e (`parsec_remote_dep_memcpy`).

  The machine of `Model/Dataflow.lean` decides WHEN bodies run; this file decides WHAT a run computes: the bodies of
  the nodes applied in the order of their `end_` events (`heapOfLog`).  `seqRun` is the same fold in enumeration order.
  Single process (all instances local); remote edges are C05.  Mathlib-free.
-/
namespace ParsecVerif.PtgRt
open ParsecVerif.Ptg ParsecVerif

structure Cfg where
  tiles : Nat := 16            -- number of tiles of the test collection (harness/ptg_rt.c: element k lives in tile k mod tiles)
  startupIter : Nat := 64      -- PARSEC_MCA task_startup_iter
  startupChunk : Nat := 256    -- PARSEC_MCA task_startup_chunk
  deriving Repr, Inhabited

/-! ## The task graph -/

def ixOf (insts : List Instance) (t : Instance) : Option Nat := insts.idxOf? t

def edgeIx (insts : List Instance) (e : Edge) : Option (Nat × Nat) :=
  match ixOf insts e.src, ixOf insts e.dst with
  | some i, some j => some (i, j)
  | _, _ => none

/-- nodes = the enumerated instances of all classes (position in `allInstances`), one edge per active
    task-to-task dependency produced by the successor iterators -/
def graphOf (p : Program) (_cfg : Cfg) : Dataflow.Graph :=
  ⟨(allInstances p).length, (allOutEdges p).filterMap (edgeIx (allInstances p))⟩

def nodeOf (p : Program) (t : Instance) : Option Nat := ixOf (allInstances p) t

/-! ## Cells, heaps, node actions -/

inductive Cell
  | tile (k : Nat)              -- the collection's own copy of tile k
  | fresh (node flow : Nat)     -- the arena copy allocated for a NEW input of flow `flow` of node `node`
  | obs (node flow : Nat)       -- ghost: the value the body of `node` saw in flow `flow`
  | out (node flow : Nat)       -- ghost: the content of the copy held by flow `flow` when the body of `node` ended
  deriving DecidableEq, Repr, Inhabited

abbrev Heap := Cell → Nat

def Heap.set (h : Heap) (c : Cell) (v : Nat) : Heap := fun x => if x = c then v else h x

def applyWrites (ws : List (Cell × Nat)) (h : Heap) : Heap := ws.foldl (fun h w => h.set w.1 w.2) h

/-- the action of one node: it reads the cells `reads`, then performs the writes `writes (values read)`;
    every cell it may write is in `targets` (`NodeD.TargetsOK`) -/
structure NodeD where
  reads : List Cell
  targets : List Cell
  writes : List Nat → List (Cell × Nat)

def NodeD.exec (d : NodeD) (h : Heap) : Heap := applyWrites (d.writes (d.reads.map h)) h

def NodeD.TargetsOK (d : NodeD) : Prop := ∀ vs x, x ∈ (d.writes vs).map (·.1) → x ∈ d.targets

/-- two nodes conflict when one may write a cell the other reads or writes -/
def NodeD.conflict (a b : NodeD) : Bool :=
  a.targets.any (fun c => b.reads.contains c || b.targets.contains c) ||
  b.targets.any (fun c => a.reads.contains c || a.targets.contains c)

def runOrder (ds : List NodeD) (order : List Nat) (h : Heap) : Heap :=
  order.foldl (fun h i => match ds[i]? with | some d => d.exec h | none => h) h

/-! ## Static description of the flows of a task instance -/

structure FlowD where
  copy : Option Cell      -- the copy the flow holds (none: CTL flow, NULL, no active input)
  reads : Bool            -- READ or RW access
  writes : Bool           -- RW or WRITE access
  isNew : Bool            -- the copy was allocated for this task (the test body zeroes it before use)
  wbs : List Nat          -- tiles the flow's copy is copied into when the task completes
  deriving Repr, Inhabited

def firstActive (g a : List Int) (f : Flow) : Option Target := (f.ins.filterMap (activeTarget g a)).head?

/-- the instance named by a task reference of an INPUT dependency (first one if the arguments are ranges) -/
def srcInstance (p : Program) (a : List Int) (sc : Nat) (args : List Arg) : Option Instance :=
  match p.classes[sc]? with
  | none => none
  | some scl =>
    ((argTuples p.globals a args).filterMap fun tup =>
      (buildTarget p.globals false scl.locals scl.isParam tup []).map fun env => (⟨sc, env⟩ : Instance)).head?

def tileOf (cfg : Cfg) (k : Int) : Nat := (k % (cfg.tiles : Int)).toNat

def flowD (p : Program) (cfg : Cfg) (insts : List Instance) (tab : List (List FlowD)) (j : Nat) (a : List Int)
    (fi : Nat) (f : Flow) : FlowD :=
  if f.access == .ctl then ⟨none, false, false, false, []⟩ else
  let src : Option Cell × Bool :=
    match firstActive p.globals a f with
    | some (.task sc sf args) =>
        match (srcInstance p a sc args).bind (ixOf insts) with
        | some i => (((tab[i]?).bind (·[sf]?)).bind (·.copy), false)
        | none => (none, false)
    | some (.coll e) => (some (.tile (tileOf cfg (eval p.globals a e))), false)
    | some .new => (some (.fresh j fi), true)
    | _ => (none, false)
  let wbs : List Nat := f.outs.filterMap fun d =>
    match activeTarget p.globals a d with
    | some (.coll e) => if src.1 == some (.tile (tileOf cfg (eval p.globals a e))) then none else some (tileOf cfg (eval p.globals a e))
    | _ => none
  ⟨src.1, f.access == .read || f.access == .rw, f.access == .rw || f.access == .write, src.2,
   if src.1.isSome then wbs else []⟩

/-- flow descriptors of all nodes, in node order (a flow fed by a task holds the copy of that task's flow: the
    table is filled in enumeration order, producers come first in a well-formed program) -/
def nodeFlowsFrom (p : Program) (cfg : Cfg) (insts : List Instance) : List Instance → List (List FlowD) → List (List FlowD)
  | [], tab => tab
  | t :: ts, tab =>
    nodeFlowsFrom p cfg insts ts (tab ++ [match p.classes[t.cls]? with
      | some cl => (enumFrom 0 cl.flows).map fun x => flowD p cfg insts tab tab.length t.env x.1 x.2
      | none => []])

def nodeFlows (p : Program) (cfg : Cfg) : List (List FlowD) :=
  nodeFlowsFrom p cfg (allInstances p) (allInstances p) []

/-! ## The action of a body -/

def getLoc (loc : List (Cell × Nat)) (c : Cell) : Nat := ((loc.find? (fun w => w.1 == c)).map (·.2)).getD 0

/-- last write to `c` in `ws`, else `dflt` -/
def lastW (ws : List (Cell × Nat)) (c : Cell) (dflt : Nat) : Nat := ws.foldl (fun v w => if w.1 = c then w.2 else v) dflt

def piece (fl : List FlowD) (cellOf : Nat → FlowD → Option Cell) (val : Nat → FlowD → Cell → Nat) : List (Cell × Nat) :=
  (enumFrom 0 fl).filterMap fun x => (cellOf x.1 x.2).map fun c => (c, val x.1 x.2 c)

def cNew (_ : Nat) (f : FlowD) : Option Cell := if f.isNew then f.copy else none
def cObs (j : Nat) (fi : Nat) (f : FlowD) : Option Cell := if f.reads || f.writes then some (.obs j fi) else none
def cData (_ : Nat) (f : FlowD) : Option Cell := if f.writes then f.copy else none
def cOut (j : Nat) (fi : Nat) (f : FlowD) : Option Cell := f.copy.map fun _ => .out j fi
def wbPiece (fl : List FlowD) (val : Cell → Nat) : List (Cell × Nat) :=
  fl.flatMap fun f => match f.copy with
    | some c => f.wbs.map fun k => (Cell.tile k, val c)
    | none => []

/-- `H cls flow locals inputs`: the deterministic body function (one value per written flow) -/
abbrev BodyFn := Nat → Nat → List Int → List Nat → Nat

def nodeReads (fl : List FlowD) : List Cell := fl.filterMap (·.copy)

def nodeWrites (H : BodyFn) (j cls : Nat) (env : List Int) (fl : List FlowD) (vs : List Nat) : List (Cell × Nat) :=
  let loc := (nodeReads fl).zip vs
  -- the value the body finds in a flow: 0 in a copy it has just allocated, the content of the copy otherwise
  let val0 (f : FlowD) : Nat := match f.copy with | some c => if f.isNew then 0 else getLoc loc c | none => 0
  let seen (f : FlowD) : Nat := if f.reads then val0 f else 0
  let ins : List Nat := (fl.filter fun f => f.reads || f.writes).map seen
  let w1 := piece fl cNew (fun _ _ _ => 0)
  let w2 := piece fl (cObs j) (fun _ f _ => seen f)
  let w3 := piece fl cData (fun fi _ _ => H cls fi env ins)
  let after (c : Cell) : Nat := lastW (w1 ++ w3) c (getLoc loc c)
  let w4 := piece fl (cOut j) (fun _ f _ => match f.copy with | some c => after c | none => 0)
  w1 ++ w2 ++ w3 ++ w4 ++ wbPiece fl after

def nodeTargets (j : Nat) (fl : List FlowD) : List Cell :=
  (enumFrom 0 fl).filterMap (fun x => cNew x.1 x.2) ++ (enumFrom 0 fl).filterMap (fun x => cObs j x.1 x.2) ++
  (enumFrom 0 fl).filterMap (fun x => cData x.1 x.2) ++ (enumFrom 0 fl).filterMap (fun x => cOut j x.1 x.2) ++
  (fl.flatMap fun f => match f.copy with | some _ => f.wbs.map Cell.tile | none => [])

def nodeD (H : BodyFn) (j : Nat) (t : Instance) (fl : List FlowD) : NodeD :=
  { reads := nodeReads fl, targets := nodeTargets j fl, writes := nodeWrites H j t.cls t.env fl }

def nodeDs (p : Program) (cfg : Cfg) (H : BodyFn) : List NodeD :=
  (enumFrom 0 ((allInstances p).zip (nodeFlows p cfg))).map fun x => nodeD H x.1 x.2.1 x.2.2

/-- initial contents: tile t of the test collection holds 1000 + t (harness/ptg_rt.c) -/
def initHeap : Heap := fun c => match c with | .tile k => 1000 + k | _ => 0

/-! ### list-based heaps for the driver
  A `Heap` is a function (convenient for the proofs: extensionality); compiled, a chain of such closures recomputes the
  writes of every earlier node at every lookup.  The driver therefore runs the same node actions on an association list
  (newest write first); `get_runOrderL` (Proofs/PtgData.lean) proves that this computes the same heap. -/

abbrev LHeap := List (Cell × Nat)

def LHeap.get (l : LHeap) (c : Cell) : Nat :=
  match l.find? (fun w => w.1 == c) with
  | some w => w.2
  | none => initHeap c

def NodeD.execL (d : NodeD) (l : LHeap) : LHeap := (d.writes (d.reads.map l.get)).reverse ++ l

def runOrderL (ds : List NodeD) (order : List Nat) (l : LHeap) : LHeap :=
  order.foldl (fun l i => match ds[i]? with | some d => d.execL l | none => l) l

/-- reference sequential interpreter: the bodies in enumeration order (class index, then `internal_init` order) -/
def seqRun (p : Program) (cfg : Cfg) (H : BodyFn) : Heap :=
  runOrder (nodeDs p cfg H) (List.range (allInstances p).length) initHeap

/-- `(j, f, i, sf)`: data flow `f` of node `j` reads the copy passed by flow `sf` of node `i` (its first active input
    names that task) -/
def flowSources (p : Program) (cfg : Cfg) : List (Nat × Nat × Nat × Nat) :=
  let insts := allInstances p
  (enumFrom 0 (insts.zip (nodeFlows p cfg))).flatMap fun x =>
    match p.classes[x.2.1.cls]? with
    | none => []
    | some cl =>
      (enumFrom 0 (cl.flows.zip x.2.2)).filterMap fun y =>
        if y.2.2.reads && y.2.2.copy.isSome then
          match firstActive p.globals x.2.1.env y.2.1 with
          | some (.task sc sf args) => ((srcInstance p x.2.1.env sc args).bind (ixOf insts)).map fun i => (x.1, y.1, i, sf)
          | _ => none
        else none

/-- decidable validity condition "named values": in the sequential execution every input fed by a task holds what that
    task left in the named flow (false when a third task legitimately updates the copy in between) -/
def namedOKB (p : Program) (cfg : Cfg) (H : BodyFn) : Bool :=
  let h := runOrderL (nodeDs p cfg H) (List.range (allInstances p).length) []
  (flowSources p cfg).all fun q => h.get (.obs q.1 q.2.1) == h.get (.out q.2.2.1 q.2.2.2)

/-! ### deferred write-backs (what the communication thread may do)
  `complete_hook` does not copy into the collection itself: it queues a DEP_MEMCPY command; the communication thread
  performs the copy later (reading the source copy THEN).  `deferredRun` = one such behaviour: all bodies of `order` first,
  then all write-backs.  For programs satisfying `asyncSafeB` it cannot be told from the synchronous model; without it the
  sequential-execution statement is false (Props/C02.lean: `C02_final_async_full_false`). -/

/-- the body of a node without its write-backs -/
def nodeBodyD (H : BodyFn) (j : Nat) (t : Instance) (fl : List FlowD) : NodeD :=
  nodeD H j t (fl.map fun f => { f with wbs := [] })

/-- the write-backs of a node executed on their own: tile e := the content the flow's copy has at that moment -/
def nodeWbD (fl : List FlowD) : NodeD :=
  { reads := nodeReads fl,
    targets := fl.flatMap fun f => match f.copy with | some _ => f.wbs.map Cell.tile | none => [],
    writes := fun vs => wbPiece fl (getLoc ((nodeReads fl).zip vs)) }

def deferredRun (p : Program) (cfg : Cfg) (H : BodyFn) (order : List Nat) : Heap :=
  let fls := nodeFlows p cfg
  let bodies := (enumFrom 0 ((allInstances p).zip fls)).map fun x => nodeBodyD H x.1 x.2.1 x.2.2
  runOrder (fls.map nodeWbD) order (runOrder bodies order initHeap)

/-- the nodes of a trace in the order of their completions -/
def endOrder (log : List Dataflow.Ev) : List Nat := log.filterMap fun e => match e with | .end_ i => some i | _ => none

/-- what a run of the machine computes: the bodies applied in completion order -/
def heapOfLog (p : Program) (cfg : Cfg) (H : BodyFn) (log : List Dataflow.Ev) : Heap :=
  runOrder (nodeDs p cfg H) (endOrder log) initHeap

/-! ## Happens-before and race freedom -/

inductive Path (g : Dataflow.Graph) : Nat → Nat → Prop
  | edge {a b : Nat} : (a, b) ∈ g.E → Path g a b
  | step {a z b : Nat} : Path g a z → (z, b) ∈ g.E → Path g a b

/-- any two conflicting bodies are ordered by a chain of dependencies -/
def RaceFree (g : Dataflow.Graph) (ds : List NodeD) : Prop :=
  ∀ i j di dj, ds[i]? = some di → ds[j]? = some dj → i ≠ j → di.conflict dj = true → Path g i j ∨ Path g j i

/-- ancestor table: row j = for every node a, "a reaches j"; filled in node order (edges go forward) -/
def ancRow (g : Dataflow.Graph) (tab : List (List Bool)) (j : Nat) : List Bool :=
  (List.range g.n).map fun a => (Dataflow.predsOf g j).any fun i => i == a || ((tab[i]?).bind (·[a]?)).getD false

def ancTab (g : Dataflow.Graph) : Nat → List (List Bool)
  | 0 => []
  | k + 1 => ancTab g k ++ [ancRow g (ancTab g k) k]

def reaches (tab : List (List Bool)) (a b : Nat) : Bool := ((tab[b]?).bind (·[a]?)).getD false

def raceFreeB (g : Dataflow.Graph) (ds : List NodeD) : Bool :=
  let tab := ancTab g g.n
  (enumFrom 0 ds).all fun x => (enumFrom 0 ds).all fun y =>
    x.1 == y.1 || !(x.2.conflict y.2) || reaches tab x.1 y.1 || reaches tab y.1 x.1

/-! ## Further decidable validity conditions evaluated by the driver on every generated program

  * `asyncSafeB`: the write-back `-> ddesc(e)` from a foreign copy is executed LATER by the communication thread
    (`parsec_remote_dep_memcpy` queues a DEP_MEMCPY command).  The machine applies it when the body ends; this is
    indistinguishable iff nobody touches the source copy or tile e afterwards: every other node that writes the source
    copy, or reads / writes tile e's own copy in a body, reaches the node that writes back.
  * `namedFreshB`: no node strictly between a producer and its consumer (enumeration order) writes the copy that is
    passed: then the consumer's input is the value the NAMED producer left (`seq_named`). -/

def wbSources (fl : List FlowD) : List (Cell × Nat) :=
  fl.flatMap fun f => match f.copy with | some c => f.wbs.map fun k => (c, k) | none => []

def bodyCells (fl : List FlowD) : List Cell := fl.filterMap (·.copy)
def bodyWrites (fl : List FlowD) : List Cell := fl.filterMap fun f => if f.writes || f.isNew then f.copy else none

def asyncSafeB (g : Dataflow.Graph) (fls : List (List FlowD)) : Bool :=
  let tab := ancTab g g.n
  (enumFrom 0 fls).all fun x => (wbSources x.2).all fun ck =>
    (enumFrom 0 fls).all fun y =>
      y.1 == x.1 || reaches tab y.1 x.1 ||
      (!(bodyWrites y.2).contains ck.1 && !(bodyCells y.2).contains (Cell.tile ck.2))

end ParsecVerif.PtgRt
