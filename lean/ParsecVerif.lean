-- generated by bin/gen-index; do not edit
import ParsecVerif.Base.Interleave
import ParsecVerif.Base.List
import ParsecVerif.Base.Proto
import ParsecVerif.Model.Arena
import ParsecVerif.Model.Argv
import ParsecVerif.Model.CmdLine
import ParsecVerif.Model.CommEngine
import ParsecVerif.Model.CommWindow
import ParsecVerif.Model.Compound
import ParsecVerif.Model.Context
import ParsecVerif.Model.DataOwnership
import ParsecVerif.Model.DataRepo
import ParsecVerif.Model.Dataflow
import ParsecVerif.Model.DepWord
import ParsecVerif.Model.Dist
import ParsecVerif.Model.DistRt
import ParsecVerif.Model.Dtd
import ParsecVerif.Model.FourCounter
import ParsecVerif.Model.Future
import ParsecVerif.Model.HashTable
import ParsecVerif.Model.HbBuffer
import ParsecVerif.Model.Info
import ParsecVerif.Model.JdfLimits
import ParsecVerif.Model.Lifo
import ParsecVerif.Model.MatrixOps
import ParsecVerif.Model.MatrixTypes
import ParsecVerif.Model.MaxHeap
import ParsecVerif.Model.McaParam
import ParsecVerif.Model.Object
import ParsecVerif.Model.PList
import ParsecVerif.Model.Profile
import ParsecVerif.Model.Ptg
import ParsecVerif.Model.PtgDist
import ParsecVerif.Model.PtgParse
import ParsecVerif.Model.PtgRt
import ParsecVerif.Model.PtgStartup
import ParsecVerif.Model.RbTree
import ParsecVerif.Model.Redistribute
import ParsecVerif.Model.RemoteDep
import ParsecVerif.Model.Reshape
import ParsecVerif.Model.RwLock
import ParsecVerif.Model.Sched.All
import ParsecVerif.Model.Sched.Basic
import ParsecVerif.Model.Sched.Hbb
import ParsecVerif.Model.Sched.LlpConc
import ParsecVerif.Model.Sched.Ltq
import ParsecVerif.Model.Sched.Module
import ParsecVerif.Model.Sched.Prio
import ParsecVerif.Model.Sched.Proto
import ParsecVerif.Model.Sched.Simple
import ParsecVerif.Model.Sched.Vp
import ParsecVerif.Model.TermdetLocal
import ParsecVerif.Model.TpRegistry
import ParsecVerif.Model.UserTrigger
import ParsecVerif.Model.VpMap
import ParsecVerif.Model.Zone
import ParsecVerif.Proofs.Arena
import ParsecVerif.Proofs.ArenaLayout
import ParsecVerif.Proofs.ArenaPool
import ParsecVerif.Proofs.ArenaStep
import ParsecVerif.Proofs.Argv
import ParsecVerif.Proofs.CmdLine
import ParsecVerif.Proofs.CommDyn
import ParsecVerif.Proofs.CommEngine
import ParsecVerif.Proofs.CommList
import ParsecVerif.Proofs.CommPool
import ParsecVerif.Proofs.CommTags
import ParsecVerif.Proofs.CommWindow
import ParsecVerif.Proofs.ComposeArray
import ParsecVerif.Proofs.CompoundInv
import ParsecVerif.Proofs.CompoundRun
import ParsecVerif.Proofs.CompoundStep
import ParsecVerif.Proofs.ContextInv
import ParsecVerif.Proofs.ContextInvStep
import ParsecVerif.Proofs.ContextStamps
import ParsecVerif.Proofs.DataOwnership
import ParsecVerif.Proofs.DataRepo
import ParsecVerif.Proofs.Dataflow
import ParsecVerif.Proofs.DataflowLive
import ParsecVerif.Proofs.DepWord
import ParsecVerif.Proofs.DepWordMask
import ParsecVerif.Proofs.Dist
import ParsecVerif.Proofs.DistRt
import ParsecVerif.Proofs.DistRtInv
import ParsecVerif.Proofs.DistRtLive
import ParsecVerif.Proofs.DistRtTerm
import ParsecVerif.Proofs.Dtd
import ParsecVerif.Proofs.DtdInv
import ParsecVerif.Proofs.DtdSteps
import ParsecVerif.Proofs.FourCounterAfter
import ParsecVerif.Proofs.FourCounterBase
import ParsecVerif.Proofs.FourCounterHist
import ParsecVerif.Proofs.FourCounterInv
import ParsecVerif.Proofs.FourCounterStep
import ParsecVerif.Proofs.FourCounterStruct
import ParsecVerif.Proofs.FutureBase
import ParsecVerif.Proofs.FutureDC
import ParsecVerif.Proofs.FutureDCMutex
import ParsecVerif.Proofs.HashTable
import ParsecVerif.Proofs.HashTableForAll
import ParsecVerif.Proofs.HashTableFrame
import ParsecVerif.Proofs.HashTableInv
import ParsecVerif.Proofs.HashTableMain
import ParsecVerif.Proofs.HashTableStepChain
import ParsecVerif.Proofs.HashTableStepQuiet
import ParsecVerif.Proofs.HbBuffer
import ParsecVerif.Proofs.HbBufferBest
import ParsecVerif.Proofs.Info
import ParsecVerif.Proofs.JdfLimits
import ParsecVerif.Proofs.Lifo
import ParsecVerif.Proofs.LifoLin
import ParsecVerif.Proofs.LifoThread
import ParsecVerif.Proofs.MatrixOpsApply
import ParsecVerif.Proofs.MatrixOpsMap
import ParsecVerif.Proofs.MatrixOpsReduce
import ParsecVerif.Proofs.MatrixTypes
import ParsecVerif.Proofs.MaxHeap
import ParsecVerif.Proofs.MaxHeapArith
import ParsecVerif.Proofs.MaxHeapOps
import ParsecVerif.Proofs.MaxHeapPool
import ParsecVerif.Proofs.MaxHeapShape
import ParsecVerif.Proofs.McaParam
import ParsecVerif.Proofs.Object
import ParsecVerif.Proofs.PList
import ParsecVerif.Proofs.PListLock
import ParsecVerif.Proofs.PListSort
import ParsecVerif.Proofs.Profile
import ParsecVerif.Proofs.ProfileCheck
import ParsecVerif.Proofs.ProfileRead
import ParsecVerif.Proofs.ProfileWrite
import ParsecVerif.Proofs.Ptg
import ParsecVerif.Proofs.PtgData
import ParsecVerif.Proofs.PtgKey
import ParsecVerif.Proofs.PtgRt
import ParsecVerif.Proofs.PtgStartup
import ParsecVerif.Proofs.RbTree
import ParsecVerif.Proofs.RbTreeMirror
import ParsecVerif.Proofs.RbTreeOrder
import ParsecVerif.Proofs.Redistribute
import ParsecVerif.Proofs.RedistributeDim
import ParsecVerif.Proofs.RedistributeTop
import ParsecVerif.Proofs.RemoteDep
import ParsecVerif.Proofs.RemoteDepEdges
import ParsecVerif.Proofs.RemoteDepMachine
import ParsecVerif.Proofs.Reshape
import ParsecVerif.Proofs.RwLock
import ParsecVerif.Proofs.RwLock32
import ParsecVerif.Proofs.RwLockLive
import ParsecVerif.Proofs.RwLockSafe
import ParsecVerif.Proofs.Sched.Bag
import ParsecVerif.Proofs.Sched.Hbb
import ParsecVerif.Proofs.Sched.Lifo
import ParsecVerif.Proofs.Sched.LlpConc
import ParsecVerif.Proofs.Sched.Ltq
import ParsecVerif.Proofs.Sched.Prio
import ParsecVerif.Proofs.Sched.Simple
import ParsecVerif.Proofs.Sched.Vp
import ParsecVerif.Proofs.TermdetLocal
import ParsecVerif.Proofs.TermdetLocalInv
import ParsecVerif.Proofs.TermdetLocalStep
import ParsecVerif.Proofs.TpRegistry
import ParsecVerif.Proofs.UserTrigger
import ParsecVerif.Proofs.VpMap
import ParsecVerif.Proofs.VpMapRender
import ParsecVerif.Proofs.Zone
import ParsecVerif.Proofs.ZoneSim
import ParsecVerif.Proofs.ZoneTable
import ParsecVerif.Props.C01
import ParsecVerif.Props.C02
import ParsecVerif.Props.C03
import ParsecVerif.Props.C04
import ParsecVerif.Props.C05
import ParsecVerif.Props.C06
import ParsecVerif.Props.C07
import ParsecVerif.Props.C08
import ParsecVerif.Props.C09
import ParsecVerif.Props.C10
import ParsecVerif.Props.C11
import ParsecVerif.Props.C12
import ParsecVerif.Props.C13
import ParsecVerif.Props.C14
import ParsecVerif.Props.C15
import ParsecVerif.Props.C16
import ParsecVerif.Props.C17
import ParsecVerif.Props.C18
import ParsecVerif.Props.C19
import ParsecVerif.Props.C20
import ParsecVerif.Props.C21
import ParsecVerif.Props.C22
import ParsecVerif.Props.C23
import ParsecVerif.Props.C24
import ParsecVerif.Props.C25
import ParsecVerif.Props.C26
import ParsecVerif.Props.C27
import ParsecVerif.Props.C28
import ParsecVerif.Props.C29
import ParsecVerif.Props.C30
import ParsecVerif.Props.C31
import ParsecVerif.Props.C32
import ParsecVerif.Props.C33
import ParsecVerif.Props.C34
import ParsecVerif.Props.C35
import ParsecVerif.Props.C36
import ParsecVerif.Props.C37
import ParsecVerif.Props.C38
import ParsecVerif.Props.C39
import ParsecVerif.Props.C40
import ParsecVerif.Props.C41
import ParsecVerif.Props.C42
import ParsecVerif.Props.Runtime
